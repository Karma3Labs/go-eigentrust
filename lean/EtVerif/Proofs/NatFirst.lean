/-
  The least success: a predicate on ℕ that holds somewhere in `[1, B]` has a first `K ≥ 1`
  at which it holds, and that one is `≤ B`.  (Iteration counts start at 1: there is no check
  before the first iteration.)
-/
import Mathlib.Data.Nat.Find

namespace EtVerif

theorem first_of_exists (P : Nat → Prop) (B : Nat) (h : ∃ K, 1 ≤ K ∧ K ≤ B ∧ P K) :
    ∃ K, 1 ≤ K ∧ K ≤ B ∧ P K ∧ ∀ K', 1 ≤ K' → K' < K → ¬ P K' := by
  classical
  have hex : ∃ K, 1 ≤ K ∧ P K := by
    obtain ⟨K, h1, _, h3⟩ := h
    exact ⟨K, h1, h3⟩
  obtain ⟨K, h1, h2, h3⟩ := h
  refine ⟨Nat.find hex, (Nat.find_spec hex).1, ?_, (Nat.find_spec hex).2, ?_⟩
  · exact Nat.le_trans (Nat.find_min' hex ⟨h1, h3⟩) h2
  · intro K' hK1 hlt hP
    exact Nat.find_min hex hlt ⟨hK1, hP⟩

end EtVerif
