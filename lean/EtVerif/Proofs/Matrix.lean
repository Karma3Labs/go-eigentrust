/-
  Helper lemmas for the matrix part of Model/Sparse.lean (matrix.go): dense view `denRows`,
  well-formedness `WFM`, `HiddenClean`, resize, row-wise merge, transpose, NewCSRMatrix.
-/
import EtVerif.Proofs.Merge

namespace EtVerif
open Scalar

variable {K : Type} [Field K] [LinearOrder K]

set_option linter.unusedSectionVars false

/-- dense value of cell `(i, j)` of a row table (rows beyond the table are empty); the same
    function as `denM` (Vec.lean) and `Distrust.denRows`, equal to them by `rfl` -/
def denRows (rows : List (Row K)) (i j : Nat) : K := denE (rows.getD i []) j

/-- well-formed matrix: one row per major index, every row strictly sorted with all stored
    indices below the minor dimension -/
def WFM (M : CSM K) : Prop := M.rows.length = M.major ∧ ∀ r ∈ M.rows, WF M.minor r

/-- the invisible part `Entries[len:cap]` of the row table holds only nil rows -/
def HiddenClean (M : CSM K) : Prop := ∀ r ∈ M.hidden, r = []

instance (M : CSM K) : Decidable (WFM M) := inferInstanceAs (Decidable (_ ∧ _))

instance (M : CSM K) : Decidable (HiddenClean M) :=
  inferInstanceAs (Decidable (∀ r ∈ M.hidden, r = []))

namespace Mx
open Mg

theorem hiddenClean_of_hidden_nil {M : CSM K} (h : M.hidden = []) : HiddenClean M :=
  fun r hr => absurd (h ▸ hr) List.not_mem_nil

/-! ### resizing and merging: what needs no field -/

section scalar
variable {α : Type} [Scalar α]

@[simp] theorem setMajorDim_major (M : CSM α) (d : Nat) : (M.setMajorDim d).major = d := by
  unfold CSM.setMajorDim; simp only; split <;> rfl

@[simp] theorem setMajorDim_minor (M : CSM α) (d : Nat) : (M.setMajorDim d).minor = M.minor := by
  unfold CSM.setMajorDim; simp only; split <;> rfl

theorem setMajorDim_length (M : CSM α) (d : Nat) : (M.setMajorDim d).rows.length = d := by
  unfold CSM.setMajorDim; simp only
  split
  · rename_i h
    rw [List.length_append, List.length_replicate,
      Nat.add_sub_cancel' (Nat.le_of_lt (Nat.lt_of_le_of_lt (Nat.le_add_right _ _) h))]
  · rename_i h
    rw [List.length_take, List.length_append, Nat.min_eq_left (Nat.le_of_not_lt h)]

/-- what a shrink re-hides beyond the old length was hidden (hence nil) before; the rows it cuts
    off the visible part it clears -/
theorem setMajorDim_hidden_nil {M : CSM α} (hc : ∀ r ∈ M.hidden, r = []) (d : Nat) :
    ∀ r ∈ (M.setMajorDim d).hidden, r = [] := by
  unfold CSM.setMajorDim; simp only
  split
  · intro r hr; cases hr
  · intro r hr
    simp only [List.mem_map] at hr
    obtain ⟨⟨x, k⟩, hx, rfl⟩ := hr
    simp only
    split
    · rfl
    · rename_i hlt
      have hx' := List.mk_mem_zipIdx_iff_getElem?.mp hx
      rw [List.getElem?_drop, List.getElem?_append, if_neg hlt] at hx'
      exact hc x (List.mem_iff_getElem?.mpr ⟨_, hx'⟩)

theorem setMajorDim_rows_of_clean {M : CSM α} (hc : ∀ r ∈ M.hidden, r = []) (d : Nat) :
    (M.setMajorDim d).rows = (M.rows ++ List.replicate (d - M.rows.length) []).take d := by
  have hh : M.hidden = List.replicate M.hidden.length [] := List.eq_replicate_iff.mpr ⟨rfl, hc⟩
  unfold CSM.setMajorDim; simp only
  split
  · rw [List.take_of_length_le]
    simp only [List.length_append, List.length_replicate]; omega
  · rename_i hcap
    simp only []
    rw [hh, List.take_append, List.take_append, List.take_replicate, List.take_replicate]
    congr 2
    omega

@[simp] theorem setMinorDim_major (M : CSM α) (d : Nat) : (M.setMinorDim d).major = M.major := by
  unfold CSM.setMinorDim; split <;> rfl

@[simp] theorem setMinorDim_minor (M : CSM α) (d : Nat) : (M.setMinorDim d).minor = d := by
  unfold CSM.setMinorDim; split <;> rfl

@[simp] theorem setMinorDim_hidden (M : CSM α) (d : Nat) :
    (M.setMinorDim d).hidden = M.hidden := by
  unfold CSM.setMinorDim; split <;> rfl

theorem setMinorDim_length (M : CSM α) (d : Nat) :
    (M.setMinorDim d).rows.length = M.rows.length := by
  unfold CSM.setMinorDim; split
  · exact List.length_map _
  · rfl

theorem mergeSpan_nil_right (s : List (Entry α)) : mergeSpan s [] = s := by
  rw [mergeSpan]

theorem mergeRows_length (t1 t2 : List (Row α)) : (mergeRows t1 t2).length = t1.length := by
  fun_induction mergeRows t1 t2 <;> simp_all

theorem merge_fst (A B : CSM α) :
    (A.merge B).1 =
      { (A.setMajorDim (max A.major B.major)).setMinorDim (max A.minor B.minor) with
        rows := mergeRows
          ((A.setMajorDim (max A.major B.major)).setMinorDim (max A.minor B.minor)).rows B.rows } :=
  rfl

theorem merge_major (A B : CSM α) : (A.merge B).1.major = max A.major B.major := by
  rw [merge_fst]; simp

theorem merge_minor (A B : CSM α) : (A.merge B).1.minor = max A.minor B.minor := by
  rw [merge_fst]; simp

theorem merge_snd (A B : CSM α) : (A.merge B).2 = CSM.empty := rfl

theorem merge_hidden (A B : CSM α) :
    (A.merge B).1.hidden = (A.setMajorDim (max A.major B.major)).hidden := by
  simp only [CSM.merge, setMinorDim_hidden]

theorem merge_length (A B : CSM α) : (A.merge B).1.rows.length = max A.major B.major := by
  rw [merge_fst]
  simp only
  rw [mergeRows_length, setMinorDim_length, setMajorDim_length]

theorem insertByIdx_perm (e : Entry α) (l : List (Entry α)) : (insertByIdx e l).Perm (e :: l) := by
  induction l with
  | nil => exact List.Perm.refl _
  | cons x xs ih =>
    unfold insertByIdx
    split
    · exact List.Perm.refl _
    · exact (ih.cons x).trans (List.Perm.swap e x xs)

theorem sortByIdx_cons (e : Entry α) (l : List (Entry α)) :
    sortByIdx (e :: l) = insertByIdx e (sortByIdx l) := rfl

theorem sortByIdx_perm (l : List (Entry α)) : (sortByIdx l).Perm l := by
  induction l with
  | nil => exact List.Perm.refl _
  | cons e l ih =>
    rw [sortByIdx_cons]
    exact (insertByIdx_perm e _).trans (ih.cons e)

theorem scatterRow_length (t : List (Row α)) (i : Nat) (r : Row α) :
    (scatterRow t i r).length = t.length := by
  unfold scatterRow
  induction r generalizing t with
  | nil => rfl
  | cons e r ih => rw [List.foldl_cons, ih, List.length_modify]

/-- the scatter pass only appends to rows of the table, never adds a row -/
theorem transpose_length (M : CSM α) : M.transpose.rows.length = M.minor := by
  unfold CSM.transpose
  simp only
  have : ∀ (l : List (Row α × Nat)) (t : List (Row α)),
      (l.foldl (fun t (x : Row α × Nat) => scatterRow t x.2 x.1) t).length = t.length := by
    intro l
    induction l with
    | nil => intro t; rfl
    | cons x l ih => intro t; rw [List.foldl_cons, ih, scatterRow_length]
  rw [this, List.length_replicate]

end scalar

/-! ### row access -/

theorem getD_eq (l : List (Row K)) (i : Nat) : l.getD i [] = (l[i]?).getD [] :=
  List.getD_eq_getElem?_getD

theorem getD_of_ge {l : List (Row K)} {i : Nat} (h : l.length ≤ i) : l.getD i [] = [] := by
  rw [getD_eq, List.getElem?_eq_none_iff.mpr h]; rfl

theorem length_of_getElem? {β : Type} {l : List β} {n : Nat} {f : Nat → β}
    (h : ∀ i, l[i]? = if i < n then some (f i) else none) : l.length = n := by
  apply Nat.le_antisymm
  · exact List.getElem?_eq_none_iff.mp ((h n).trans (if_neg (Nat.lt_irrefl n)))
  · by_contra hlt
    have h1 := h l.length
    rw [if_pos (Nat.lt_of_not_le hlt), List.getElem?_eq_none_iff.mpr (Nat.le_refl _)] at h1
    cases h1

theorem lt_of_mem_getD {l : List (Row K)} {i : Nat} {x : Entry K} (h : x ∈ l.getD i []) :
    i < l.length := by
  by_contra hge
  rw [getD_of_ge (Nat.le_of_not_lt hge)] at h
  cases h

theorem rows_ext {l1 l2 : List (Row K)} (hl : l1.length = l2.length)
    (h : ∀ i, l1.getD i [] = l2.getD i []) : l1 = l2 := by
  refine List.ext_getElem hl fun i h1 h2 => ?_
  have := h i
  rwa [getD_eq, getD_eq, List.getElem?_eq_getElem h1, List.getElem?_eq_getElem h2] at this

theorem getD_mem_or (l : List (Row K)) (i : Nat) : l.getD i [] ∈ l ∨ l.getD i [] = [] := by
  rw [getD_eq]
  cases h : l[i]? with
  | none => right; rfl
  | some r => left; exact List.mem_iff_getElem?.mpr ⟨i, h⟩

theorem mem_iff_getD {l : List (Row K)} {r : Row K} :
    r ∈ l ↔ ∃ i, i < l.length ∧ l.getD i [] = r := by
  constructor
  · intro h
    obtain ⟨i, hi⟩ := List.mem_iff_getElem?.mp h
    refine ⟨i, ?_, by rw [getD_eq, hi]; rfl⟩
    by_contra hlt
    rw [List.getElem?_eq_none_iff.mpr (by omega)] at hi
    cases hi
  · rintro ⟨i, hi, rfl⟩
    rw [getD_eq, List.getElem?_eq_getElem hi]
    exact List.getElem_mem hi

theorem rows_wf_iff {d : Nat} {l : List (Row K)} :
    (∀ r ∈ l, WF d r) ↔ ∀ i, WF d (l.getD i []) := by
  constructor
  · intro h i
    rcases getD_mem_or l i with hm | he
    · exact h _ hm
    · rw [he]; exact wf_nil d
  · intro h r hr
    obtain ⟨i, _, rfl⟩ := mem_iff_getD.mp hr
    exact h i

theorem WFM.row {M : CSM K} (h : WFM M) (i : Nat) : WF M.minor (M.rows.getD i []) :=
  rows_wf_iff.mp h.2 i

theorem denRows_of_ge_major {M : CSM K} (h : WFM M) {i : Nat} (hi : M.major ≤ i) (j : Nat) :
    denRows M.rows i j = 0 := by
  unfold denRows
  rw [getD_of_ge (by rw [h.1]; exact hi)]; rfl

theorem denRows_of_ge_minor {M : CSM K} (h : WFM M) (i : Nat) {j : Nat} (hj : M.minor ≤ j) :
    denRows M.rows i j = 0 :=
  denE_of_ge_dim (WFM.row h i) hj

theorem getD_append_clean {l h : List (Row K)} (hc : ∀ r ∈ h, r = []) (i : Nat) :
    (l ++ h).getD i [] = l.getD i [] := by
  rw [getD_eq, getD_eq, List.getElem?_append]
  by_cases hi : i < l.length
  · rw [if_pos hi]
  · rw [if_neg hi, List.getElem?_eq_none_iff.mpr (by omega : l.length ≤ i)]
    cases hh : h[i - l.length]? with
    | none => rfl
    | some r => exact hc r (List.mem_iff_getElem?.mpr ⟨_, hh⟩)

theorem getD_take (l : List (Row K)) (d i : Nat) :
    (l.take d).getD i [] = if i < d then l.getD i [] else [] := by
  rw [getD_eq, getD_eq, List.getElem?_take]
  split <;> rfl

/-! ### SetMajorDim -/

theorem setMajorDim_hiddenClean {M : CSM K} (hc : HiddenClean M) (d : Nat) :
    HiddenClean (M.setMajorDim d) :=
  setMajorDim_hidden_nil hc d

theorem setMajorDim_getD {M : CSM K} (hc : HiddenClean M) (d i : Nat) :
    (M.setMajorDim d).rows.getD i [] = if i < d then M.rows.getD i [] else [] := by
  rw [setMajorDim_rows_of_clean hc, getD_take,
    getD_append_clean fun r hr => (List.mem_replicate.mp hr).2]

theorem setMajorDim_rows_wf {M : CSM K} (hc : HiddenClean M) {c : Nat}
    (h : ∀ r ∈ M.rows, WF c r) (d : Nat) : ∀ r ∈ (M.setMajorDim d).rows, WF c r := by
  rw [rows_wf_iff] at h ⊢
  intro i
  rw [setMajorDim_getD hc]
  split
  · exact h i
  · exact wf_nil c

theorem setMajorDim_wfm {M : CSM K} (hw : WFM M) (hc : HiddenClean M) (d : Nat) :
    WFM (M.setMajorDim d) :=
  ⟨by rw [setMajorDim_length, setMajorDim_major],
   by rw [setMajorDim_minor]; exact setMajorDim_rows_wf hc hw.2 d⟩

theorem setMajorDim_den {M : CSM K} (hc : HiddenClean M) (d i j : Nat) :
    denRows (M.setMajorDim d).rows i j = if i < d then denRows M.rows i j else 0 := by
  unfold denRows
  rw [setMajorDim_getD hc]
  split <;> rfl

theorem setMajorDim_getD_of_le {M : CSM K} (hw : M.rows.length = M.major) (hc : HiddenClean M)
    {d : Nat} (hd : M.major ≤ d) (i : Nat) :
    (M.setMajorDim d).rows.getD i [] = M.rows.getD i [] := by
  rw [setMajorDim_getD hc]
  split
  · rfl
  · exact (getD_of_ge (by omega)).symm

/-! ### SetMinorDim -/

theorem setMinorDim_hiddenClean {M : CSM K} (hc : HiddenClean M) (d : Nat) :
    HiddenClean (M.setMinorDim d) := by
  unfold HiddenClean; rw [setMinorDim_hidden]; exact hc

theorem setMinorDim_getD (M : CSM K) (d i : Nat) :
    (M.setMinorDim d).rows.getD i [] =
      if d < M.minor then (M.rows.getD i []).takeWhile (·.idx < d) else M.rows.getD i [] := by
  unfold CSM.setMinorDim
  split
  · simp only [getD_eq, List.getElem?_map]
    cases M.rows[i]? <;> rfl
  · rfl

theorem setMinorDim_getD_of_le {M : CSM K} (d : Nat) (hd : M.minor ≤ d) (i : Nat) :
    (M.setMinorDim d).rows.getD i [] = M.rows.getD i [] := by
  rw [setMinorDim_getD, if_neg (by omega)]

theorem setMinorDim_row_wf {M : CSM K} (h : ∀ r ∈ M.rows, WF M.minor r) (d i : Nat) :
    WF d ((M.setMinorDim d).rows.getD i []) := by
  have hi := rows_wf_iff.mp h i
  rw [setMinorDim_getD]
  split
  · exact wf_takeWhile hi.1
  · exact wf_mono hi (by omega)

theorem setMinorDim_wfm {M : CSM K} (hw : WFM M) (d : Nat) : WFM (M.setMinorDim d) :=
  ⟨by rw [setMinorDim_length, setMinorDim_major]; exact hw.1,
   by rw [setMinorDim_minor]; exact rows_wf_iff.mpr (setMinorDim_row_wf hw.2 d)⟩

theorem setMinorDim_den {M : CSM K} (h : ∀ r ∈ M.rows, WF M.minor r) (d i j : Nat) :
    denRows (M.setMinorDim d).rows i j = if j < d then denRows M.rows i j else 0 := by
  have hi := rows_wf_iff.mp h i
  unfold denRows
  rw [setMinorDim_getD]
  split
  · exact den_takeWhile hi.1 j
  · by_cases hj : j < d
    · rw [if_pos hj]
    · rw [if_neg hj]; exact denE_of_ge_dim hi (by omega)

/-! ### SetDim -/

theorem setDim_wfm {M : CSM K} (hw : WFM M) (hc : HiddenClean M) (r c : Nat) :
    WFM (M.setDim r c) :=
  setMinorDim_wfm (setMajorDim_wfm hw hc r) c

theorem setDim_hiddenClean {M : CSM K} (hc : HiddenClean M) (r c : Nat) :
    HiddenClean (M.setDim r c) :=
  setMinorDim_hiddenClean (setMajorDim_hiddenClean hc r) c

theorem setDim_den {M : CSM K} (hw : WFM M) (hc : HiddenClean M) (r c i j : Nat) :
    denRows (M.setDim r c).rows i j = if i < r ∧ j < c then denRows M.rows i j else 0 := by
  unfold CSM.setDim
  rw [setMinorDim_den (setMajorDim_wfm hw hc r).2, setMajorDim_den hc]
  by_cases hi : i < r <;> by_cases hj : j < c <;> simp [hi, hj]

theorem setDim_grow {M : CSM K} (hw : WFM M) (hc : HiddenClean M) {d : Nat}
    (h1 : M.major ≤ d) (h2 : M.minor ≤ d) :
    WFM (M.setDim d d) ∧ HiddenClean (M.setDim d d) ∧ (M.setDim d d).major = d ∧
      (M.setDim d d).minor = d ∧ ∀ i, (M.setDim d d).rows.getD i [] = M.rows.getD i [] := by
  refine ⟨setDim_wfm hw hc d d, setDim_hiddenClean hc d d,
    (setMinorDim_major _ d).trans (setMajorDim_major M d), setMinorDim_minor _ d, fun i => ?_⟩
  unfold CSM.setDim
  rw [setMinorDim_getD_of_le _ (by rw [setMajorDim_minor]; exact h2),
    setMajorDim_getD_of_le hw.1 hc h1]

/-- the `c.SetDim(n, n)` that the dimension alignment in oapi `StrictServerImpl.compute` performs
    only in its `case cDim < n` (`n` the dimension of `p`, then of `t0`) -/
def grow (c : CSM K) (n : Nat) : CSM K := if c.major < n then c.setDim n n else c

theorem grow_major {c : CSM K} {n : Nat} (h : c.major ≤ n) : (grow c n).major = n := by
  unfold grow
  split
  · exact (setMinorDim_major _ n).trans (setMajorDim_major c n)
  · rename_i hn; exact Nat.le_antisymm h (Nat.le_of_not_lt hn)

theorem grow_dims {c : CSM K} {n : Nat} (hsq : c.major = c.minor) (h : c.major ≤ n) :
    (grow c n).major = n ∧ (grow c n).minor = n := by
  refine ⟨grow_major h, ?_⟩
  unfold grow
  split
  · exact setMinorDim_minor _ n
  · rename_i hn; exact hsq ▸ Nat.le_antisymm h (Nat.le_of_not_lt hn)

theorem grow_rows {c : CSM K} {n : Nat} (hsq : c.major = c.minor) (h : c.major ≤ n)
    (hw : WFM c) (hc : HiddenClean c) :
    WFM (grow c n) ∧ HiddenClean (grow c n) ∧
      ∀ i, (grow c n).rows.getD i [] = c.rows.getD i [] := by
  unfold grow
  split
  · obtain ⟨a, b, _, _, e⟩ := setDim_grow hw hc h (hsq ▸ h)
    exact ⟨a, b, e⟩
  · exact ⟨hw, hc, fun _ => rfl⟩

theorem grow_spec {c : CSM K} {n : Nat} (hsq : c.major = c.minor) (h : c.major ≤ n) :
    (grow c n).major = n ∧ (grow c n).minor = n ∧
    (WFM c → HiddenClean c →
      WFM (grow c n) ∧ HiddenClean (grow c n) ∧ denRows (grow c n).rows = denRows c.rows) := by
  refine ⟨grow_major h, (grow_dims hsq h).2, fun hw hc => ?_⟩
  obtain ⟨a, b, e⟩ := grow_rows hsq h hw hc
  exact ⟨a, b, funext fun i => funext fun j => congrArg (denE · j) (e i)⟩

/-! ### mergeRows -/

theorem mergeRows_getD {t1 t2 : List (Row K)} (h : t2.length ≤ t1.length) (i : Nat) :
    (mergeRows t1 t2).getD i [] = mergeSpan (t1.getD i []) (t2.getD i []) := by
  fun_induction mergeRows t1 t2 generalizing i with
  | case1 r1 t1 r2 t2 ih =>
    cases i with
    | zero => rfl
    | succ i =>
      simp only [List.getD_cons_succ]
      exact ih (by simpa using h) i
  | case2 t1 => simp [mergeSpan_nil_right]
  | case3 t2 hne =>
    cases t2 with
    | nil => simp [mergeSpan_nil_right]
    | cons _ _ => simp at h

/-! ### Transpose -/

/-- contribution of source row `r` (row number `i`) to transposed row `j` -/
def piece (i : Nat) (r : Row K) (j : Nat) : Row K :=
  (r.filter (fun e => e.idx = j)).map (fun e => ⟨i, e.val⟩)

/-- transposed row `j` built from source rows numbered `k, k+1, …` -/
def col (rows : List (Row K)) (k j : Nat) : Row K :=
  (rows.zipIdx k).flatMap (fun p => piece p.2 p.1 j)

@[simp] theorem piece_nil (i j : Nat) : piece i ([] : Row K) j = [] := rfl

theorem piece_cons (i : Nat) (e : Entry K) (r : Row K) (j : Nat) :
    piece i (e :: r) j = (if e.idx = j then [⟨i, e.val⟩] else []) ++ piece i r j := by
  unfold piece
  by_cases h : e.idx = j <;> simp [h]

@[simp] theorem col_nil (k j : Nat) : col ([] : List (Row K)) k j = [] := rfl

theorem col_cons (r : Row K) (rs : List (Row K)) (k j : Nat) :
    col (r :: rs) k j = piece k r j ++ col rs (k + 1) j := by
  simp [col, List.zipIdx_cons, List.flatMap_cons]

theorem scatterRow_getElem? (t : List (Row K)) (i : Nat) (r : Row K) (j : Nat) :
    (scatterRow t i r)[j]? = (t[j]?).map (· ++ piece i r j) := by
  unfold scatterRow
  induction r generalizing t with
  | nil => simp
  | cons e r ih =>
    rw [List.foldl_cons, ih, List.getElem?_modify, piece_cons]
    cases t[j]? with
    | none => rfl
    | some a =>
      by_cases h : e.idx = j <;> simp [h]

/-- The scatter pass of `CSM.transpose`.  The model's step `fun t (r, i) => scatterRow t i r` is a
    `match` on the pair, which `rw` cannot see through; the step is therefore a variable `f` with
    its equation `hf`, discharged by `rfl` at the call. -/
theorem fold_scatter_getElem? (f : List (Row K) → Row K × Nat → List (Row K))
    (hf : ∀ t r i, f t (r, i) = scatterRow t i r) (rows : List (Row K)) (k : Nat)
    (t : List (Row K)) (j : Nat) :
    ((rows.zipIdx k).foldl f t)[j]? = (t[j]?).map (· ++ col rows k j) := by
  induction rows generalizing k t with
  | nil => simp
  | cons r rs ih =>
    rw [List.zipIdx_cons, List.foldl_cons, hf, ih, scatterRow_getElem?, col_cons]
    cases t[j]? <;> simp

theorem transpose_getElem? (M : CSM K) (j : Nat) :
    M.transpose.rows[j]? = if j < M.minor then some (col M.rows 0 j) else none := by
  unfold CSM.transpose
  simp only
  rw [fold_scatter_getElem? _ (fun _ _ _ => rfl), List.getElem?_replicate]
  split <;> simp

theorem transpose_getD (M : CSM K) (j : Nat) :
    M.transpose.rows.getD j [] = if j < M.minor then col M.rows 0 j else [] := by
  rw [getD_eq, transpose_getElem?]
  split <;> rfl

@[simp] theorem transpose_major (M : CSM K) : M.transpose.major = M.minor := rfl
@[simp] theorem transpose_minor (M : CSM K) : M.transpose.minor = M.major := rfl
@[simp] theorem transpose_hidden (M : CSM K) : M.transpose.hidden = [] := rfl

theorem mem_piece {i j : Nat} {r : Row K} {x : Entry K} :
    x ∈ piece i r j ↔ x.idx = i ∧ (⟨j, x.val⟩ : Entry K) ∈ r := by
  unfold piece
  simp only [List.mem_map, List.mem_filter, decide_eq_true_eq]
  constructor
  · rintro ⟨e, ⟨he, rfl⟩, rfl⟩
    exact ⟨rfl, he⟩
  · rintro ⟨rfl, h⟩
    exact ⟨⟨j, x.val⟩, ⟨h, rfl⟩, rfl⟩

theorem mem_col {rows : List (Row K)} {k j : Nat} {x : Entry K} :
    x ∈ col rows k j ↔ k ≤ x.idx ∧ (⟨j, x.val⟩ : Entry K) ∈ rows.getD (x.idx - k) [] := by
  rw [col, List.mem_flatMap]
  constructor
  · rintro ⟨⟨r, i⟩, hri, hx⟩
    obtain ⟨rfl, hm⟩ := mem_piece.mp hx
    obtain ⟨hk, hr⟩ := List.mk_mem_zipIdx_iff_le_and_getElem?_sub.mp hri
    exact ⟨hk, by rw [getD_eq, hr]; exact hm⟩
  · rintro ⟨hk, hm⟩
    rw [getD_eq] at hm
    cases hr : rows[x.idx - k]? with
    | none => rw [hr] at hm; cases hm
    | some r =>
      rw [hr] at hm
      exact ⟨(r, x.idx), List.mk_mem_zipIdx_iff_le_and_getElem?_sub.mpr ⟨hk, hr⟩,
        mem_piece.mpr ⟨rfl, hm⟩⟩

/-- a sorted row stores at most one entry in column `j` -/
theorem sorted_piece {r : Row K} (h : Sorted r) (i j : Nat) : Sorted (piece i r j) := by
  unfold piece Sorted
  rw [List.pairwise_map]
  refine (List.Pairwise.sublist List.filter_sublist h).imp_of_mem fun {a b} ha hb hab => ?_
  have ea : a.idx = j := of_decide_eq_true (List.mem_filter.mp ha).2
  have eb : b.idx = j := of_decide_eq_true (List.mem_filter.mp hb).2
  exact absurd hab (by rw [ea, eb]; exact Nat.lt_irrefl j)

theorem sorted_col {rows : List (Row K)} (h : ∀ r ∈ rows, Sorted r) (k j : Nat) :
    Sorted (col rows k j) := by
  induction rows generalizing k with
  | nil => exact sorted_nil
  | cons r rs ih =>
    rw [col_cons]
    refine List.pairwise_append.mpr ⟨sorted_piece (h r (by simp)) k j,
      ih (fun r' hr' => h r' (by simp [hr'])) (k + 1), ?_⟩
    intro a ha b hb
    have h1 := (mem_piece.mp ha).1
    have h2 := (mem_col.mp hb).1
    omega

theorem idx_lt_of_mem_col {rows : List (Row K)} {j : Nat} {x : Entry K}
    (hx : x ∈ col rows 0 j) : x.idx < rows.length :=
  lt_of_mem_getD (mem_col.mp hx).2

theorem wf_col {rows : List (Row K)} (h : ∀ r ∈ rows, Sorted r) (j : Nat) :
    WF rows.length (col rows 0 j) :=
  ⟨sorted_col h 0 j, fun _ hx => idx_lt_of_mem_col hx⟩

theorem transpose_wfm {M : CSM K} (hw : WFM M) : WFM M.transpose := by
  refine ⟨transpose_length M, ?_⟩
  rw [rows_wf_iff]
  intro j
  rw [transpose_getD, transpose_minor, ← hw.1]
  split
  · exact wf_col (fun r hr => (hw.2 r hr).1) j
  · exact wf_nil _

theorem mem_transpose_row {M : CSM K} {j : Nat} {x : Entry K} :
    x ∈ M.transpose.rows.getD j [] ↔
      j < M.minor ∧ (⟨j, x.val⟩ : Entry K) ∈ M.rows.getD x.idx [] := by
  rw [transpose_getD]
  split
  · rename_i hj
    rw [mem_col]
    simp [hj]
  · rename_i hj
    simp [hj]

theorem transpose_den {M : CSM K} (hw : WFM M) (i j : Nat) :
    denRows M.transpose.rows j i = denRows M.rows i j := by
  have hwt := transpose_wfm hw
  unfold denRows
  by_cases h : ∃ e ∈ M.rows.getD i [], e.idx = j
  · obtain ⟨e, he, rfl⟩ := h
    have hlt : e.idx < M.minor := (WFM.row hw i).2 e he
    have hm : (⟨i, e.val⟩ : Entry K) ∈ M.transpose.rows.getD e.idx [] :=
      mem_transpose_row.mpr ⟨hlt, he⟩
    rw [denE_of_mem (WFM.row hw i).1 he]
    exact denE_of_mem (WFM.row hwt e.idx).1 hm
  · rw [denE_of_not_mem h]
    apply denE_of_not_mem
    rintro ⟨x, hx, rfl⟩
    exact h ⟨_, (mem_transpose_row.mp hx).2, rfl⟩

theorem transpose_transpose_rows {M : CSM K} (hw : WFM M) :
    M.transpose.transpose.rows = M.rows := by
  have hwtt := transpose_wfm (transpose_wfm hw)
  refine rows_ext (hwtt.1.trans hw.1.symm) fun i => ?_
  refine sorted_ext (WFM.row hwtt i).1 (WFM.row hw i).1 fun x => ?_
  rw [mem_transpose_row, mem_transpose_row]
  exact ⟨fun h => h.2.2, fun h => ⟨Nat.lt_of_lt_of_eq (lt_of_mem_getD h) hw.1, (WFM.row hw i).2 x h, h⟩⟩

/-! ### sortByIdx -/

/-- insertion keeps the list ordered by index, for `<` as for `≤`: `R` is the order, `hge` says
    what holds of an element the new entry is not put in front of -/
theorem pairwise_insertByIdx {R : Nat → Nat → Prop} (hlt : ∀ {a b}, a < b → R a b)
    (htr : ∀ {a b c}, R a b → R b c → R a c) {e : Entry K} {s : List (Entry K)}
    (hs : s.Pairwise (fun a b => R a.idx b.idx))
    (hge : ∀ x ∈ s, ¬ e.idx < x.idx → R x.idx e.idx) :
    (insertByIdx e s).Pairwise (fun a b => R a.idx b.idx) := by
  induction s with
  | nil => exact List.pairwise_singleton _ _
  | cons x xs ih =>
    obtain ⟨hx, hxs⟩ := List.pairwise_cons.mp hs
    unfold insertByIdx
    split
    · rename_i h
      refine List.pairwise_cons.mpr ⟨fun y hy => ?_, hs⟩
      rcases List.mem_cons.mp hy with rfl | hy
      · exact hlt h
      · exact htr (hlt h) (hx y hy)
    · rename_i h
      refine List.pairwise_cons.mpr
        ⟨fun y hy => ?_, ih hxs fun y hy => hge y (List.mem_cons_of_mem _ hy)⟩
      rcases List.mem_cons.mp ((insertByIdx_perm e xs).mem_iff.mp hy) with rfl | hy
      · exact hge x List.mem_cons_self h
      · exact hx y hy

theorem sorted_insertByIdx {e : Entry K} {s : List (Entry K)} (hs : Sorted s)
    (hne : ∀ x ∈ s, x.idx ≠ e.idx) : Sorted (insertByIdx e s) :=
  pairwise_insertByIdx id Nat.lt_trans hs
    fun x hx h => Nat.lt_of_le_of_ne (Nat.le_of_not_lt h) (hne x hx)

theorem sorted_sortByIdx {l : List (Entry K)} (h : (l.map (·.idx)).Nodup) :
    Sorted (sortByIdx l) := by
  induction l with
  | nil => exact sorted_nil
  | cons e l ih =>
    rw [List.map_cons, List.nodup_cons] at h
    rw [sortByIdx_cons]
    refine sorted_insertByIdx (ih h.2) ?_
    intro x hx hidx
    exact h.1 (List.mem_map.mpr ⟨x, (sortByIdx_perm l).mem_iff.mp hx, hidx⟩)

theorem denE_append (l1 l2 : List (Entry K)) (i : Nat) :
    denE (l1 ++ l2) i = denE l1 i + denE l2 i := by
  induction l1 with
  | nil => rw [List.nil_append, denE_nil, zero_add]
  | cons a l1 ih => rw [List.cons_append, denE_cons_add, ih, denE_cons_add a l1, add_assoc]

theorem denE_perm {l1 l2 : List (Entry K)} (h : l1.Perm l2) (i : Nat) :
    denE l1 i = denE l2 i := by
  induction h with
  | nil => rfl
  | cons x _ ih => simp only [denE_cons, ih]
  | swap x y l =>
    rw [denE_cons_add, denE_cons_add, denE_cons_add x, denE_cons_add y, add_left_comm]
  | trans _ _ ih1 ih2 => exact ih1.trans ih2

theorem sortByIdx_eq_of_perm {l1 l2 : List (Entry K)} (hp : l1.Perm l2)
    (h : (l1.map (·.idx)).Nodup) : sortByIdx l1 = sortByIdx l2 := by
  have h2 : (l2.map (·.idx)).Nodup := ((hp.map (·.idx)).nodup_iff).mp h
  exact List.Perm.eq_of_pairwise (le := fun a b : Entry K => a.idx < b.idx)
    (fun a b _ _ h1 h2 => by omega) (sorted_sortByIdx h) (sorted_sortByIdx h2)
    ((sortByIdx_perm l1).trans (hp.trans (sortByIdx_perm l2).symm))

/-! ### NewCSRMatrix -/

/-- the cells bucketed into row `i`, in input order -/
def bucketRow (inc : Bool) (es : List (Coo K)) (i : Nat) : Row K :=
  (es.filter (fun e => decide (e.row = i) && (decide (e.val ≠ 0) || inc))).map
    (fun e => ⟨e.col, e.val⟩)

def DistinctCoo (es : List (Coo K)) : Prop := (es.map (fun e => (e.row, e.col))).Nodup

@[simp] theorem bucketRow_nil (inc : Bool) (i : Nat) : bucketRow inc ([] : List (Coo K)) i = [] :=
  rfl

theorem bucketRow_cons (inc : Bool) (e : Coo K) (es : List (Coo K)) (i : Nat) :
    bucketRow inc (e :: es) i =
      (if e.row = i ∧ (e.val ≠ 0 ∨ inc = true) then [⟨e.col, e.val⟩] else []) ++
        bucketRow inc es i := by
  unfold bucketRow
  by_cases h : e.row = i ∧ (e.val ≠ 0 ∨ inc = true)
  · rw [if_pos h, List.filter_cons_of_pos (by simpa using h)]; rfl
  · rw [if_neg h, List.filter_cons_of_neg (by simpa using h)]; rfl

theorem mem_bucketRow {inc : Bool} {es : List (Coo K)} {i : Nat} {x : Entry K} :
    x ∈ bucketRow inc es i ↔
      ∃ e ∈ es, e.row = i ∧ (e.val ≠ 0 ∨ inc = true) ∧ x = ⟨e.col, e.val⟩ := by
  unfold bucketRow
  simp only [List.mem_map, List.mem_filter, Bool.and_eq_true, Bool.or_eq_true,
    decide_eq_true_eq]
  constructor
  · rintro ⟨e, ⟨he, h1, h2⟩, rfl⟩; exact ⟨e, he, h1, h2, rfl⟩
  · rintro ⟨e, he, h1, h2, rfl⟩; exact ⟨e, ⟨he, h1, h2⟩, rfl⟩

theorem bucket_fold_getElem? (inc : Bool) (es : List (Coo K)) (t : List (Row K)) (i : Nat) :
    (es.foldl (bucketCoo inc) t)[i]? = (t[i]?).map (· ++ bucketRow inc es i) := by
  induction es generalizing t with
  | nil => simp
  | cons e es ih =>
    rw [List.foldl_cons, ih, bucketRow_cons]
    unfold bucketCoo
    by_cases hk : e.val ≠ 0 ∨ inc = true
    · have hc : ¬ ((isZero e.val && !inc) = true) := by
        rcases hk with hk | hk <;> simp [hk]
      rw [if_neg hc, List.getElem?_modify]
      cases t[i]? with
      | none => rfl
      | some a => by_cases hr : e.row = i <;> simp [hr, hk]
    · have hc : (isZero e.val && !inc) = true := by
        simp only [not_or, not_not] at hk
        simp [hk.1, hk.2]
      rw [if_pos hc]
      cases t[i]? with
      | none => rfl
      | some a => simp [hk]

theorem newCSR_getElem? (rows cols : Nat) (es : List (Coo K)) (inc : Bool) (i : Nat) :
    (CSM.newCSR rows cols es inc).rows[i]? =
      if i < rows then some (sortByIdx (bucketRow inc es i)) else none := by
  unfold CSM.newCSR
  simp only
  rw [List.getElem?_map, bucket_fold_getElem?, List.getElem?_replicate]
  split <;> simp

theorem newCSR_getD (rows cols : Nat) (es : List (Coo K)) (inc : Bool) (i : Nat) :
    (CSM.newCSR rows cols es inc).rows.getD i [] =
      if i < rows then sortByIdx (bucketRow inc es i) else [] := by
  rw [getD_eq, newCSR_getElem?]
  split <;> rfl

theorem newCSR_length (rows cols : Nat) (es : List (Coo K)) (inc : Bool) :
    (CSM.newCSR rows cols es inc).rows.length = rows :=
  length_of_getElem? (newCSR_getElem? rows cols es inc)

@[simp] theorem newCSR_major (rows cols : Nat) (es : List (Coo K)) (inc : Bool) :
    (CSM.newCSR rows cols es inc).major = rows := rfl
@[simp] theorem newCSR_minor (rows cols : Nat) (es : List (Coo K)) (inc : Bool) :
    (CSM.newCSR rows cols es inc).minor = cols := rfl
@[simp] theorem newCSR_hidden (rows cols : Nat) (es : List (Coo K)) (inc : Bool) :
    (CSM.newCSR rows cols es inc).hidden = [] := rfl

theorem distinctCoo_cons {a : Coo K} {es : List (Coo K)} :
    DistinctCoo (a :: es) ↔
      (∀ e ∈ es, ¬ (e.row = a.row ∧ e.col = a.col)) ∧ DistinctCoo es := by
  unfold DistinctCoo
  rw [List.map_cons, List.nodup_cons]
  constructor
  · rintro ⟨h1, h2⟩
    refine ⟨?_, h2⟩
    rintro e he ⟨hr, hc⟩
    exact h1 (List.mem_map.mpr ⟨e, he, by rw [hr, hc]⟩)
  · rintro ⟨h1, h2⟩
    refine ⟨?_, h2⟩
    intro hm
    obtain ⟨e, he, heq⟩ := List.mem_map.mp hm
    have := Prod.mk.inj heq
    exact h1 e he ⟨this.1, this.2⟩

theorem den_bucketRow_of_not_mem {inc : Bool} {es : List (Coo K)} {i j : Nat}
    (h : ∀ e ∈ es, ¬ (e.row = i ∧ e.col = j)) : denE (bucketRow inc es i) j = 0 := by
  apply denE_eq_zero_of_forall_ne
  intro x hx hj
  obtain ⟨e, he, hr, _, rfl⟩ := mem_bucketRow.mp hx
  exact h e he ⟨hr, hj⟩

theorem den_bucketRow_of_mem {inc : Bool} {es : List (Coo K)} (hd : DistinctCoo es)
    {e : Coo K} (he : e ∈ es) : denE (bucketRow inc es e.row) e.col = e.val := by
  induction es with
  | nil => simp at he
  | cons a es ih =>
    obtain ⟨hd1, hd2⟩ := distinctCoo_cons.mp hd
    rw [bucketRow_cons, denE_append]
    rcases List.mem_cons.mp he with rfl | he'
    · rw [den_bucketRow_of_not_mem hd1, add_zero]
      by_cases hk : e.val ≠ 0 ∨ inc = true
      · rw [if_pos ⟨rfl, hk⟩]; simp
      · rw [if_neg (fun h => hk h.2)]
        simp only [not_or, not_not] at hk
        rw [hk.1]; rfl
    · rw [ih hd2 he']
      have hne := hd1 e he'
      by_cases hc : a.row = e.row ∧ (a.val ≠ 0 ∨ inc = true)
      · rw [if_pos hc]
        have : a.col ≠ e.col := fun h => hne ⟨hc.1.symm, h.symm⟩
        simp [this]
      · rw [if_neg hc]; simp

theorem bucketRow_idx_nodup {inc : Bool} {es : List (Coo K)} (hd : DistinctCoo es) (i : Nat) :
    ((bucketRow inc es i).map (·.idx)).Nodup := by
  unfold bucketRow
  rw [List.map_map]
  unfold DistinctCoo at hd
  unfold List.Nodup at hd ⊢
  rw [List.pairwise_map] at hd ⊢
  have h2 := List.Pairwise.sublist
    (List.filter_sublist (p := fun e : Coo K => decide (e.row = i) && (decide (e.val ≠ 0) || inc))
      (l := es)) hd
  refine List.Pairwise.imp_of_mem ?_ h2
  intro a b ha hb hab hcol
  have ha' := (List.mem_filter.mp ha).2
  have hb' := (List.mem_filter.mp hb).2
  simp only [Bool.and_eq_true, decide_eq_true_eq] at ha' hb'
  apply hab
  simp only [Function.comp] at hcol
  rw [ha'.1, hb'.1, hcol]

theorem bucketRow_perm {inc : Bool} {es es' : List (Coo K)} (hp : es.Perm es') (i : Nat) :
    (bucketRow inc es i).Perm (bucketRow inc es' i) :=
  (hp.filter _).map _

theorem newCSR_wfm {rows cols : Nat} {es : List (Coo K)} {inc : Bool} (hd : DistinctCoo es)
    (hc : ∀ e ∈ es, (e.val ≠ 0 ∨ inc = true) → e.col < cols) :
    WFM (CSM.newCSR rows cols es inc) := by
  refine ⟨newCSR_length rows cols es inc, ?_⟩
  rw [rows_wf_iff]
  intro i
  rw [newCSR_getD, newCSR_minor]
  split
  · refine ⟨sorted_sortByIdx (bucketRow_idx_nodup hd i), ?_⟩
    intro x hx
    obtain ⟨e, he, _, hk, rfl⟩ := mem_bucketRow.mp ((sortByIdx_perm _).mem_iff.mp hx)
    exact hc e he hk
  · exact wf_nil _

theorem newCSR_den_of_mem {rows cols : Nat} {es : List (Coo K)} {inc : Bool}
    (hd : DistinctCoo es) (hr : ∀ e ∈ es, (e.val ≠ 0 ∨ inc = true) → e.row < rows)
    {e : Coo K} (he : e ∈ es) :
    denRows (CSM.newCSR rows cols es inc).rows e.row e.col = e.val := by
  unfold denRows
  rw [newCSR_getD]
  split
  · rw [denE_perm (sortByIdx_perm _)]
    exact den_bucketRow_of_mem hd he
  · rename_i hlt
    by_cases hk : e.val ≠ 0 ∨ inc = true
    · exact absurd (hr e he hk) hlt
    · simp only [not_or, not_not] at hk
      rw [hk.1]; rfl

theorem newCSR_den_of_not_mem {rows cols : Nat} {es : List (Coo K)} {inc : Bool} {i j : Nat}
    (h : ∀ e ∈ es, ¬ (e.row = i ∧ e.col = j)) :
    denRows (CSM.newCSR rows cols es inc).rows i j = 0 := by
  unfold denRows
  rw [newCSR_getD]
  split
  · rw [denE_perm (sortByIdx_perm _)]
    exact den_bucketRow_of_not_mem h
  · rfl

theorem newCSR_perm {rows cols : Nat} {es es' : List (Coo K)} {inc : Bool}
    (hd : DistinctCoo es) (hp : es.Perm es') :
    CSM.newCSR rows cols es inc = CSM.newCSR rows cols es' inc := by
  have hrows : (CSM.newCSR rows cols es inc).rows = (CSM.newCSR rows cols es' inc).rows := by
    apply List.ext_getElem?
    intro i
    rw [newCSR_getElem?, newCSR_getElem?]
    split
    · rw [sortByIdx_eq_of_perm (bucketRow_perm hp i) (bucketRow_idx_nodup hd i)]
    · rfl
  unfold CSM.newCSR at hrows ⊢
  simp only at hrows ⊢
  rw [hrows]

theorem newCSR_stores {rows cols : Nat} {es : List (Coo K)} {inc : Bool} {i j : Nat} :
    (∃ x ∈ (CSM.newCSR rows cols es inc).rows.getD i [], x.idx = j) ↔
      i < rows ∧ ∃ e ∈ es, e.row = i ∧ e.col = j ∧ (e.val ≠ 0 ∨ inc = true) := by
  rw [newCSR_getD]
  split
  · rename_i hi
    constructor
    · rintro ⟨x, hx, rfl⟩
      obtain ⟨e, he, h1, h2, rfl⟩ := mem_bucketRow.mp ((sortByIdx_perm _).mem_iff.mp hx)
      exact ⟨hi, e, he, h1, rfl, h2⟩
    · rintro ⟨_, e, he, h1, h2, h3⟩
      exact ⟨⟨e.col, e.val⟩,
        (sortByIdx_perm _).mem_iff.mpr (mem_bucketRow.mpr ⟨e, he, h1, h3, rfl⟩), h2⟩
  · rename_i hi
    exact ⟨fun ⟨_, hx, _⟩ => (List.not_mem_nil hx).elim, fun h => absurd h.1 hi⟩

theorem sortedLe_insertByIdx {e : Entry K} {s : List (Entry K)}
    (hs : s.Pairwise (fun a b => a.idx ≤ b.idx)) :
    (insertByIdx e s).Pairwise (fun a b => a.idx ≤ b.idx) :=
  pairwise_insertByIdx Nat.le_of_lt Nat.le_trans hs fun _ _ h => Nat.le_of_not_lt h

theorem sortedLe_sortByIdx (l : List (Entry K)) :
    (sortByIdx l).Pairwise (fun a b => a.idx ≤ b.idx) := by
  induction l with
  | nil => exact List.Pairwise.nil
  | cons e l ih => rw [sortByIdx_cons]; exact sortedLe_insertByIdx ih

theorem newCSR_row_perm (rows cols : Nat) (es : List (Coo K)) (inc : Bool) {i : Nat}
    (hi : i < rows) :
    ((CSM.newCSR rows cols es inc).rows.getD i []).Perm (bucketRow inc es i) := by
  rw [newCSR_getD, if_pos hi]
  exact sortByIdx_perm _

theorem newCSR_row_sortedLe (rows cols : Nat) (es : List (Coo K)) (inc : Bool) (i : Nat) :
    ((CSM.newCSR rows cols es inc).rows.getD i []).Pairwise (fun a b => a.idx ≤ b.idx) := by
  rw [newCSR_getD]
  split
  · exact sortedLe_sortByIdx _
  · exact List.Pairwise.nil

theorem newCSR_no_zero (rows cols : Nat) (es : List (Coo K)) (i : Nat) :
    ∀ x ∈ (CSM.newCSR rows cols es false).rows.getD i [], x.val ≠ 0 := by
  intro x hx
  rw [newCSR_getD] at hx
  split at hx
  · obtain ⟨e, _, _, hk, rfl⟩ := mem_bucketRow.mp ((sortByIdx_perm _).mem_iff.mp hx)
    simpa using hk
  · simp at hx

/-! ### CSMatrix.Merge -/

theorem merge_hiddenClean {A : CSM K} (hc : HiddenClean A) (B : CSM K) :
    HiddenClean (A.merge B).1 := by
  unfold HiddenClean
  rw [merge_hidden]
  exact setMajorDim_hiddenClean hc _

theorem merge_getD {A B : CSM K} (hA : A.rows.length = A.major) (hc : HiddenClean A)
    (hB : B.rows.length = B.major) (i : Nat) :
    (A.merge B).1.rows.getD i [] = mergeSpan (A.rows.getD i []) (B.rows.getD i []) := by
  rw [merge_fst]
  simp only
  rw [mergeRows_getD (by
    rw [setMinorDim_length, setMajorDim_length, hB]; exact Nat.le_max_right _ _)]
  rw [setMinorDim_getD_of_le _ (by rw [setMajorDim_minor]; exact Nat.le_max_left _ _),
    setMajorDim_getD_of_le hA hc (Nat.le_max_left _ _)]

theorem merge_wfm {A B : CSM K} (hA : WFM A) (hc : HiddenClean A) (hB : WFM B) :
    WFM (A.merge B).1 := by
  refine ⟨by rw [merge_length, merge_major], ?_⟩
  rw [rows_wf_iff]
  intro i
  rw [merge_getD hA.1 hc hB.1, merge_minor]
  exact wf_mergeSpan (wf_mono (WFM.row hA i) (Nat.le_max_left _ _))
    (wf_mono (WFM.row hB i) (Nat.le_max_right _ _))

theorem merge_den {A B : CSM K} (hA : WFM A) (hc : HiddenClean A) (hB : WFM B) (i j : Nat) :
    denRows (A.merge B).1.rows i j =
      if ∃ e ∈ B.rows.getD i [], e.idx = j then denRows B.rows i j else denRows A.rows i j := by
  unfold denRows
  rw [merge_getD hA.1 hc hB.1]
  exact den_mergeSpan (WFM.row hA i).1 (WFM.row hB i).1 j

end Mx

end EtVerif
