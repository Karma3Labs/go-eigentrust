/-
  The translated option constructors of pkg/basic (Gen/Translated.lean): each sets exactly its own
  field(s) of the options record and nothing else.
-/
import EtVerif.Proofs.TrBridge
namespace EtVerif.Tr
open EtVerif EtVerif.GoSem EtVerif.Gen Scalar
variable {α : Type} [Scalar α]

-- the constructors do not use the scalar operations; the instance stays in the signatures for uniformity
set_option linter.unusedSectionVars false

theorem WithInitialTrust_refines (o : GComputeOpts α) (t0 : GVector α) :
    (Gen.WithInitialTrust o t0).map (fun r => r.1.o) = .ok { o with t0 := some t0 } := by
  simp [Gen.WithInitialTrust, WithInitialTrust.body, Stm.run, Stm.set, pure, Except.pure, Except.map]

theorem WithResultIn_refines (o : GComputeOpts α) (t : GVector α) :
    (Gen.WithResultIn o t).map (fun r => r.1.o) = .ok { o with t := some t } := by
  simp [Gen.WithResultIn, WithResultIn.body, Stm.run, Stm.set, pure, Except.pure, Except.map]

theorem WithFlatTail_refines (o : GComputeOpts α) (l : Int) :
    (Gen.WithFlatTail o l).map (fun r => r.1.o) = .ok { o with flatTailLength := l } := by
  simp [Gen.WithFlatTail, WithFlatTail.body, Stm.run, Stm.set, pure, Except.pure, Except.map]

theorem WithFlatTailNumLeaders_refines (o : GComputeOpts α) (n : Int) :
    (Gen.WithFlatTailNumLeaders o n).map (fun r => r.1.o) = .ok { o with numLeaders := n } := by
  simp [Gen.WithFlatTailNumLeaders, WithFlatTailNumLeaders.body, Stm.run, Stm.set, pure, Except.pure,
    Except.map]

theorem WithFlatTailStats_refines (o : GComputeOpts α) (s : GFlatTailStats α) :
    (Gen.WithFlatTailStats o s).map (fun r => r.1.o) = .ok { o with flatTailStats := some s } := by
  simp [Gen.WithFlatTailStats, WithFlatTailStats.body, Stm.run, Stm.set, pure, Except.pure, Except.map]

theorem WithMaxIterations_refines (o : GComputeOpts α) (n : Int) :
    (Gen.WithMaxIterations o n).map (fun r => r.1.o) = .ok { o with maxIterations := some n } := by
  simp [Gen.WithMaxIterations, WithMaxIterations.body, Stm.run, Stm.set, pure, Except.pure, Except.map]

theorem WithMinIterations_refines (o : GComputeOpts α) (n : Int) :
    (Gen.WithMinIterations o n).map (fun r => r.1.o) = .ok { o with minIterations := some n } := by
  simp [Gen.WithMinIterations, WithMinIterations.body, Stm.run, Stm.set, pure, Except.pure, Except.map]

theorem WithIterations_refines (o : GComputeOpts α) (n : Int) :
    (Gen.WithIterations o n).map (fun r => r.1.o) =
      .ok { o with maxIterations := some n, minIterations := some n } := by
  simp [Gen.WithIterations, WithIterations.body, Stm.run, Stm.set, pure, Except.pure, Except.map]

theorem WithCheckFreq_refines (o : GComputeOpts α) (n : Int) :
    (Gen.WithCheckFreq o n).map (fun r => r.1.o) = .ok { o with checkFreq := some n } := by
  simp [Gen.WithCheckFreq, WithCheckFreq.body, Stm.run, Stm.set, pure, Except.pure, Except.map]

end EtVerif.Tr
