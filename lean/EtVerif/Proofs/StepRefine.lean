/-
  The sparse power-iteration step `stepEntries` (Model/Basic.lean; the loop body of `Compute`:
  `t1.MulVec(ctx, ct, t1); t1.ScaleVec(1-a, t1); t1.AddVec(t1, ap)`) refines the dense map
  `t ↦ (1-a)·Cᵀt + a·p`, keeps well-formedness, and maps distributions to distributions when
  the inputs are canonical.  On top of that, at the level of `compute`: the squared delta of the
  convergence check is the dense squared distance (`deltaSq_eq`), a run that ended by the
  criteria passed that check against an earlier iterate (`compute_criteria_inv`), and a first
  step that does not move `p` ends the default run at iteration 1 (`first_check_converges`).

  Definitions `Dist`, `Canon` (with the running two-peer example `canon_two_peers`) live in
  `EtVerif`; the lemmas in `EtVerif.SR` ("step refinement").
-/
import EtVerif.Proofs.Matrix
import EtVerif.Proofs.VecDot
import EtVerif.Proofs.Loop
import EtVerif.Props.C09
import EtVerif.Props.C10
import EtVerif.Props.C05
import Mathlib.Algebra.Order.BigOperators.Group.Finset
import Mathlib.Algebra.Order.BigOperators.Group.List
import Mathlib.Algebra.Order.Ring.Defs

namespace EtVerif
open Scalar

variable {K : Type} [Field K] [LinearOrder K]

/-- a sparse distribution of dimension `n` -/
def Dist (n : Nat) (t : List (Entry K)) : Prop :=
  WF n t ∧ (∀ e ∈ t, 0 ≤ e.val) ∧ (t.map (·.val)).sum = 1

/-- canonical inputs of `Compute`: `c` is a well-formed `n × n` matrix whose stored values are
    non-negative and whose every row sums to 1; `p` is a distribution of dimension `n`. -/
def Canon (n : Nat) (c : CSM K) (p : Vec K) : Prop :=
  c.major = n ∧ c.minor = n ∧ WFM c ∧ (∀ r ∈ c.rows, ∀ e ∈ r, 0 ≤ e.val) ∧
  (∀ r ∈ c.rows, (r.map (·.val)).sum = 1) ∧
  p.dim = n ∧ WF n p.entries ∧ (∀ e ∈ p.entries, 0 ≤ e.val) ∧ (p.entries.map (·.val)).sum = 1

namespace Canon
variable {n : Nat} {c : CSM K} {p : Vec K} (h : Canon n c p)
include h

theorem major_eq : c.major = n := h.1
theorem minor_eq : c.minor = n := h.2.1
theorem wfm : WFM c := h.2.2.1
theorem nonneg : ∀ r ∈ c.rows, ∀ e ∈ r, 0 ≤ e.val := h.2.2.2.1
theorem rowsum : ∀ r ∈ c.rows, (r.map (·.val)).sum = 1 := h.2.2.2.2.1
theorem dim_eq : p.dim = n := h.2.2.2.2.2.1
theorem dist : Dist n p.entries := h.2.2.2.2.2.2

end Canon

/-- The running example of the non-vacuity sections: two peers trusting each other,
    `C = [[0,1],[1,0]]`, with uniform pre-trust `p = (1/2, 1/2)`, is canonical over every
    ordered field. -/
theorem canon_two_peers [IsStrictOrderedRing K] :
    Canon 2 (⟨2, 2, [[⟨1, 1⟩], [⟨0, 1⟩]], []⟩ : CSM K) ⟨2, [⟨0, 1/2⟩, ⟨1, 1/2⟩]⟩ := by
  have h1 : (0 : K) ≤ 1 := zero_le_one
  have h2 : (0 : K) ≤ 1 / 2 := one_half_pos.le
  refine ⟨rfl, rfl, ⟨rfl, ?_⟩, ?_, ?_, rfl, ⟨?_, ?_⟩, ?_, ?_⟩
  · simp only [List.forall_mem_cons, List.not_mem_nil, false_imp_iff, implies_true, and_true, WF,
      Sorted, List.pairwise_singleton, true_and]
    decide
  · simp only [List.forall_mem_cons, List.not_mem_nil, false_imp_iff, implies_true, and_true]
    exact ⟨h1, h1⟩
  · simp only [List.forall_mem_cons, List.not_mem_nil, false_imp_iff, implies_true, and_true,
      List.map_cons, List.map_nil, List.sum_cons, List.sum_nil, add_zero]
  · simp only [Sorted, List.pairwise_cons, List.forall_mem_cons, List.not_mem_nil, false_imp_iff,
      implies_true, and_true, List.Pairwise.nil]
    decide
  · simp only [List.forall_mem_cons, List.not_mem_nil, false_imp_iff, implies_true, and_true]
    decide
  · simp only [List.forall_mem_cons, List.not_mem_nil, false_imp_iff, implies_true, and_true]
    exact ⟨h2, h2⟩
  · simp only [List.map_cons, List.map_nil, List.sum_cons, List.sum_nil, add_zero, add_halves]

namespace SR

theorem den_stepEntries (rows : List (Row K)) (ap : List (Entry K)) (q : K) (t : List (Entry K))
    (j : Nat) :
    denE (stepEntries rows ap q t) j = q * vecDot (rows.getD j []) t + denE ap j := by
  unfold stepEntries
  simp only
  rw [den_addEntries]
  congr 1
  by_cases hq : q = 0
  · simp [hq]
  · simp only [s_isZero, hq, decide_false, Bool.false_eq_true, if_false]
    rw [den_scaleEntries, den_mulVecEntries]

theorem vecDot_transpose {c : CSM K} (hw : WFM c) {t : List (Entry K)} (ht : Sorted t) (j : Nat) :
    vecDot (c.transpose.rows.getD j []) t
      = ∑ i ∈ Finset.range c.major, denRows c.rows i j * denE t i := by
  have hrow := Mx.WFM.row (Mx.transpose_wfm hw) j
  rw [Mx.transpose_minor] at hrow
  rw [vecDot_eq_finset_sum hrow ht]
  apply Finset.sum_congr rfl
  intro i _
  have h := Mx.transpose_den hw i j
  unfold denRows at h ⊢
  rw [h]

/-- The sparse step denotes `(1-a)·Cᵀt + a·p` (any `a`, including `a = 1`, where the
    product is cleared, and `a = 0`, where `a·p` is the empty vector). -/
theorem step_den {c : CSM K} (hw : WFM c) (p : Vec K) (a : K) {t : List (Entry K)}
    (ht : Sorted t) (j : Nat) :
    denE (stepEntries c.transpose.rows (Vec.scale a p).entries (1 - a) t) j
      = (1 - a) * (∑ i ∈ Finset.range c.major, denRows c.rows i j * denE t i)
        + a * denE p.entries j := by
  rw [den_stepEntries, C09.den_scale, vecDot_transpose hw ht]

theorem wf_stepEntries {n : Nat} {rows : List (Row K)} (hr : rows.length = n)
    {ap : List (Entry K)} (hap : WF n ap) (q : K) (t : List (Entry K)) :
    WF n (stepEntries rows ap q t) := by
  unfold stepEntries
  simp only
  apply wf_addEntries _ hap
  split
  · exact WF.nil n
  · rw [← hr]; exact wf_scaleEntries q (wf_mulVecEntries rows t)

/-- No hypothesis on the current vector `t`: the step's result is `WF n` whatever it is fed. -/
theorem step_wf {n : Nat} {c : CSM K} (hmin : c.minor = n) {p : Vec K} (hd : p.dim = n)
    (hp : WF n p.entries) (a : K) (t : List (Entry K)) :
    WF n (stepEntries c.transpose.rows (Vec.scale a p).entries (1 - a) t) := by
  apply wf_stepEntries
  · rw [Mx.transpose_length, hmin]
  · have h := C09.wf_scale a p (by rw [hd]; exact hp)
    rw [C09.dim_scale, hd] at h
    exact h

section order
variable [IsStrictOrderedRing K]

theorem denE_nonneg {es : List (Entry K)} (h : ∀ e ∈ es, 0 ≤ e.val) (i : Nat) :
    0 ≤ denE es i := by
  induction es with
  | nil => simp
  | cons e es ih =>
    rw [denE_cons]
    have h1 := h e (by simp)
    have h2 := ih (fun x hx => h x (by simp [hx]))
    split
    · exact add_nonneg h1 h2
    · exact h2

theorem denRows_nonneg {rows : List (Row K)} (h : ∀ r ∈ rows, ∀ e ∈ r, 0 ≤ e.val) (i j : Nat) :
    0 ≤ denRows rows i j := by
  unfold denRows
  rcases Mx.getD_mem_or rows i with hm | he
  · exact denE_nonneg (h _ hm) j
  · rw [he]; simp

omit [IsStrictOrderedRing K] in
theorem denRows_rowsum {n : Nat} {c : CSM K} {p : Vec K} (hc : Canon n c p) {i : Nat}
    (hi : i < n) : ∑ j ∈ Finset.range n, denRows c.rows i j = 1 := by
  have hlen : i < c.rows.length := by rw [hc.wfm.1, hc.major_eq]; exact hi
  have hm : c.rows.getD i [] ∈ c.rows := Mx.mem_iff_getD.mpr ⟨i, hlen, rfl⟩
  have hwf := hc.wfm.2 _ hm
  rw [hc.minor_eq] at hwf
  unfold denRows
  rw [sum_denE hwf.2]
  exact hc.rowsum _ hm

theorem vecDot_transpose_nonneg {n : Nat} {c : CSM K} {p : Vec K} (hc : Canon n c p)
    {t : List (Entry K)} (ht : Sorted t) (hn : ∀ e ∈ t, 0 ≤ e.val) (j : Nat) :
    0 ≤ vecDot (c.transpose.rows.getD j []) t := by
  rw [vecDot_transpose hc.wfm ht]
  exact Finset.sum_nonneg fun i _ => mul_nonneg (denRows_nonneg hc.nonneg i j) (denE_nonneg hn i)

theorem step_den_nonneg {n : Nat} {c : CSM K} {p : Vec K} (hc : Canon n c p) {a : K}
    (ha0 : 0 ≤ a) (ha1 : a ≤ 1) {t : List (Entry K)} (ht : Sorted t)
    (hn : ∀ e ∈ t, 0 ≤ e.val) (j : Nat) :
    0 ≤ denE (stepEntries c.transpose.rows (Vec.scale a p).entries (1 - a) t) j := by
  rw [den_stepEntries, C09.den_scale]
  exact add_nonneg (mul_nonneg (sub_nonneg.mpr ha1) (vecDot_transpose_nonneg hc ht hn j))
    (mul_nonneg ha0 (denE_nonneg hc.dist.2.1 j))

omit [IsStrictOrderedRing K] in
theorem step_sum {n : Nat} {c : CSM K} {p : Vec K} (hc : Canon n c p) (a : K)
    {t : List (Entry K)} (ht : WF n t) :
    ((stepEntries c.transpose.rows (Vec.scale a p).entries (1 - a) t).map (·.val)).sum
      = (1 - a) * (t.map (·.val)).sum + a := by
  have hwf := step_wf hc.minor_eq hc.dim_eq hc.dist.1 a t
  rw [← sum_denE hwf.2]
  have hmaj := hc.major_eq
  have hstep : ∀ j ∈ Finset.range n,
      denE (stepEntries c.transpose.rows (Vec.scale a p).entries (1 - a) t) j
        = (1 - a) * (∑ i ∈ Finset.range n, denRows c.rows i j * denE t i)
          + a * denE p.entries j := by
    intro j _
    rw [step_den hc.wfm p a ht.1, hmaj]
  rw [Finset.sum_congr rfl hstep, Finset.sum_add_distrib, ← Finset.mul_sum, ← Finset.mul_sum,
    Finset.sum_comm, sum_denE hc.dist.1.2, hc.dist.2.2, mul_one]
  congr 2
  rw [← sum_denE ht.2]
  apply Finset.sum_congr rfl
  intro i hi
  rw [← Finset.sum_mul, denRows_rowsum hc (Finset.mem_range.mp hi), one_mul]

/-- Core of C02: one step maps distributions to distributions, for every
    `0 ≤ a ≤ 1` (including `a = 0` and `a = 1`). -/
theorem step_mass {n : Nat} {c : CSM K} {p : Vec K} (hc : Canon n c p) {a : K}
    (ha0 : 0 ≤ a) (ha1 : a ≤ 1) {t : List (Entry K)} (ht : Dist n t) :
    Dist n (stepEntries c.transpose.rows (Vec.scale a p).entries (1 - a) t) := by
  have hwf := step_wf hc.minor_eq hc.dim_eq hc.dist.1 a t
  refine ⟨hwf, ?_, ?_⟩
  · intro x hx
    rw [← denE_of_mem hwf.1 hx]
    exact step_den_nonneg hc ha0 ha1 ht.1.1 ht.2.1 x.idx
  · rw [step_sum hc a ht.1, ht.2.2]
    ring

end order

theorem wf_iterate {n : Nat} {c : CSM K} {p : Vec K} (hc : Canon n c p) (a : K)
    {t0 : List (Entry K)} (ht0 : WF n t0) (k : Nat) :
    WF n (iterate c.transpose.rows (Vec.scale a p).entries (1 - a) k t0) := by
  cases k with
  | zero => exact ht0
  | succ k =>
    rw [iterate_succ]
    exact step_wf hc.minor_eq hc.dim_eq hc.dist.1 a _

/-- the squared delta of `ConvergenceChecker.Update` is the dense squared Euclidean distance -/
theorem deltaSq_eq {n : Nat} {x y : List (Entry K)} (hx : WF n x) (hy : WF n y) :
    deltaSq x y = ∑ i ∈ Finset.range n, (denE x i - denE y i) ^ 2 := by
  unfold deltaSq
  rw [kbnSum_eq_sum]
  have h := sum_denE_sq (wf_subEntries hx hy)
  simp only [s_mul]
  rw [← h]
  apply Finset.sum_congr rfl
  intro i _
  rw [den_subEntries]

/-- If the first step does not move the pre-trust vector (squared delta 0), a `compute` with the
    default options (start vector `p`, checks after every iteration) ends by the criteria at
    iteration 1.  Used for non-vacuity examples over fields where `compute` cannot be evaluated
    (ℝ). -/
theorem first_check_converges [IsStrictOrderedRing K] (fuel : Nat) (hfuel : 2 ≤ fuel) (c : CSM K)
    (p : Vec K) (a e : K) (hv : ValidInput c p a e {})
    (hz : deltaSq (stepEntries c.transpose.rows (Vec.scale a p).entries (1 - a) p.entries)
      p.entries = 0) :
    ∃ r, compute fuel c p a e {} = .ok r ∧ r.endedBy = .criteria ∧ r.iters = 1 := by
  cases hl : loopOf fuel c p a e {} with
  | mk s by_ =>
    have hl' : computeLoop c.transpose.rows (Vec.scale a p).entries (1 - a) e 1 1 none 0 c.major
        fuel (initState p.entries) = (s, by_) := hl
    have hd : dsqAt c.transpose.rows (Vec.scale a p).entries (1 - a) 1 1 p.entries 1 = 0 := by
      unfold dsqAt
      rw [lastChk_default 1 (le_refl 1)]
      exact hz
    have hnf : nonFiniteAt c.transpose.rows (Vec.scale a p).entries (1 - a) 1 1 p.entries 1
        = false := nonFinite_false _
    have hcv : convergedAt c.transpose.rows (Vec.scale a p).entries (1 - a) e 1 1 p.entries 1
        = true := by
      unfold convergedAt
      rw [hd]
      simp only [s_sqrtLe, decide_eq_true_eq]
      exact mul_self_nonneg e
    have hstop1 : stopAt c.transpose.rows (Vec.scale a p).entries (1 - a) e 1 1 0 c.major
        p.entries 1 = true := by
      rw [stopAt, hnf, hcv, flatAt, decide_eq_true (Nat.zero_le _)]
      rfl
    have hstop0 : stopAt c.transpose.rows (Vec.scale a p).entries (1 - a) e 1 1 0 c.major
        p.entries 0 = false := rfl
    obtain ⟨hi, rfl⟩ := loop_first_criteria fuel p.entries 1 (by omega)
      (fun k hk => by
        obtain rfl := Nat.lt_one_iff.mp hk
        exact ⟨rfl, hstop0⟩)
      rfl hnf hstop1 s by_ hl'
    exact ⟨_, compute_ok_of_loop fuel c p a e {} hv s _ hl (by decide), rfl, hi⟩

section generic
variable {α : Type} [Scalar α]

/-- A `compute` that ended by the exit criteria returns the `K`-th iterate (`K = r.iters ≥ 1`), and
    the convergence verdict `sqrt dsq ≤ e` held for the squared delta between the `K`-th iterate
    and the iterate of the previous check `K' < K` (`K' = 0`, the initial vector, at the first
    check).  Any scalar type, any schedule / iteration limit / flat-tail setting. -/
theorem compute_criteria_inv (fuel : Nat) (c : CSM α) (p : Vec α) (a e : α) (o : ComputeOpts α)
    (r : ComputeResult α) (h : compute fuel c p a e o = .ok r) (hcr : r.endedBy = .criteria) :
    ValidInput c p a e o ∧ ∃ K', K' < r.iters ∧
      r.t = ⟨c.major, iterate c.transpose.rows (Vec.scale a p).entries (sub one a) r.iters
        (o.t0.getD p).entries⟩ ∧
      sqrtLe (deltaSq
        (iterate c.transpose.rows (Vec.scale a p).entries (sub one a) r.iters (o.t0.getD p).entries)
        (iterate c.transpose.rows (Vec.scale a p).entries (sub one a) K' (o.t0.getD p).entries))
        e = true := by
  obtain ⟨hv, ht, _, _, s, hl, hit, _, _⟩ := C05.compute_spec fuel c p a e o r h
  refine ⟨hv, ?_⟩
  unfold loopOf at hl
  rw [hcr] at hl
  obtain ⟨_, _, _, _, _, hc, _, _⟩ := C05.stopIter_spec _ _ _ _ _ _ _ _ _ fuel _ s _ hl
  obtain ⟨hchk, _, _, _, hconv, _⟩ := hc rfl
  have hmin := hv.minIterations_pos
  have hle := (isCheck_iff_mod.mp hchk).1
  have hpos : 0 < s.iter := by omega
  refine ⟨lastChk (o.minIterations.getD (o.checkFreq.getD 1)).toNat (o.checkFreq.getD 1).toNat
    r.iters, ?_, ht, ?_⟩
  · rw [hit]; exact lastChk_lt hpos
  · rw [hit]; exact hconv

end generic

end SR

end EtVerif
