/-
  The proof instance of `Scalar`: any field with a linear order, `[Field K] [LinearOrder K]`.  The
  instance itself needs no compatibility between the order and the arithmetic; the lemmas that do
  (signs of sums and products) add `[IsStrictOrderedRing K]` where they are stated.  All algebraic
  theorems about the model are proved for this instance (hence for ℚ and ℝ at once).

  On ℚ it overlaps with the executable `ratScalar` (Model/Scalar.lean), which instance search
  prefers: an `example` that evaluates the model on rationals is about `ratScalar`; where one is
  to instantiate a theorem proved for ordered fields, `fieldScalar` is selected explicitly
  (by `@`, or by `attribute [local instance 10000] fieldScalar` as in Props/C09.lean, C13.lean).
-/
import EtVerif.Model.Sparse
import Mathlib.Algebra.Order.Field.Basic
import Mathlib.Tactic.Ring
import Mathlib.Tactic.Linarith

namespace EtVerif

variable {K : Type} [Field K] [LinearOrder K]

/-- Exact arithmetic.  `sqrtLe x e`, Go's `math.Sqrt(x) <= e`, is `x ≤ e * e` as in `ratScalar`: no
    root is taken, and the two agree only for `e ≥ 0`. -/
instance fieldScalar : Scalar K where
  zero := 0
  one := 1
  add := (· + ·)
  sub := (· - ·)
  mul := (· * ·)
  div := (· / ·)
  neg := fun x => -x
  abs := fun x => |x|
  lt := fun x y => decide (x < y)
  le := fun x y => decide (x ≤ y)
  eq := fun x y => decide (x = y)
  ofNat := fun n => (n : K)
  sqrtLe := fun x e => decide (x ≤ e * e)

section simp
variable (x y : K)
@[simp] theorem s_zero : (Scalar.zero : K) = 0 := rfl
@[simp] theorem s_one : (Scalar.one : K) = 1 := rfl
@[simp] theorem s_add : Scalar.add x y = x + y := rfl
@[simp] theorem s_sub : Scalar.sub x y = x - y := rfl
@[simp] theorem s_mul : Scalar.mul x y = x * y := rfl
@[simp] theorem s_div : Scalar.div x y = x / y := rfl
@[simp] theorem s_neg : Scalar.neg x = -x := rfl
@[simp] theorem s_abs : Scalar.abs x = |x| := rfl
@[simp] theorem s_lt : Scalar.lt x y = decide (x < y) := rfl
@[simp] theorem s_le : Scalar.le x y = decide (x ≤ y) := rfl
@[simp] theorem s_eq : Scalar.eq x y = decide (x = y) := rfl
@[simp] theorem s_ofNat (n : Nat) : (Scalar.ofNat n : K) = (n : K) := rfl
@[simp] theorem s_isZero : Scalar.isZero x = decide (x = 0) := rfl
@[simp] theorem s_sqrtLe : Scalar.sqrtLe x y = decide (x ≤ y * y) := rfl
end simp

end EtVerif
