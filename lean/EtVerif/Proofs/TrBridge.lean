/-
  Bridge between the translated Go code (Gen/Translated.lean, regenerated from /repo by
  tools/go2lean on every run) and the hand-written model (Model/Sparse.lean, Model/Basic.lean):
  the representation maps and generic lemmas about the GoSem combinators.
  Core-only.

  How a translated function `Gen.f` (with its `f.body`, `f.St`, `f.loopK_cond/_body/_post/_xs/_bind`) is refined.
  Proofs/TrKbn.lean is the small worked example; the lemma named at each step is the one to imitate.
  1. Statement: `(Gen.f … (toG.. args)).map proj = .ok (toG.. (model args))`, `proj` picking what the caller sees:
     the written-through fields `r.1.x` of the final record and/or the result `r.2` (`KBNSummer_Add_refines`,
     `Vector_Sum_refines`).  Callers consume it as `∃ st, Gen.f … = .ok (st, …) ∧ …` through `map_eq_ok` or
     `map_pair_eq_ok` (`KBNSummer_Add_ok`).
  2. Straight-line body: `cases`/`by_cases` on every Boolean test (Int/Nat cast facts by `omega` beforehand), then
     `simp [Gen.f, f.body, Stm.run, go_run, …, Except.map]` (`KBNSummer_Add_refines`).
  3. `range` loop: `∀ i s, inv s → ∃ s', Stm.range l f.loopK_bind f.loopK_body i xs s = .ok (s', .next) ∧ post s'`
     by induction on `xs`, one turn by `range_cons_next` (`range_cons_cont`, `range_cons_brk`) with the body run by
     `simp [f.loopK_body, f.loopK_bind, go_run, …]` (`Vector_Sum_loop`).  A loop that writes the slice it ranges over
     ranges over a snapshot: state the lemma for `xs` with `xs.length = rest.length`, the slice in the state being
     `pre ++ rest` and the start index `pre.length`; reads and writes by `goIdx_mid`/`goSet_mid` (`scale_loop` in
     Proofs/TrScale.lean).
  4. `for` loop: when every turn completes normally, `loop_inv` with an invariant carrying a bound on the turns still
     to come (`zip_loop` in Proofs/TrAddSub.lean, `mergeSpan_loop` in Proofs/TrMergeSpan.lean).  A loop left by
     `break`, `continue` to an outer label or `return` does not fit it: induction on the fuel (or on the data) with
     `loop_step`, `loop_step_cont`, `loop_exit`, `loop_brk`, `loop_leave` (`discount_inner` in Proofs/TrDiscount.lean,
     `FollowsLoop.loop` in Proofs/TrCompute.lean).
  5. Main theorem: obtain each loop lemma at the record `Gen.f` starts from, then
     `simp only [Gen.f, f.body, Stm.run, go_run, Stm.rangeOver, f.loopK_xs, h…]` and finish with the model's equations
     (`Vector_Sum_refines`).  A long body is run one statement at a time, by `seq_next` and its relatives below under a
     motive (`P_congr`), each step re-normalising the state record: record updates left un-normalised nest and grow
     exponentially (`cstep` and `Compute_body_elim` in Proofs/TrCompute.lean; `FlatTailChecker_Update_refines`).
  6. Props/TrCxx.lean restates the theorem for the property it serves; Audit/Cxx.lean gets the `#print axioms` line.
     One proof file per function group, so that a property's audit imports only the functions on its path.
-/
import EtVerif.Gen.Translated
import EtVerif.Model.Basic
import EtVerif.Proofs.TrRunAttr

namespace EtVerif.Tr
open EtVerif EtVerif.GoSem EtVerif.Gen Scalar

variable {α : Type} [Scalar α]

/-- model entry ↦ Go `Entry` (the model's `Nat` index as a Go `int`). -/
def toG (e : Entry α) : GEntry α := ⟨(e.idx : Int), e.val⟩
def toGs (es : List (Entry α)) : List (GEntry α) := es.map toG
def toGV (v : Vec α) : GVector α := ⟨(v.dim : Int), toGs v.entries⟩
def toGK (k : KBN α) : GKBNSummer α := ⟨k.sum, k.comp⟩

/-- model matrix ↦ Go `CSMatrix` (the part of the backing array beyond `len`, `hidden`, and the
    `mapped` field are not part of the translated struct). -/
def toGM (m : CSM α) : GCSMatrix α := ⟨(m.major : Int), (m.minor : Int), m.rows.map toGs⟩

@[simp] theorem toGM_MajorDim (m : CSM α) : (toGM m).MajorDim = (m.major : Int) := rfl
@[simp] theorem toGM_MinorDim (m : CSM α) : (toGM m).MinorDim = (m.minor : Int) := rfl
@[simp] theorem toGM_Entries (m : CSM α) : (toGM m).Entries = m.rows.map toGs := rfl

/-- model coordinate entry ↦ Go `CooEntry`. -/
def toGCoo (e : Coo α) : GCooEntry α := ⟨(e.row : Int), (e.col : Int), e.val⟩

/-- the conversions used by the externs of the generated file are the bridge's. -/
@[simp] theorem entryToG_eq (e : Entry α) : entryToG e = toG e := rfl
@[simp] theorem entryOfG_toG (e : Entry α) : entryOfG (toG e) = e := by
  simp [entryOfG, toG]
@[simp] theorem map_entryOfG_toGs (es : List (Entry α)) : (toGs es).map entryOfG = es := by
  simp [toGs, Function.comp_def]
theorem map_entryToG (es : List (Entry α)) : es.map entryToG = toGs es := rfl

/-- model flat-tail statistics ↦ Go `FlatTailStats` (the Go field `DeltaNorm` carries the model's squared
    delta: see the externs header of the generated file; a nil ranking is the empty list). -/
def toGStats (s : FlatTailStats α) : GFlatTailStats α :=
  { DeltaNorm := s.deltaSq, Length := (s.length : Int),
    Ranking := (s.ranking.getD []).map (fun (i : Nat) => (i : Int)), Threshold := (s.threshold : Int) }

@[simp] theorem toG_Index (e : Entry α) : (toG e).Index = (e.idx : Int) := rfl
@[simp] theorem toG_Value (e : Entry α) : (toG e).Value = e.val := rfl
@[simp] theorem toGs_nil : toGs ([] : List (Entry α)) = [] := rfl
@[simp] theorem toGs_cons (e : Entry α) (es) : toGs (e :: es) = toG e :: toGs es := rfl
@[simp] theorem toGs_append (a b : List (Entry α)) : toGs (a ++ b) = toGs a ++ toGs b := by
  simp [toGs]
@[simp] theorem toGs_length (es : List (Entry α)) : (toGs es).length = es.length := by simp [toGs]
@[simp] theorem toGV_Dim (v : Vec α) : (toGV v).Dim = (v.dim : Int) := rfl
@[simp] theorem toGV_Entries (v : Vec α) : (toGV v).Entries = toGs v.entries := rfl
@[simp] theorem toGK_zero : (GKBNSummer.zero : GKBNSummer α) = toGK KBN.init := rfl

/-! ### generic lemmas about the combinators -/

attribute [go_run] Stm.seq Stm.set Stm.ite Stm.skip Stm.ret Stm.brk Stm.cont bind Except.bind pure Except.pure

/-- a `range` loop whose body always completes normally is a left fold, when the state after a turn is a known
    function `g s x` of the state before and the element alone (not of the index). -/
theorem range_fold {σ ρ β : Type} (l : Nat) (bind : Int → β → σ → σ) (body : Stm σ ρ)
    (g : σ → β → σ) (P : σ → Prop)
    (hb : ∀ i x s, P s → body (bind i x s) = .ok (g s x, .next) ∧ P (g s x)) :
    ∀ (xs : List β) (i : Int) (s : σ), P s →
      Stm.range l bind body i xs s = .ok (xs.foldl g s, .next) ∧ P (xs.foldl g s) := by
  intro xs
  induction xs with
  | nil => intro i s hs; exact ⟨rfl, hs⟩
  | cons x xs ih =>
    intro i s hs
    obtain ⟨h1, h2⟩ := hb i x s hs
    simp only [Stm.range, h1, Stm.afterBody, List.foldl_cons]
    exact ih (i + 1) (g s x) h2

theorem range_cons_next {σ ρ β : Type} {l : Nat} {bind : Int → β → σ → σ} {body : Stm σ ρ}
    {i : Int} {x : β} {xs : List β} {s s1 : σ} (h : body (bind i x s) = .ok (s1, .next)) :
    Stm.range l bind body i (x :: xs) s = Stm.range l bind body (i + 1) xs s1 := by
  simp only [Stm.range, h, Stm.afterBody]

theorem range_cons_cont {σ ρ β : Type} {l : Nat} {bind : Int → β → σ → σ} {body : Stm σ ρ}
    {i : Int} {x : β} {xs : List β} {s s1 : σ} (h : body (bind i x s) = .ok (s1, .cont l)) :
    Stm.range l bind body i (x :: xs) s = Stm.range l bind body (i + 1) xs s1 := by
  simp only [Stm.range, h, Stm.afterBody, if_true]

theorem range_cons_brk {σ ρ β : Type} {l : Nat} {bind : Int → β → σ → σ} {body : Stm σ ρ}
    {i : Int} {x : β} {xs : List β} {s s1 : σ} (h : body (bind i x s) = .ok (s1, .brk l)) :
    Stm.range l bind body i (x :: xs) s = .ok (s1, .next) := by
  simp only [Stm.range, h, Stm.afterBody, if_true]

@[simp] theorem range_nil {σ ρ β : Type} {l : Nat} {bind : Int → β → σ → σ} {body : Stm σ ρ}
    {i : Int} {s : σ} : Stm.range l bind body i ([] : List β) s = .ok (s, .next) := rfl

theorem loop_exit {σ ρ : Type} {l : Nat} {cond : σ → R Bool} {body post : Stm σ ρ} {n : Nat} {s : σ}
    (hc : cond s = .ok false) : Stm.loop l cond body post n s = .ok (s, .next) := by
  cases n <;> simp only [Stm.loop, hc]

theorem loop_step {σ ρ : Type} {l : Nat} {cond : σ → R Bool} {body post : Stm σ ρ} {n : Nat}
    {s s1 s2 : σ} (hc : cond s = .ok true) (hb : body s = .ok (s1, .next))
    (hp : post s1 = .ok (s2, .next)) :
    Stm.loop l cond body post (n + 1) s = Stm.loop l cond body post n s2 := by
  simp only [Stm.loop, hc, hb, Stm.afterBody, hp]

theorem loop_step_cont {σ ρ : Type} {l : Nat} {cond : σ → R Bool} {body post : Stm σ ρ} {n : Nat}
    {s s1 s2 : σ} (hc : cond s = .ok true) (hb : body s = .ok (s1, .cont l))
    (hp : post s1 = .ok (s2, .next)) :
    Stm.loop l cond body post (n + 1) s = Stm.loop l cond body post n s2 := by
  simp only [Stm.loop, hc, hb, Stm.afterBody, if_true, hp]

theorem loop_brk {σ ρ : Type} {l : Nat} {cond : σ → R Bool} {body post : Stm σ ρ} {n : Nat}
    {s s1 : σ} (hc : cond s = .ok true) (hb : body s = .ok (s1, .brk l)) :
    Stm.loop l cond body post (n + 1) s = .ok (s1, .next) := by
  simp only [Stm.loop, hc, hb, Stm.afterBody, if_true]

/-- the body leaves the loop with a control that is not this loop's (`return`, `break`/`continue` of an outer label). -/
theorem loop_leave {σ ρ : Type} {l : Nat} {cond : σ → R Bool} {body post : Stm σ ρ} {n : Nat}
    {s s1 : σ} {c c' : Ctl ρ} (hc : cond s = .ok true) (hb : body s = .ok (s1, c))
    (ha : Stm.afterBody l c = some c') :
    Stm.loop l cond body post (n + 1) s = .ok (s1, c') := by
  simp only [Stm.loop, hc, hb, ha]

theorem seq_next {σ ρ : Type} {a b : Stm σ ρ} {s s1 : σ} (h : a s = .ok (s1, .next)) :
    Stm.seq a b s = b s1 := by
  simp only [Stm.seq, h]

theorem stm_ite_false {σ ρ : Type} {c : σ → R Bool} {a b : Stm σ ρ} {s : σ} (h : c s = .ok false) :
    Stm.ite c a b s = b s := by
  simp only [Stm.ite, h]

/-- needed by `loop_inv`, whose step is stated about `Stm.seq body post`. -/
theorem seq_eq_next {σ ρ : Type} {a b : Stm σ ρ} {s s2 : σ} (h : Stm.seq a b s = .ok (s2, .next)) :
    ∃ s1, a s = .ok (s1, .next) ∧ b s1 = .ok (s2, .next) := by
  cases ha : a s with
  | error e => simp [Stm.seq, ha] at h
  | ok r =>
    obtain ⟨s1, c⟩ := r
    cases c <;> simp [Stm.seq, ha] at h
    exact ⟨s1, rfl, h⟩

/-- replace the program under a motive `P` by what it evaluates to: the step of the continuation-passing
    eliminations (`Compute_body_elim`), `h` being one of the `seq_…` equations. -/
theorem P_congr {β : Type} {P : β → Prop} {x y : β} (h : x = y) (hy : P y) : P x := h ▸ hy

/-- a statement that returns ends the sequence. -/
theorem seq_ret {σ ρ : Type} {a b : Stm σ ρ} {s s1 : σ} {v : ρ} (h : a s = .ok (s1, .ret v)) :
    Stm.seq a b s = .ok (s1, .ret v) := by
  simp only [Stm.seq, h]

/-- `if c { … }` whose condition is false. -/
theorem seq_ite_pass {σ ρ : Type} {c : σ → R Bool} {a b : Stm σ ρ} {s : σ} (hc : c s = .ok false) :
    Stm.seq (Stm.ite c a Stm.skip) b s = b s := by
  simp only [Stm.seq, Stm.ite, hc, Stm.skip]

/-- `if c { return f }` whose condition is true. -/
theorem seq_ite_ret {σ ρ : Type} {c : σ → R Bool} {f : σ → R ρ} {b : Stm σ ρ} {s : σ} {v : ρ}
    (hc : c s = .ok true) (hf : f s = .ok v) :
    Stm.seq (Stm.ite c (Stm.ret f) Stm.skip) b s = .ok (s, .ret v) := by
  simp only [Stm.seq, Stm.ite, hc, Stm.ret, hf]

/-- `seq_next`, the new state given as a function `F` of the old, which then need not be written out. -/
theorem seq_stepF {σ ρ : Type} {a b : Stm σ ρ} {s : σ} (F : σ → σ) (h : a s = .ok (F s, .next)) :
    Stm.seq a b s = b (F s) := by
  simp only [Stm.seq, h]

/-- `if o != nil { x = *o }` for an optional `o = g s`: `F s` is the state with `x` resolved. -/
theorem seq_ite_deref {σ ρ β : Type} {g : σ → Option β} {u : σ → β → σ} {b : Stm σ ρ} {s : σ} (F : σ → σ)
    (hF : F s = (g s).elim s (u s)) :
    Stm.seq (Stm.ite (fun st => pure (!(g st).isNone))
      (Stm.set fun st => do
        let t ← goDeref (g st)
        pure (u st t))
      Stm.skip) b s = b (F s) := by
  rw [hF]
  cases h : g s <;> simp [Stm.seq, Stm.ite, Stm.set, Stm.skip, goDeref, pure, Except.pure, bind, Except.bind, h]

/-- `if c { s = f(s) }`, the condition evaluated to `b`. -/
theorem ite_set_skip {σ ρ : Type} {c : σ → R Bool} {f : σ → R σ} {s s1 : σ} {b : Bool}
    (hc : c s = .ok b) (h : (if b then f s else .ok s) = .ok s1) :
    (Stm.ite c (Stm.set f) Stm.skip : Stm σ ρ) s = .ok (s1, .next) := by
  cases b with
  | false =>
    have h' : Except.ok s = Except.ok s1 := h
    cases h'
    simp only [Stm.ite, hc, Stm.skip]
  | true =>
    have h' : f s = .ok s1 := h
    simp only [Stm.ite, hc, Stm.set, h']

/-- Total correctness of a `for` loop whose iterations complete normally, by an invariant `P m s` (`m` a bound on
    the iterations still to come) that body-then-post re-establishes with a smaller `m`: with fuel ≥ `m` the loop
    ends, in a state that satisfies the invariant and fails the loop condition. -/
theorem loop_inv {σ ρ : Type} {l : Nat} {cond : σ → R Bool} {body post : Stm σ ρ} (P : Nat → σ → Prop)
    (hstep : ∀ m s, P m s → cond s = .ok false ∨
      ∃ s2 m', cond s = .ok true ∧ Stm.seq body post s = .ok (s2, .next) ∧ P m' s2 ∧ m' < m) :
    ∀ (n m : Nat) (s : σ), P m s → m ≤ n →
      ∃ s' m', Stm.loop l cond body post n s = .ok (s', .next) ∧ P m' s' ∧ cond s' = .ok false := by
  intro n
  induction n with
  | zero =>
    intro m s hP hn
    rcases hstep m s hP with hc | ⟨_, _, _, _, _, hlt⟩
    · exact ⟨s, m, loop_exit hc, hP, hc⟩
    · exact absurd (Nat.lt_of_lt_of_le hlt hn) (Nat.not_lt_zero _)
  | succ n ih =>
    intro m s hP hn
    rcases hstep m s hP with hc | ⟨s2, m', hc, hbp, hP2, hlt⟩
    · exact ⟨s, m, loop_exit hc, hP, hc⟩
    · obtain ⟨s1, hb, hp⟩ := seq_eq_next hbp
      obtain ⟨s', m'', h1, h2, h3⟩ := ih m' s2 hP2 (Nat.le_of_lt_succ (Nat.lt_of_lt_of_le hlt hn))
      exact ⟨s', m'', (loop_step hc hb hp).trans h1, h2, h3⟩

/-! ### slices -/

@[simp] theorem goLen_eq {β : Type} (l : List β) : goLen l = (l.length : Int) := rfl

theorem goIdx_ofNat {β : Type} (l : List β) (i : Nat) (h : i < l.length) :
    goIdx l (i : Int) = .ok l[i] := by
  simp [goIdx, h]

@[simp] theorem goIdx_zero_cons {β : Type} (x : β) (l : List β) : goIdx (x :: l) 0 = .ok x := by
  simp [goIdx]

@[simp] theorem goSlice_tail {β : Type} (x : β) (l : List β) :
    goSlice (x :: l) 1 ((x :: l).length : Int) = .ok l := by
  simp [goSlice]
  omega

@[simp] theorem goSlice_zero_zero {β : Type} (l : List β) : goSlice l 0 0 = .ok [] := by
  simp [goSlice]

theorem goSet_ofNat {β : Type} (l : List β) (i : Nat) (x : β) (h : i < l.length) :
    goSet l (i : Int) x = .ok (l.set i x) := by
  simp [goSet, h]

@[simp] theorem goMake_zero {β : Type} (z : β) : goMake z 0 = .ok [] := by
  simp [goMake]

theorem goIdx_toGs (l : List (Entry α)) (k : Nat) (h : k < l.length) :
    goIdx (toGs l) (k : Int) = .ok (toG l[k]) := by
  rw [goIdx_ofNat _ _ (by simpa using h)]
  simp [toGs]

theorem goSlice_tail' {β : Type} (x : β) (l : List β) (n : Int) (h : n = (l.length : Int) + 1) :
    goSlice (x :: l) 1 n = .ok l := by
  subst h
  have := goSlice_tail x l
  simpa using this

theorem natCast_succ_ne_zero (n : Nat) : ((n : Int) + 1 = 0) ↔ False :=
  ⟨fun h => by omega, False.elim⟩

theorem goIdx_append_mid {β : Type} (pre : List β) (r : β) (rest : List β) :
    goIdx (pre ++ r :: rest) (pre.length : Int) = .ok r := by
  rw [goIdx_ofNat _ _ (by simp)]
  simp

theorem goSet_append_mid {β : Type} (pre : List β) (r r' : β) (rest : List β) :
    goSet (pre ++ r :: rest) (pre.length : Int) r' = .ok (pre ++ r' :: rest) := by
  rw [goSet_ofNat _ _ _ (by simp)]
  simp

theorem goIdx_mid {β : Type} (l : List β) (i : Int) (pre : List β) (r : β) (rest : List β)
    (hl : l = pre ++ r :: rest) (hi : i = (pre.length : Int)) : goIdx l i = .ok r := by
  rw [hl, hi, goIdx_append_mid]

theorem goSet_mid {β : Type} (l : List β) (i : Int) (pre : List β) (r r' : β) (rest : List β)
    (hl : l = pre ++ r :: rest) (hi : i = (pre.length : Int)) :
    goSet l i r' = .ok (pre ++ r' :: rest) := by
  rw [hl, hi, goSet_append_mid]

theorem goFloatOfInt_natCast (n : Nat) : (goFloatOfInt ((n : Nat) : Int) : α) = Scalar.ofNat n := by
  have : ¬ ((n : Int) < 0) := by omega
  simp [goFloatOfInt, this]

theorem goMake_natCast {β : Type} (z : β) (n : Nat) : goMake z (n : Int) = .ok (List.replicate n z) := by
  have : ¬ ((n : Int) < 0) := by omega
  simp [goMake, this]

theorem modify_eq_set_of_lt {β : Type} (f : β → β) :
    ∀ (l : List β) (i : Nat) (h : i < l.length), l.modify i f = l.set i (f l[i]) := by
  intro l
  induction l with
  | nil => intro i h; simp at h
  | cons a l ih =>
    intro i h
    cases i with
    | zero => simp
    | succ i =>
      have h' : i < l.length := by simpa using h
      simp [ih i h']

/-! ### results of a run -/

theorem map_eq_ok {ε β γ : Type} {x : Except ε β} {f : β → γ} {c : γ}
    (h : x.map f = .ok c) : ∃ r, x = .ok r ∧ f r = c := by
  cases x with
  | error e => simp [Except.map] at h
  | ok r => exact ⟨r, rfl, by simpa [Except.map] using h⟩

/-- the refinement theorems state a run through a projection `(f st, result)` of its final state and result; this
    reads such an equation back as a statement about the run itself. -/
theorem map_pair_eq_ok {ε σ β γ : Type} {x : Except ε (σ × γ)} {f : σ → β} {b : β} {c : γ}
    (h : x.map (fun r => (f r.1, r.2)) = .ok (b, c)) : ∃ st, x = .ok (st, c) ∧ f st = b := by
  obtain ⟨⟨st, c'⟩, rfl, hr⟩ := map_eq_ok h
  cases hr
  exact ⟨st, rfl, rfl⟩

end EtVerif.Tr
