/-
  Refinement of the translated `Vector.scaleInPlace` (Gen/Translated.lean) to the hand-written model
  `scaleEntries` (Model/Sparse.lean).
-/
import EtVerif.Proofs.TrBridge
namespace EtVerif.Tr
open EtVerif EtVerif.GoSem EtVerif.Gen Scalar
variable {α : Type} [Scalar α]

/-- `entries[i].Value *= a` on one Go entry. -/
def gmul (a : α) (e : GEntry α) : GEntry α := { e with Value := mul e.Value a }

/-- `scaleEntries` on Go entries (`gscale_toGs`). -/
def gscale (a : α) (es : List (GEntry α)) : List (GEntry α) :=
  (es.map (gmul a)).filter (fun e => !(Scalar.eq e.Value (Scalar.zero : α)))

theorem gscale_toGs (a : α) (es : List (Entry α)) :
    gscale a (toGs es) =
      toGs (es.filterMap fun e => let x := mul e.val a; if isZero x then none else some ⟨e.idx, x⟩) := by
  induction es with
  | nil => rfl
  | cons e es ih =>
    simp only [gscale, toGs_cons, List.map_cons] at ih ⊢
    cases h : Scalar.eq (mul e.val a) (Scalar.zero : α) <;>
      simp [gmul, isZero, h, ih, toG]

theorem scale_body_zero (s : Vector_scaleInPlace.St α) (pre rest : List (GEntry α)) (r : GEntry α)
    (he : s.v.Entries = pre ++ r :: rest) (hi : s.i = (pre.length : Int))
    (hz : Scalar.eq (mul r.Value s.a) (Scalar.zero : α) = true) :
    Vector_scaleInPlace.loop1_body s =
      .ok ({ s with v := { s.v with Entries := pre ++ gmul s.a r :: rest }, zeros := s.zeros + 1 }, .next) := by
  obtain ⟨⟨dim, ents⟩, a, zeros, i⟩ := s
  simp only at he hi hz
  have h1 : goIdx ents i = .ok r := goIdx_mid _ _ pre r rest he hi
  have h2 : goSet ents i { r with Value := mul r.Value a } = .ok (pre ++ gmul a r :: rest) :=
    goSet_mid _ _ pre r _ rest he hi
  have h3 : goIdx (pre ++ gmul a r :: rest) i = .ok (gmul a r) := goIdx_mid _ _ pre _ rest rfl hi
  have h4 : Scalar.eq (gmul a r).Value (Scalar.zero : α) = true := hz
  simp only [Vector_scaleInPlace.loop1_body, go_run, h1, h2, h3, h4]

/-- body, product not zero, `junk.length` zeros seen so far: the entry is copied that many slots to the left
    (nothing moves when no zero was seen), so the stale slots become `(junk ++ [r']).tail`. -/
theorem scale_body_keep (s : Vector_scaleInPlace.St α) (kept junk rest : List (GEntry α)) (r : GEntry α)
    (he : s.v.Entries = kept ++ junk ++ r :: rest) (hi : s.i = ((kept ++ junk).length : Int))
    (hz : Scalar.eq (mul r.Value s.a) (Scalar.zero : α) = false) (h0 : s.zeros = (junk.length : Int)) :
    Vector_scaleInPlace.loop1_body s =
      .ok ({ s with v := { s.v with
              Entries := kept ++ gmul s.a r :: (junk ++ [gmul s.a r]).tail ++ rest } }, .next) := by
  obtain ⟨⟨dim, ents⟩, a, zeros, i⟩ := s
  simp only at he hi hz h0
  have h1 : goIdx ents i = .ok r := goIdx_mid _ _ (kept ++ junk) r rest he hi
  have h2 : goSet ents i { r with Value := mul r.Value a } = .ok ((kept ++ junk) ++ gmul a r :: rest) :=
    goSet_mid _ _ (kept ++ junk) r _ rest he hi
  have h3 : goIdx ((kept ++ junk) ++ gmul a r :: rest) i = .ok (gmul a r) :=
    goIdx_mid _ _ (kept ++ junk) _ rest rfl hi
  have h4 : Scalar.eq (gmul a r).Value (Scalar.zero : α) = false := hz
  cases junk with
  | nil =>
    have h5 : decide (zeros > 0) = false := by rw [h0]; rfl
    simp only [Vector_scaleInPlace.loop1_body, go_run, h1, h2, h3, h4, h5]
    simp
  | cons j junk =>
    have h5 : decide (zeros > 0) = true := by rw [h0]; simp
    have h6 : goSet ((kept ++ j :: junk) ++ gmul a r :: rest) (i - zeros) (gmul a r) =
        .ok (kept ++ gmul a r :: (j :: junk ++ [gmul a r]).tail ++ rest) := by
      have := goSet_mid ((kept ++ j :: junk) ++ gmul a r :: rest) (i - zeros) kept j (gmul a r)
        (junk ++ gmul a r :: rest) (by simp) (by rw [hi, h0]; simp)
      simpa using this
    simp only [Vector_scaleInPlace.loop1_body, go_run, h1, h2, h3, h4, h5, h6]

/-- the loop: `kept` = compacted prefix, `junk` = the `zeros` stale slots, `rest` = untouched suffix;
    the range list is a snapshot of which only the length matters. -/
theorem scale_loop (xs : List (GEntry α)) :
    ∀ (kept junk rest : List (GEntry α)) (s : Vector_scaleInPlace.St α),
      xs.length = rest.length → s.v.Entries = kept ++ junk ++ rest → s.zeros = (junk.length : Int) →
      ∃ s' junk', Stm.range 1 Vector_scaleInPlace.loop1_bind (Vector_scaleInPlace.loop1_body (α := α))
            ((kept ++ junk).length : Int) xs s = .ok (s', .next) ∧
        s'.v.Entries = kept ++ gscale s.a rest ++ junk' ∧ s'.zeros = (junk'.length : Int) ∧
        s'.v.Dim = s.v.Dim := by
  induction xs with
  | nil =>
    intro kept junk rest s hl he h0
    have : rest = [] := by cases rest with
      | nil => rfl
      | cons _ _ => simp at hl
    subst this
    exact ⟨s, junk, rfl, by simpa [gscale] using he, h0, rfl⟩
  | cons x xs ih =>
    intro kept junk rest s hl he h0
    cases rest with
    | nil => simp at hl
    | cons r rest =>
      have hl' : xs.length = rest.length := by simpa using hl
      cases hz : Scalar.eq (mul r.Value s.a) (Scalar.zero : α) with
      | true =>
        have hb := scale_body_zero { s with i := ((kept ++ junk).length : Int) } (kept ++ junk) rest r he rfl hz
        obtain ⟨s', junk', h1, h2, h3, h4⟩ := ih kept (junk ++ [gmul s.a r]) rest
          { v := ⟨s.v.Dim, kept ++ junk ++ gmul s.a r :: rest⟩, a := s.a, zeros := s.zeros + 1,
            i := ((kept ++ junk).length : Int) } hl'
          (show _ = kept ++ (junk ++ [gmul s.a r]) ++ rest by simp) (by simp [h0])
        refine ⟨s', junk', ?_, ?_, h3, h4⟩
        · rw [range_cons_next hb]
          have : ((kept ++ (junk ++ [gmul s.a r])).length : Int) = ((kept ++ junk).length : Int) + 1 := by
            simp; omega
          rw [this] at h1
          exact h1
        · have hg : gscale s.a (r :: rest) = gscale s.a rest := by
            simp [gscale, gmul, hz]
          rw [hg]; exact h2
      | false =>
        have hg : gscale s.a (r :: rest) = gmul s.a r :: gscale s.a rest := by
          simp [gscale, gmul, hz]
        have hb := scale_body_keep { s with i := ((kept ++ junk).length : Int) } kept junk rest r he rfl hz h0
        obtain ⟨s', junk', h1, h2, h3, h4⟩ := ih (kept ++ [gmul s.a r]) (junk ++ [gmul s.a r]).tail rest
          { v := ⟨s.v.Dim, kept ++ gmul s.a r :: (junk ++ [gmul s.a r]).tail ++ rest⟩, a := s.a,
            zeros := s.zeros, i := ((kept ++ junk).length : Int) } hl'
          (show _ = kept ++ [gmul s.a r] ++ (junk ++ [gmul s.a r]).tail ++ rest by simp)
          (by simpa using h0)
        refine ⟨s', junk', ?_, ?_, h3, h4⟩
        · rw [range_cons_next hb]
          have : ((kept ++ [gmul s.a r] ++ (junk ++ [gmul s.a r]).tail).length : Int) =
              ((kept ++ junk).length : Int) + 1 := by
            simp; omega
          rw [this] at h1
          exact h1
        · rw [hg]; simpa using h2

/-- Go `Vector.scaleInPlace`: multiply every value by `a` in place and compact away the products that compare
    equal to zero — exactly the model's `scaleEntries`. -/
theorem Vector_scaleInPlace_refines (v : Vec α) (a : α) :
    (Gen.Vector_scaleInPlace (toGV v) a).map (fun r => r.1.v) =
      .ok (toGV ⟨v.dim, scaleEntries a v.entries⟩) := by
  cases ha : Scalar.eq a (Scalar.one : α) with
  | true =>
    simp [Gen.Vector_scaleInPlace, Vector_scaleInPlace.body, Stm.run, go_run, Except.map, ha, scaleEntries,
      toGV]
  | false =>
    obtain ⟨s', junk', h1, h2, h3, h4⟩ := scale_loop (toGs v.entries) [] [] (toGs v.entries)
      { v := toGV v, a := a, zeros := 0, i := 0 } rfl rfl rfl
    simp only [List.append_nil, List.length_nil, Int.natCast_zero, List.nil_append] at h1 h2
    rw [gscale_toGs] at h2
    have hv : s'.v = ⟨(v.dim : Int), s'.v.Entries⟩ := by
      cases hs : s'.v; simp [hs] at h4 ⊢; exact h4
    cases junk' with
    | nil =>
      have h5 : decide (s'.zeros > 0) = false := by rw [h3]; simp
      simp only [Gen.Vector_scaleInPlace, Vector_scaleInPlace.body, Stm.run, go_run, Stm.rangeOver,
        Vector_scaleInPlace.loop1_xs, ha, toGV_Entries, h1, h5, Except.map]
      rw [hv, h2]
      simp [toGV, scaleEntries, ha]
    | cons j junk' =>
      have h5 : decide (s'.zeros > 0) = true := by rw [h3]; simp
      have h6 : goSlice s'.v.Entries 0 (goLen s'.v.Entries - s'.zeros) =
          .ok (toGs (v.entries.filterMap fun e =>
            let x := mul e.val a; if isZero x then none else some ⟨e.idx, x⟩)) := by
        rw [h2, h3]
        simp [goSlice]
        omega
      simp only [Gen.Vector_scaleInPlace, Vector_scaleInPlace.body, Stm.run, go_run, Stm.rangeOver,
        Vector_scaleInPlace.loop1_xs, ha, toGV_Entries, h1, h5, h6, Except.map]
      rw [h4]
      simp [toGV, scaleEntries, ha]

end EtVerif.Tr
