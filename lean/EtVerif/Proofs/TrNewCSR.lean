/-
  Refinement of the translated CSRMatrix.RowVector / SetRowVector / NewCSRMatrix (Gen/Translated.lean)
  to the model (`CSM.rowVec`, row replacement, `CSM.newCSR`).
-/
import EtVerif.Proofs.TrMatSmall
namespace EtVerif.Tr
open EtVerif EtVerif.GoSem EtVerif.Gen Scalar
variable {α : Type} [Scalar α]
set_option linter.unusedSectionVars false

theorem CSRMatrix_RowVector_refines (m : CSM α) (i : Nat) (h : i < m.rows.length) :
    (Gen.CSRMatrix_RowVector (toGM m) (i : Int)).map (fun r => r.2) = .ok (toGV (m.rowVec i)) := by
  have g : goIdx (m.rows.map toGs) (i : Int) = .ok (toGs m.rows[i]) := by
    rw [goIdx_ofNat _ _ (by simpa using h)]
    simp
  simp [Gen.CSRMatrix_RowVector, CSRMatrix_RowVector.body, Stm.run, go_run, Except.map, g, CSM.rowVec, toGV, h]

theorem CSRMatrix_SetRowVector_refines (m : CSM α) (i : Nat) (v : Vec α) (h : i < m.rows.length) :
    (Gen.CSRMatrix_SetRowVector (toGM m) (i : Int) (toGV v)).map (fun r => r.1.m) =
      .ok (toGM { m with rows := m.rows.set i v.entries }) := by
  have g : goSet (m.rows.map toGs) (i : Int) (toGs v.entries) = .ok ((m.rows.map toGs).set i (toGs v.entries)) :=
    goSet_ofNat _ _ _ (by simpa using h)
  simp [Gen.CSRMatrix_SetRowVector, CSRMatrix_SetRowVector.body, Stm.run, go_run, Except.map, g, toGM,
    List.map_set]

theorem goSort_toGs (r : List (Entry α)) : goSortEntriesByIndex (toGs r) = toGs (sortByIdx r) := by
  simp [goSortEntriesByIndex, map_entryToG]

theorem bucketCoo_length (incl : Bool) (t : List (Row α)) (e : Coo α) :
    (bucketCoo incl t e).length = t.length := by
  unfold bucketCoo
  split <;> simp

theorem NewCSR_loop1 (incl : Bool) (es : List (Coo α)) :
    ∀ (j : Int) (t : List (Row α)) (s : NewCSRMatrix.St α),
      s.entries2 = t.map toGs → s.includeZero = incl → cooRowsInRange t.length es incl = true →
      ∃ s', Stm.range 1 NewCSRMatrix.loop1_bind (NewCSRMatrix.loop1_body (α := α)) j (es.map toGCoo) s
          = .ok (s', .next) ∧
        s'.entries2 = (es.foldl (bucketCoo incl) t).map toGs ∧ s'.rows = s.rows ∧ s'.cols = s.cols := by
  induction es with
  | nil => intro j t s ht _ _; exact ⟨s, rfl, ht, rfl, rfl⟩
  | cons e es ih =>
    intro j t s ht hi hr
    have hr' : cooRowsInRange (bucketCoo incl t e).length es incl = true := by
      rw [bucketCoo_length]
      simp only [cooRowsInRange, List.all_cons, Bool.and_eq_true] at hr ⊢
      exact hr.2
    have he : ((isZero e.val && !incl) || decide (e.row < t.length)) = true := by
      simp only [cooRowsInRange, List.all_cons, Bool.and_eq_true] at hr
      exact hr.1
    cases hz : (isZero e.val && !incl) with
    | true =>
      have hb : NewCSRMatrix.loop1_body (NewCSRMatrix.loop1_bind j (toGCoo e) s) =
          .ok ({ s with e := toGCoo e }, .cont 1) := by
        have hz' : (Scalar.eq e.val (Scalar.zero : α) && !incl) = true := hz
        simp only [NewCSRMatrix.loop1_body, NewCSRMatrix.loop1_bind, go_run, toGCoo, hi, hz']
      obtain ⟨s', h1, h2, h3, h4⟩ := ih (j + 1) (bucketCoo incl t e) { s with e := toGCoo e }
        (by simp [bucketCoo, hz, ht]) hi hr'
      refine ⟨s', ?_, ?_, h3, h4⟩
      · rw [List.map_cons, range_cons_cont hb]
        exact h1
      · simpa using h2
    | false =>
      have hlt : e.row < t.length := by simpa [hz] using he
      have hlt' : e.row < (t.map toGs).length := by simpa using hlt
      have hbk : bucketCoo incl t e = t.modify e.row (· ++ [⟨e.col, e.val⟩]) := by
        simp [bucketCoo, hz]
      have hmod : (t.modify e.row (· ++ [⟨e.col, e.val⟩])).map toGs =
          (t.map toGs).set e.row ((t.map toGs)[e.row] ++ [({ Index := (e.col : Int), Value := e.val } : GEntry α)]) := by
        rw [modify_eq_set_of_lt _ _ _ hlt, List.map_set]
        simp [toG]
      have hb : NewCSRMatrix.loop1_body (NewCSRMatrix.loop1_bind j (toGCoo e) s) =
          .ok ({ s with e := toGCoo e, entries2 := (bucketCoo incl t e).map toGs }, .next) := by
        have hz' : (Scalar.eq e.val (Scalar.zero : α) && !incl) = false := hz
        simp only [NewCSRMatrix.loop1_body, NewCSRMatrix.loop1_bind, go_run, toGCoo, hi, hz', ht,
          goIdx_ofNat _ _ hlt', goSet_ofNat _ _ _ hlt', hbk, hmod]
      obtain ⟨s', h1, h2, h3, h4⟩ := ih (j + 1) (bucketCoo incl t e)
        { s with e := toGCoo e, entries2 := (bucketCoo incl t e).map toGs } rfl hi hr'
      refine ⟨s', ?_, ?_, h3, h4⟩
      · rw [List.map_cons, range_cons_next hb]
        exact h1
      · simpa using h2

/-- second loop (`for _, row := range entries2 { sort.Sort(…) }`, translated as read `entries2[i]`, sort, write
    back): the range list `xs` is a snapshot of which only the length matters. -/
theorem NewCSR_loop2 (xs : List (List (GEntry α))) :
    ∀ (done rest : List (Row α)) (s : NewCSRMatrix.St α),
      xs.length = rest.length → s.entries2 = (done.map sortByIdx).map toGs ++ rest.map toGs →
      ∃ s', Stm.range 2 NewCSRMatrix.loop2_bind (NewCSRMatrix.loop2_body (α := α)) (done.length : Int) xs s
          = .ok (s', .next) ∧
        s'.entries2 = ((done ++ rest).map sortByIdx).map toGs ∧ s'.rows = s.rows ∧ s'.cols = s.cols := by
  induction xs with
  | nil =>
    intro done rest s hl he
    have : rest = [] := by cases rest with
      | nil => rfl
      | cons _ _ => simp at hl
    subst this
    exact ⟨s, rfl, by simpa using he, rfl, rfl⟩
  | cons x xs ih =>
    intro done rest s hl he
    cases rest with
    | nil => simp at hl
    | cons r rest =>
      have hl' : xs.length = rest.length := by simpa using hl
      have hlen : (done.length : Int) = (((done.map sortByIdx).map toGs).length : Int) := by simp
      have g1 : goIdx s.entries2 (done.length : Int) = .ok (toGs r) :=
        goIdx_mid _ _ ((done.map sortByIdx).map toGs) (toGs r) (rest.map toGs) (by simpa using he) hlen
      have g2 : goSet s.entries2 (done.length : Int) (toGs (sortByIdx r)) =
          .ok ((done.map sortByIdx).map toGs ++ toGs (sortByIdx r) :: rest.map toGs) :=
        goSet_mid _ _ ((done.map sortByIdx).map toGs) (toGs r) _ (rest.map toGs) (by simpa using he) hlen
      have hb : NewCSRMatrix.loop2_body (NewCSRMatrix.loop2_bind (done.length : Int) x s) =
          .ok ({ s with rangeIdx := (done.length : Int), row := toGs (sortByIdx r),
                        entries2 := (done.map sortByIdx).map toGs ++ toGs (sortByIdx r) :: rest.map toGs }, .next) := by
        simp only [NewCSRMatrix.loop2_body, NewCSRMatrix.loop2_bind, go_run, g1, g2, goSort_toGs]
      obtain ⟨s', h1, h2, h3, h4⟩ := ih (done ++ [r]) rest
        { s with rangeIdx := (done.length : Int), row := toGs (sortByIdx r),
                 entries2 := (done.map sortByIdx).map toGs ++ toGs (sortByIdx r) :: rest.map toGs }
        hl' (by simp)
      refine ⟨s', ?_, ?_, h3, h4⟩
      · rw [range_cons_next hb]
        have : ((done ++ [r]).length : Int) = (done.length : Int) + 1 := by simp
        rw [this] at h1
        exact h1
      · simpa using h2

/-- Go `NewCSRMatrix` = the model's `CSM.newCSR` (bucket by row in input order, zeros dropped unless asked for,
    every row sorted by column), for coordinate lists whose kept entries have a row index `< rows` (otherwise the
    Go code panics on `entries2[e.Row]`). -/
theorem NewCSRMatrix_refines (rows cols : Nat) (es : List (Coo α)) (incl : Bool)
    (hr : cooRowsInRange rows es incl = true) :
    (Gen.NewCSRMatrix (rows : Int) (cols : Int) (es.map toGCoo) incl).map (fun r => r.2) =
      .ok (toGM (CSM.newCSR rows cols es incl)) := by
  let s0 : NewCSRMatrix.St α :=
    { rows := (rows : Int), cols := (cols : Int), entries := es.map toGCoo, includeZero := incl,
      entries2 := (List.replicate rows ([] : Row α)).map toGs, e := (GCooEntry.zero : GCooEntry α),
      row := ([] : List (GEntry α)), rangeIdx := (0 : Int), m := (GCSMatrix.zero : GCSMatrix α) }
  obtain ⟨s1, a1, a2, a3, a4⟩ := NewCSR_loop1 incl es 0 (List.replicate rows []) s0 rfl rfl (by simpa using hr)
  obtain ⟨s2, b1, b2, b3, b4⟩ := NewCSR_loop2 s1.entries2 [] (es.foldl (bucketCoo incl) (List.replicate rows [])) s1
    (by simp [a2]) (by simp [a2])
  simp only [List.length_nil, Int.natCast_zero] at b1
  simp only [List.nil_append] at b2
  have hfin : s2.rows = (rows : Int) ∧ s2.cols = (cols : Int) := ⟨by rw [b3, a3], by rw [b4, a4]⟩
  cases rows with
  | zero =>
    simp only [Gen.NewCSRMatrix, NewCSRMatrix.body, Stm.run, go_run, Stm.rangeOver, NewCSRMatrix.loop1_xs,
      NewCSRMatrix.loop2_xs, Except.map, Int.natCast_zero, decide_true, Bool.not_true]
    have a1' := a1
    simp only [s0, List.replicate_zero, List.map_nil, Int.natCast_zero] at a1'
    simp only [a1', b1]
    simp [toGM, CSM.newCSR, b2, hfin.1, hfin.2]
  | succ n =>
    have hne : ¬ (((n + 1 : Nat) : Int) = 0) := by omega
    simp only [Gen.NewCSRMatrix, NewCSRMatrix.body, Stm.run, go_run, Stm.rangeOver, NewCSRMatrix.loop1_xs,
      NewCSRMatrix.loop2_xs, Except.map, hne, decide_false, Bool.not_false, goMake_natCast]
    have a1' := a1
    simp only [s0, List.map_replicate, toGs_nil] at a1'
    simp only [a1', b1]
    simp [toGM, CSM.newCSR, b2, hfin.1, hfin.2]

end EtVerif.Tr
