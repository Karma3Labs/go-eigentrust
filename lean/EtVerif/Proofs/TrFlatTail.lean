/-
  Refinement of the translated flat-tail checker of pkg/basic (Gen/Translated.lean) to the hand-written
  model (`FlatTailStats.init`, `FlatTailStats.update`, `rankOf`).
-/
import EtVerif.Proofs.TrBridge
namespace EtVerif.Tr
open EtVerif EtVerif.GoSem EtVerif.Gen Scalar
variable {α : Type} [Scalar α]

-- some statements do not use the scalar operations; the instance stays in the signatures for uniformity
set_option linter.unusedSectionVars false

/-- `NewFlatTailChecker` resets whatever statistics object it is given (or a fresh one) to the initial stats. -/
theorem NewFlatTailChecker_refines (len nl : Int) (s0 : Option (GFlatTailStats α)) :
    (Gen.NewFlatTailChecker len nl s0).map (fun r => r.2) =
      .ok { length := len, numLeaders := nl, stats := some (toGStats (FlatTailStats.init : FlatTailStats α)) } := by
  cases s0 <;>
  simp [go_run, Gen.NewFlatTailChecker, NewFlatTailChecker.body, Stm.run, goDeref, toGStats, FlatTailStats.init,
    Except.map]

theorem insertByVal_length (e : Entry α) (es : List (Entry α)) :
    (insertByVal e es).length = es.length + 1 := by
  induction es with
  | nil => rfl
  | cons x xs ih =>
    simp only [insertByVal]
    split <;> simp [ih]

theorem sortByVal_length (es : List (Entry α)) : (sortByVal es).length = es.length := by
  induction es with
  | nil => rfl
  | cons x xs ih =>
    have : sortByVal (x :: xs) = insertByVal x (sortByVal xs) := rfl
    rw [this, insertByVal_length, ih, List.length_cons]

theorem rankOf_ne_nil (es : List (Entry α)) (nl : Nat) (hes : es ≠ []) (hnl : 0 < nl) :
    rankOf es nl ≠ [] := by
  have hl : 0 < es.length := List.length_pos_iff.mpr hes
  intro h
  have h2 := congrArg List.length h
  simp only [rankOf, List.length_map, sortByVal_length] at h2
  by_cases hc : es.length > nl
  · simp only [hc, if_true, List.length_drop, List.length_map, sortByVal_length, List.length_nil] at h2
    omega
  · simp only [hc, if_false, List.length_map, sortByVal_length, List.length_nil] at h2
    omega

/-- The truncation `ranking[len(ranking)-numLeaders:]` (when longer than `numLeaders`) on the Go side is the
    model's `drop`. -/
theorem go_truncate (r : List Nat) (nl : Nat) :
    (if (r.length : Int) > (nl : Int) then
        goSlice (r.map (fun (i : Nat) => (i : Int))) ((r.length : Int) - (nl : Int)) (r.length : Int)
      else .ok (r.map (fun (i : Nat) => (i : Int)))) =
      .ok ((if r.length > nl then r.drop (r.length - nl) else r).map (fun (i : Nat) => (i : Int))) := by
  by_cases h : r.length > nl
  · have h1 : (r.length : Int) > (nl : Int) := by omega
    have h2 : ((r.length : Int) - (nl : Int)).toNat = r.length - nl := by omega
    have h3 : (0 : Int) ≤ (r.length : Int) - (nl : Int) ∧ (r.length : Int) - (nl : Int) ≤ (r.length : Int) := by
      omega
    have h4 : List.take r.length (r.map (fun (i : Nat) => (i : Int))) = r.map (fun (i : Nat) => (i : Int)) :=
      List.take_of_length_le (by simp)
    simp [goSlice, h, h1, h2, h3, h4, List.map_drop, Nat.le_of_lt h]
  · have h1 : ¬ ((r.length : Int) > (nl : Int)) := by omega
    simp [h, h1]

/-- `reflect.DeepEqual(ranking, stats.Ranking)` against a non-empty new ranking is the model's comparison. -/
theorem deepEqual_ranking (r : List Nat) (o : Option (List Nat)) (hr : r ≠ []) :
    goDeepEqualInts (r.map (fun (i : Nat) => (i : Int))) ((o.getD []).map (fun (i : Nat) => (i : Int))) =
      .ok (decide (o = some r)) := by
  have hinj : ∀ (a b : Nat), (fun (i : Nat) => (i : Int)) a = (fun (i : Nat) => (i : Int)) b → a = b :=
    fun a b h => Int.ofNat.inj h
  have hne : ¬ (r.map (fun (i : Nat) => (i : Int)) = []) := by simpa using hr
  have hiff : (r.map (fun (i : Nat) => (i : Int)) = (o.getD []).map (fun (i : Nat) => (i : Int))) ↔
      o = some r := by
    rw [List.map_inj_right hinj]
    cases o with
    | none => simp [hr]
    | some r' => simp [eq_comm]
  simp only [goDeepEqualInts, hne, false_and, if_false, hiff]

theorem FlatTailChecker_Update_loop (es : List (GEntry α)) :
    ∀ (i : Int) (s : FlatTailChecker_Update.St α),
      ∃ e', Stm.range 1 FlatTailChecker_Update.loop1_bind (FlatTailChecker_Update.loop1_body (α := α)) i es s =
        .ok ({ s with entry := e', ranking := s.ranking ++ es.map (·.Index) }, .next) := by
  induction es with
  | nil => intro i s; exact ⟨s.entry, by simp⟩
  | cons e es ih =>
    intro i s
    obtain ⟨e', h⟩ := ih (i + 1) { s with entry := e, ranking := s.ranking ++ [e.Index] }
    refine ⟨e', ?_⟩
    rw [range_cons_next (s1 := { s with entry := e, ranking := s.ranking ++ [e.Index] })]
    · rw [h]; simp
    · simp [FlatTailChecker_Update.loop1_body, FlatTailChecker_Update.loop1_bind, Stm.set, pure, Except.pure]

/-- `FlatTailChecker.Update` = the model's `FlatTailStats.update` on the ranking `rankOf` of the vector
    (the `numLeaders` highest-scored peers in ascending score order), provided the new ranking is not empty
    (a non-empty vector and at least one leader) — the one case where Go's nil-vs-empty slice distinction,
    which lists do not carry, would matter. -/
theorem FlatTailChecker_Update_refines (len : Int) (nl : Nat) (s : FlatTailStats α) (v : Vec α) (d : α)
    (hv : v.entries ≠ []) (hnl : 0 < nl) :
    (Gen.FlatTailChecker_Update { length := len, numLeaders := (nl : Int), stats := some (toGStats s) }
        (toGV v) d).map (fun r => r.1.c) =
      .ok { length := len, numLeaders := (nl : Int),
            stats := some (toGStats (s.update (rankOf v.entries nl) d)) } := by
  obtain ⟨e', hloop⟩ := FlatTailChecker_Update_loop (toGs (sortByVal v.entries)) 0
    { c := { length := len, numLeaders := (nl : Int), stats := some (toGStats s) }, t := toGV v, d := d,
      entries := toGs (sortByVal v.entries), ranking := [], entry := GEntry.zero }
  have hsort : goSortEntriesByValue (toGs v.entries) = toGs (sortByVal v.entries) := by
    simp [goSortEntriesByValue, map_entryToG]
  have hrank : (toGs (sortByVal v.entries)).map (·.Index) =
      ((sortByVal v.entries).map (·.idx)).map (fun (i : Nat) => (i : Int)) := by
    simp [toGs, Function.comp_def]
  simp only [hrank, List.nil_append] at hloop
  have hde := deepEqual_ranking (rankOf v.entries nl) s.ranking (rankOf_ne_nil v.entries nl hv hnl)
  have htr := go_truncate ((sortByVal v.entries).map (·.idx)) nl
  have hro : rankOf v.entries nl =
      if ((sortByVal v.entries).map (·.idx)).length > nl then
        ((sortByVal v.entries).map (·.idx)).drop (((sortByVal v.entries).map (·.idx)).length - nl)
      else (sortByVal v.entries).map (·.idx) := rfl
  rw [← hro] at htr
  suffices h : FlatTailChecker_Update.body
      { c := { length := len, numLeaders := (nl : Int), stats := some (toGStats s) }, t := toGV v, d := d,
        entries := [], ranking := [], entry := (GEntry.zero : GEntry α) } =
      .ok ({ c := { length := len, numLeaders := (nl : Int),
                    stats := some (toGStats (s.update (rankOf v.entries nl) d)) },
             t := toGV v, d := d, entries := toGs (sortByVal v.entries),
             ranking := (rankOf v.entries nl).map (fun (i : Nat) => (i : Int)), entry := e' }, .next) by
    simp only [Gen.FlatTailChecker_Update, Stm.run, h, Except.map]
  unfold FlatTailChecker_Update.body
  refine (seq_next (s1 := ?s1) ?h1).trans ?_
  case h1 =>
    simp only [go_run, goSlice_zero_zero, List.nil_append, toGV_Entries, hsort]
    rfl
  refine (seq_next (s1 := ?s2) ?h2).trans ?_
  case h2 =>
    simp only [go_run, goMake_zero]
    rfl
  refine (seq_next (s1 := ?s3) ?h3).trans ?_
  case h3 =>
    simp only [Stm.rangeOver, FlatTailChecker_Update.loop1_xs, pure, Except.pure]
    exact hloop
  refine (seq_next (ite_set_skip (b := decide ((((sortByVal v.entries).map (·.idx)).length : Int) > (nl : Int)))
    (s1 := ?s4) ?hc ?h4)).trans ?_
  case hc => simp only [goLen_eq, List.length_map, pure, Except.pure]
  case h4 =>
    simp only [goLen_eq, List.length_map, decide_eq_true_eq, bind, Except.bind] at htr ⊢
    split at htr
    · rw [if_pos ‹_›, htr]
      rfl
    · rw [if_neg ‹_›, Except.ok.inj htr]
  have hgs : goDeref (some (toGStats s)) = .ok (toGStats s) := rfl
  have hR : (toGStats s).Ranking = (s.ranking.getD []).map (fun (i : Nat) => (i : Int)) := rfl
  simp only [Stm.ite, hgs, hR, hde, bind, Except.bind]
  by_cases heq : s.ranking = some (rankOf v.entries nl)
  · simp [heq, FlatTailStats.update, toGStats, Stm.set, goDeref, pure, Except.pure]
  · by_cases hth : s.threshold ≤ s.length <;> by_cases hpos : 0 < s.length <;>
    simp [heq, hth, hpos, FlatTailStats.update, toGStats, Stm.seq, Stm.ite, Stm.set, Stm.skip, goDeref, pure,
      Except.pure]

theorem FlatTailChecker_Reached_refines (len : Nat) (nl : Int) (s : FlatTailStats α) :
    (Gen.FlatTailChecker_Reached { length := (len : Int), numLeaders := nl, stats := some (toGStats s) }).map
        (fun r => r.2) = .ok (decide (s.length ≥ len)) := by
  simp [go_run, Gen.FlatTailChecker_Reached, FlatTailChecker_Reached.body, Stm.run, goDeref, toGStats, Except.map]

theorem FlatTailChecker_Stats_refines (c : GFlatTailChecker α) (g : GFlatTailStats α) (h : c.stats = some g) :
    (Gen.FlatTailChecker_Stats c).map (fun r => r.2) = .ok g := by
  simp [Gen.FlatTailChecker_Stats, FlatTailChecker_Stats.body, Stm.run, Stm.ret, goDeref, h, Except.map]

end EtVerif.Tr
