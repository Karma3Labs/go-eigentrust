/-
  Helper lemmas for Model/Mmap.lean (swap-out of pkg/sparse/matrix.go: Mmap, Munmap, finalize,
  Reset, Merge): a branch-by-branch normal form of `mmap` and the case analysis over its exits
  (`mmap_cases`, through which everything about `mmap` is proved), the state invariant `MInv`, the
  operation language `Op`/`run`, and the list lemmas they need.
  Everything here is stated for an arbitrary `Scalar α` (no field needed).
-/
import EtVerif.Model.Mmap
import EtVerif.Proofs.Matrix

namespace EtVerif.Mm
open EtVerif Scalar

variable {α : Type} [Scalar α]

set_option linter.unusedSectionVars false

/-- the invisible part `Entries[len:cap]` holds only nil rows (`HiddenClean` for any scalar) -/
def HClean (M : CSM α) : Prop := ∀ r ∈ M.hidden, r = []

/-- the "already mapped" test at the head of `CSMatrix.Mmap`: a mapping is adopted and no non-empty
    row lies outside it -/
def alreadyClean (s : MState α) : Bool :=
  match s.mapped with
  | some id => !dirty s id
  | none => false

theorem alreadyClean_iff (s : MState α) :
    alreadyClean s = true ↔ ∃ id, s.mapped = some id ∧ dirty s id = false := by
  unfold alreadyClean
  cases s.mapped with
  | none => simp
  | some id => simp

/-- the context is found cancelled at one of the polls of the copy loop -/
def cancelled (f : Faults) (s : MState α) : Bool :=
  match f.cancelAtRow with
  | some k => decide (k < s.m.rows.length)
  | none => false

theorem cancelled_iff (f : Faults) (s : MState α) :
    cancelled f s = true ↔ ∃ k, f.cancelAtRow = some k ∧ k < s.m.rows.length := by
  unfold cancelled
  cases f.cancelAtRow with
  | none => simp
  | some k => simp

theorem cancelled_eq_false_iff (f : Faults) (s : MState α) :
    cancelled f s = false ↔ ∀ k, f.cancelAtRow = some k → s.m.rows.length ≤ k := by
  unfold cancelled
  cases f.cancelAtRow with
  | none => simp
  | some k => simp

def Faults.sysFault (f : Faults) : Bool := f.createTemp || f.truncate || f.mmapSys || f.remove

theorem Faults.sysFault_eq_false_iff (f : Faults) :
    f.sysFault = false ↔
      f.createTemp = false ∧ f.truncate = false ∧ f.mmapSys = false ∧ f.remove = false := by
  unfold Faults.sysFault
  simp only [Bool.or_eq_false_iff, and_assoc]

/-- state after a failed `Truncate`/`syscall.Mmap`: both `defer`s ran (close, unlink) -/
def failSt (s : MState α) : MState α :=
  { s with led := { files := rmv (s.led.next :: s.led.files) s.led.next,
                    fds := rmv (s.led.next :: s.led.fds) s.led.next,
                    maps := s.led.maps, next := s.led.next + 1 } }

/-- state after a failed `os.Remove`: the deferred unmap ran, the file stays -/
def removeSt (s : MState α) : MState α :=
  { s with led := { files := s.led.next :: s.led.files,
                    fds := rmv (s.led.next :: s.led.fds) s.led.next,
                    maps := rmv ((s.led.next + 1) :: s.led.maps) (s.led.next + 1),
                    next := s.led.next + 1 + 1 } }

/-- state after a cancellation during the copy: the deferred unmap ran, file already unlinked -/
def cancelSt (s : MState α) : MState α :=
  { s with led := { files := rmv (s.led.next :: s.led.files) s.led.next,
                    fds := rmv (s.led.next :: s.led.fds) s.led.next,
                    maps := rmv ((s.led.next + 1) :: s.led.maps) (s.led.next + 1),
                    next := s.led.next + 1 + 1 } }

/-- state after a completed swap-out: rows re-pointed into the new mapping `next + 1`,
    the previous mapping (if any) released -/
def okSt (s : MState α) : MState α :=
  { m := { s.m with hidden := s.m.hidden.map fun _ => [] },
    locs := s.m.rows.map fun _ => Loc.map (s.led.next + 1),
    mapped := some (s.led.next + 1),
    led := { files := rmv (s.led.next :: s.led.files) s.led.next,
             fds := rmv (s.led.next :: s.led.fds) s.led.next,
             maps := match s.mapped with
               | some old => rmv ((s.led.next + 1) :: s.led.maps) old
               | none => (s.led.next + 1) :: s.led.maps,
             next := s.led.next + 1 + 1 } }

/-- the exits of `CSMatrix.Mmap` once a temp file is needed (from `os.CreateTemp` on) -/
def slowPath (f : Faults) (s : MState α) : MState α × Except MErr Unit :=
  if f.createTemp then (s, .error .sys)
  else if f.truncate then (failSt s, .error .sys)
  else if f.mmapSys then (failSt s, .error .sys)
  else if f.remove then (removeSt s, .error .sys)
  else if cancelled f s then (cancelSt s, .error .ctx)
  else (okSt s, .ok ())

/-- `mmap` as a flat decision list -/
theorem mmap_eq (f : Faults) (s : MState α) :
    mmap f s =
      if alreadyClean s then (s, .ok ())
      else if s.m.nnz = 0 then (munmap s, .ok ())
      else slowPath f s := by
  unfold mmap alreadyClean slowPath cancelled
  cases f.cancelAtRow with
  | none => rfl
  | some k =>
    by_cases hlt : k < s.m.rows.length
    · simp only [hlt, if_true, decide_true]
      rfl
    · simp only [hlt, if_false, decide_false]
      rfl

theorem rmv_cons_self {l : List Nat} {x : Nat} (h : x ∉ l) : rmv (x :: l) x = l := by
  unfold rmv
  rw [List.filter_cons_of_neg (by simp)]
  exact List.filter_eq_self.mpr (fun a ha => by
    have : a ≠ x := fun e => h (e ▸ ha)
    simpa using this)

theorem rmv_singleton (x : Nat) : rmv [x] x = [] := rmv_cons_self (by simp)

theorem rmv_pair {a b : Nat} (h : a ≠ b) : rmv [a, b] b = [a] := by
  unfold rmv
  simp [h]

theorem snd_of_mem_zip_const {β γ : Type} {l : List β} {c : γ} {p : β × γ}
    (h : p ∈ l.zip (l.map fun _ => c)) : p.2 = c := by
  obtain ⟨a, b⟩ := p
  have := (List.of_mem_zip h).2
  obtain ⟨_, _, rfl⟩ := List.mem_map.mp this
  rfl

theorem snd_of_mem_zip_replicate {β γ : Type} {l : List β} {k : Nat} {c : γ} {p : β × γ}
    (h : p ∈ l.zip (List.replicate k c)) : p.2 = c := by
  obtain ⟨a, b⟩ := p
  exact List.eq_of_mem_replicate (List.of_mem_zip h).2

/-- the location table brought to `n` rows as `SetMajorDim` and `Merge` do it: new rows are on the
    heap, dropped rows are forgotten -/
def padLocs (locs : List Loc) (n : Nat) : List Loc :=
  (locs ++ List.replicate (n - locs.length) Loc.heap).take n

theorem padLocs_length (locs : List Loc) (n : Nat) : (padLocs locs n).length = n := by
  unfold padLocs
  rw [List.length_take, List.length_append, List.length_replicate]
  omega

theorem nnz_eq_zero_iff (M : CSM α) : M.nnz = 0 ↔ ∀ r ∈ M.rows, r = [] := by
  unfold CSM.nnz
  induction M.rows with
  | nil => simp
  | cons a l ih =>
    simp only [List.map_cons, List.sum_cons, List.mem_cons, forall_eq_or_imp]
    constructor
    · intro h
      exact ⟨List.eq_nil_of_length_eq_zero (by omega), ih.mp (by omega)⟩
    · rintro ⟨rfl, h⟩
      simp [ih.mpr h]

theorem not_isEmpty_iff {β : Type} (r : List β) : (!r.isEmpty) = true ↔ r ≠ [] := by
  cases r <;> simp

/-! ### `dirty`, `inMapCount`, `nonEmptyCount` -/

theorem dirty_eq_true_iff (s : MState α) (id : Nat) :
    dirty s id = true ↔ ∃ p ∈ s.m.rows.zip s.locs, p.1 ≠ [] ∧ p.2 ≠ Loc.map id := by
  unfold dirty
  rw [List.any_eq_true]
  constructor
  · rintro ⟨⟨r, l⟩, hp, h⟩
    simp only [Bool.and_eq_true, bne_iff_ne, ne_eq] at h
    exact ⟨(r, l), hp, (not_isEmpty_iff r).mp h.1, h.2⟩
  · rintro ⟨⟨r, l⟩, hp, h1, h2⟩
    refine ⟨(r, l), hp, ?_⟩
    simp only [Bool.and_eq_true, bne_iff_ne, ne_eq]
    exact ⟨(not_isEmpty_iff r).mpr h1, h2⟩

theorem dirty_eq_false_iff (s : MState α) (id : Nat) :
    dirty s id = false ↔ ∀ p ∈ s.m.rows.zip s.locs, p.1 ≠ [] → p.2 = Loc.map id := by
  rw [← Bool.not_eq_true, dirty_eq_true_iff]
  constructor
  · intro h p hp hne
    apply Classical.byContradiction
    intro hc
    exact h ⟨p, hp, hne, hc⟩
  · rintro h ⟨p, hp, hne, hc⟩
    exact hc (h p hp hne)

theorem nnz_ne_zero_of_dirty {s : MState α} {id : Nat} (h : dirty s id = true) : s.m.nnz ≠ 0 := by
  obtain ⟨⟨r, l⟩, hp, hne, _⟩ := (dirty_eq_true_iff s id).mp h
  intro h0
  exact hne ((nnz_eq_zero_iff s.m).mp h0 r (List.of_mem_zip hp).1)

/-- a matrix without stored entries is never dirty, hence `alreadyClean` iff a mapping is adopted -/
theorem mapped_none_of_not_clean_of_empty {s : MState α} (hc : alreadyClean s = false)
    (h0 : s.m.nnz = 0) : s.mapped = none := by
  unfold alreadyClean at hc
  cases hm : s.mapped with
  | none => rfl
  | some id =>
    rw [hm] at hc
    simp only [Bool.not_eq_eq_eq_not, Bool.not_false] at hc
    exact absurd h0 (nnz_ne_zero_of_dirty hc)

theorem filter_zip_length {rows : List (Row α)} {locs : List Loc} (p : Row α × Loc → Bool)
    (q : Row α → Bool) (hl : locs.length = rows.length)
    (h : ∀ x ∈ rows.zip locs, p x = q x.1) :
    ((rows.zip locs).filter p).length = (rows.filter q).length := by
  induction rows generalizing locs with
  | nil => simp
  | cons r rows ih =>
    cases locs with
    | nil => simp at hl
    | cons l locs =>
      simp only [List.zip_cons_cons, List.filter_cons]
      have h1 : p (r, l) = q r := h (r, l) (by simp)
      have h2 := ih (locs := locs) (by simpa using hl) (fun x hx => h x (by simp [hx]))
      rw [h1]
      cases q r <;> simp [h2]

theorem inMapCount_eq_of_not_dirty {s : MState α} {id : Nat} (hm : s.mapped = some id)
    (hl : s.locs.length = s.m.rows.length) (hd : dirty s id = false) :
    inMapCount s = nonEmptyCount s := by
  unfold inMapCount nonEmptyCount
  rw [hm]
  simp only []
  apply filter_zip_length _ _ hl
  rintro ⟨r, l⟩ hx
  have := (dirty_eq_false_iff s id).mp hd (r, l) hx
  simp only at this ⊢
  by_cases hr : r = []
  · subst hr; rfl
  · rw [this hr]
    simp

theorem inMapCount_eq_zero_of_empty {s : MState α} (h0 : s.m.nnz = 0) : inMapCount s = 0 := by
  unfold inMapCount
  cases s.mapped with
  | none => rfl
  | some id =>
    rw [List.length_eq_zero_iff, List.filter_eq_nil_iff]
    rintro ⟨r, l⟩ hp
    rw [(nnz_eq_zero_iff s.m).mp h0 r (List.of_mem_zip hp).1]
    simp

theorem nonEmptyCount_eq_zero_of_empty {s : MState α} (h0 : s.m.nnz = 0) : nonEmptyCount s = 0 := by
  unfold nonEmptyCount
  rw [List.length_eq_zero_iff, List.filter_eq_nil_iff]
  intro r hr
  rw [(nnz_eq_zero_iff s.m).mp h0 r hr]
  simp

/-! ### resizing, for any scalar -/

theorem setMajorDim_rows_take (M : CSM α) (d : Nat) :
    ∃ X, (M.setMajorDim d).rows = (M.rows ++ X).take d := by
  unfold CSM.setMajorDim; simp only
  split
  · refine ⟨List.replicate (d - M.rows.length) [], ?_⟩
    simp only []
    rw [List.take_of_length_le]
    simp only [List.length_append, List.length_replicate]; omega
  · exact ⟨M.hidden, rfl⟩

theorem setMinorDim_rows_of_le (M : CSM α) {d : Nat} (h : M.minor ≤ d) :
    (M.setMinorDim d).rows = M.rows := by
  unfold CSM.setMinorDim
  rw [if_neg (by omega)]

theorem setMinorDim_rows_map (M : CSM α) (d : Nat) :
    ∃ g : Row α → Row α, (∀ r, g r ≠ [] → r ≠ []) ∧ (M.setMinorDim d).rows = M.rows.map g := by
  unfold CSM.setMinorDim
  split
  · refine ⟨fun r => r.takeWhile (·.idx < d), ?_, rfl⟩
    intro r h hr
    subst hr
    exact h rfl
  · exact ⟨id, fun _ h => h, by simp⟩

theorem setDim_length (M : CSM α) (r c : Nat) : (M.setDim r c).rows.length = r := by
  unfold CSM.setDim
  rw [Mx.setMinorDim_length, Mx.setMajorDim_length]

theorem setDim_hclean {M : CSM α} (hc : HClean M) (r c : Nat) : HClean (M.setDim r c) := by
  unfold CSM.setDim HClean
  rw [Mx.setMinorDim_hidden]
  exact Mx.setMajorDim_hidden_nil hc r

theorem mergeRows_nil_right (t : List (Row α)) : mergeRows t [] = t := by
  cases t <;> rfl

/-- the row table of the receiver just before the row-wise merge of `CSMatrix.Merge` -/
def grownRows (A B : CSM α) : List (Row α) := (A.setMajorDim (max A.major B.major)).rows

theorem merge_rows (A B : CSM α) : (A.merge B).1.rows = mergeRows (grownRows A B) B.rows := by
  unfold CSM.merge grownRows
  simp only []
  rw [setMinorDim_rows_of_le _ (by rw [Mx.setMajorDim_minor]; exact Nat.le_max_left _ _)]

theorem merge_grown_rows (A B : CSM α) :
    ((A.setMajorDim (max A.major B.major)).setMinorDim (max A.minor B.minor)).rows =
      grownRows A B := by
  unfold grownRows
  rw [setMinorDim_rows_of_le _ (by rw [Mx.setMajorDim_minor]; exact Nat.le_max_left _ _)]

theorem merge_length (A B : CSM α) : (A.merge B).1.rows.length = max A.major B.major :=
  Mx.merge_length A B

theorem merge_hclean {A : CSM α} (hc : HClean A) (B : CSM α) : HClean (A.merge B).1 := by
  unfold HClean
  rw [Mx.merge_hidden]
  exact Mx.setMajorDim_hidden_nil hc _

/-! ### no dangling pointers -/

/-- every non-empty row that points into a mapping points into the adopted one -/
def AllGood (mp : Option Nat) (rows : List (Row α)) (locs : List Loc) : Prop :=
  ∀ p ∈ rows.zip locs, ∀ id, p.1 ≠ [] → p.2 = Loc.map id → mp = some id

theorem allGood_const_heap (mp : Option Nat) (rows : List (Row α)) :
    AllGood mp rows (rows.map fun _ => Loc.heap) := by
  intro p hp id _ h
  rw [snd_of_mem_zip_const hp] at h
  cases h

theorem allGood_const_map (rows : List (Row α)) (id : Nat) :
    AllGood (some id) rows (rows.map fun _ => Loc.map id) := by
  intro p hp id' _ h
  rw [snd_of_mem_zip_const hp] at h
  cases h
  rfl

theorem allGood_nil (mp : Option Nat) : AllGood mp ([] : List (Row α)) [] := by
  intro p hp
  simp at hp

theorem allGood_grow {mp : Option Nat} {rows : List (Row α)} {locs : List Loc}
    (h : AllGood mp rows locs) (hl : locs.length = rows.length) (X : List (Row α)) (d : Nat) :
    AllGood mp ((rows ++ X).take d) (padLocs locs d) := by
  intro p hp id hne hid
  unfold padLocs at hp
  rw [List.zip_eq_zipWith, ← List.take_zipWith, ← List.zip_eq_zipWith, List.zip_append hl.symm] at hp
  rcases List.mem_append.mp (List.mem_of_mem_take hp) with hp | hp
  · exact h p hp id hne hid
  · rw [snd_of_mem_zip_replicate hp] at hid
    cases hid

theorem allGood_map {mp : Option Nat} {rows : List (Row α)} {locs : List Loc}
    (h : AllGood mp rows locs) {g : Row α → Row α} (hg : ∀ r, g r ≠ [] → r ≠ []) :
    AllGood mp (rows.map g) locs := by
  intro p hp id hne hid
  rw [List.zip_map_left] at hp
  obtain ⟨q, hq, rfl⟩ := List.mem_map.mp hp
  exact h q hq id (hg _ hne) hid

theorem allGood_merge {mp : Option Nat} (g : List (Row α)) (lg : List Loc) (u : List (Row α))
    (h : AllGood mp g lg) : AllGood mp (mergeRows g u) (mergeLocs g lg u) := by
  fun_induction mergeLocs g lg u with
  | case1 r1 t1 l1 tl r2 t2 ih =>
    have ht : AllGood mp t1 tl := fun p hp => h p (by simp [hp])
    intro p hp id hne hid
    simp only [mergeRows, List.zip_cons_cons, List.mem_cons] at hp
    rcases hp with rfl | hp
    · simp only at hne hid
      cases r2 with
      | nil =>
        simp only [List.isEmpty_nil, if_true] at hid
        rw [Mx.mergeSpan_nil_right] at hne
        exact h (r1, l1) (by simp) id hne hid
      | cons b r2 =>
        simp at hid
    · exact ih ht p hp id hne hid
  | case2 t1 tl =>
    rw [mergeRows_nil_right]
    exact h
  | case3 t1 tl u hx hy =>
    intro p hp
    simp at hp

theorem mergeLocs_length (g : List (Row α)) (lg : List Loc) (u : List (Row α))
    (hl : lg.length = g.length) : (mergeLocs g lg u).length = g.length := by
  fun_induction mergeLocs g lg u with
  | case1 r1 t1 l1 tl r2 t2 ih =>
    simp only [List.length_cons] at hl ⊢
    rw [ih (by omega)]
  | case2 t1 tl => exact hl
  | case3 t1 tl u hx hy =>
    cases t1 with
    | nil => rfl
    | cons r1 t1 =>
      cases tl with
      | nil => simp at hl
      | cons l1 tl =>
        cases u with
        | nil => exact absurd rfl hx
        | cons r2 t2 => exact (hy r1 t1 l1 tl r2 t2 rfl rfl rfl).elim

/-- a row of the update that is not empty makes the corresponding receiver row heap-allocated -/
theorem mergeLocs_heap (g : List (Row α)) (lg : List Loc) (u : List (Row α))
    (hl : lg.length = g.length) {i : Nat} (hi : i < g.length) {r2 : Row α}
    (hu : u[i]? = some r2) (hne : r2 ≠ []) : (mergeLocs g lg u)[i]? = some Loc.heap := by
  fun_induction mergeLocs g lg u generalizing i with
  | case1 r1 t1 l1 tl r2' t2 ih =>
    cases i with
    | zero =>
      simp only [List.getElem?_cons_zero, Option.some.injEq] at hu
      subst hu
      cases r2' with
      | nil => exact absurd rfl hne
      | cons _ _ => simp
    | succ i =>
      simp only [List.getElem?_cons_succ] at hu ⊢
      exact ih (by simpa using hl) (by simpa using hi) hu
  | case2 t1 tl => simp at hu
  | case3 t1 tl u hx hy =>
    cases t1 with
    | nil => simp at hi
    | cons r1 t1 =>
      cases tl with
      | nil => simp at hl
      | cons l1 tl =>
        cases u with
        | nil => simp at hu
        | cons r2' t2 => exact (hy r1 t1 l1 tl r2' t2 rfl rfl rfl).elim

/-- the form in which `dirty_mergeFrom` uses `mergeLocs_heap` -/
theorem mergeLocs_heap_mem (g : List (Row α)) (lg : List Loc) (u : List (Row α))
    (hl : lg.length = g.length) {i : Nat} (hne : (mergeRows g u).getD i [] ≠ [])
    (hu : u.getD i [] ≠ []) :
    ((mergeRows g u).getD i [], Loc.heap) ∈ (mergeRows g u).zip (mergeLocs g lg u) := by
  rw [List.getD_eq_getElem?_getD] at hne hu ⊢
  cases hr : u[i]? with
  | none => rw [hr] at hu; exact absurd rfl hu
  | some r2 =>
    rw [hr] at hu
    cases hm : (mergeRows g u)[i]? with
    | none => rw [hm] at hne; exact absurd rfl hne
    | some r =>
      have hi : i < g.length := Mx.mergeRows_length g u ▸ (List.getElem?_eq_some_iff.mp hm).1
      exact List.mem_iff_getElem?.mpr
        ⟨i, List.getElem?_zip_eq_some.mpr ⟨hm, mergeLocs_heap g lg u hl hi hr hu⟩⟩

/-! ### the state invariant -/

/-- no temp file, no descriptor, no mapping beside the adopted one -/
def Ledger.clean (l : Ledger) : Prop := l.files = [] ∧ l.fds = [] ∧ l.maps = []

/-- Well-formed swap-out state: one location tag per row; between calls no temp file exists, no
    descriptor is open and the only live mapping is the adopted one; no non-empty row points into
    a mapping other than the adopted one (no dangling pointer); ledger ids are below the supply. -/
structure MInv (s : MState α) : Prop where
  len : s.locs.length = s.m.rows.length
  files : s.led.files = []
  fds : s.led.fds = []
  maps : s.led.maps = (match s.mapped with | some id => [id] | none => [])
  nodangling : ∀ p ∈ s.m.rows.zip s.locs, ∀ id, p.1 ≠ [] → p.2 = Loc.map id → s.mapped = some id
  fresh : ∀ x ∈ s.led.files ++ s.led.fds ++ s.led.maps, x < s.led.next

theorem MInv.maps_lt {s : MState α} (h : MInv s) : ∀ x ∈ s.led.maps, x < s.led.next :=
  fun x hx => h.fresh x (by simp [hx])

theorem MInv.maps_of_some {s : MState α} (h : MInv s) {id : Nat} (hm : s.mapped = some id) :
    s.led.maps = [id] := by
  have := h.maps; rw [hm] at this; exact this

theorem MInv.maps_of_none {s : MState α} (h : MInv s) (hm : s.mapped = none) :
    s.led.maps = [] := by
  have := h.maps; rw [hm] at this; exact this

theorem MInv.id_lt {s : MState α} (h : MInv s) {id : Nat} (hm : s.mapped = some id) :
    id < s.led.next :=
  h.maps_lt id (by rw [h.maps_of_some hm]; simp)

theorem munmap_none {s : MState α} (h : s.mapped = none) : munmap s = s := by
  unfold munmap; rw [h]

theorem munmap_some {s : MState α} {id : Nat} (h : s.mapped = some id) :
    munmap s = { m := { s.m with hidden := [] }, locs := s.m.rows.map fun _ => Loc.heap,
                 mapped := none, led := { s.led with maps := rmv s.led.maps id } } := by
  unfold munmap; rw [h]

theorem munmap_rows (s : MState α) : (munmap s).m.rows = s.m.rows := by
  unfold munmap; cases s.mapped <;> rfl

theorem munmap_major (s : MState α) : (munmap s).m.major = s.m.major := by
  unfold munmap; cases s.mapped <;> rfl

theorem munmap_minor (s : MState α) : (munmap s).m.minor = s.m.minor := by
  unfold munmap; cases s.mapped <;> rfl

theorem munmap_mapped (s : MState α) : (munmap s).mapped = none := by
  unfold munmap
  cases h : s.mapped with
  | none => exact h
  | some id => rfl

theorem munmap_hclean {s : MState α} (hc : HClean s.m) : HClean (munmap s).m := by
  unfold munmap
  cases s.mapped with
  | none => exact hc
  | some id => intro r hr; simp at hr

theorem munmap_inv {s : MState α} (h : MInv s) : MInv (munmap s) := by
  cases hm : s.mapped with
  | none => rw [munmap_none hm]; exact h
  | some id =>
    rw [munmap_some hm]
    refine ⟨by simp, h.files, h.fds, ?_, allGood_const_heap _ _, ?_⟩
    · simp only []
      rw [h.maps_of_some hm, rmv_singleton]
    · intro x hx
      simp only [h.files, h.fds, h.maps_of_some hm, rmv_singleton, List.append_nil] at hx
      simp at hx

theorem munmap_maps {s : MState α} (h : MInv s) : (munmap s).led.maps = [] :=
  (munmap_inv h).maps_of_none (munmap_mapped s)

theorem MInv.bump {s : MState α} (h : MInv s) (k : Nat) :
    MInv { s with led := { s.led with next := s.led.next + k } } :=
  ⟨h.len, h.files, h.fds, h.maps, h.nodangling, fun x hx => Nat.lt_add_right k (h.fresh x hx)⟩

theorem next_succ_not_mem {s : MState α} (h : MInv s) : s.led.next + 1 ∉ s.led.maps := by
  intro hx
  have := h.maps_lt _ hx
  omega

/-! Under the invariant the deferred clean-ups of a failed or cancelled swap-out undo what the
    call did: the exit states differ from the entry state only in the id supply (and, after a
    failed `os.Remove`, in the one file left). -/

theorem failSt_eq {s : MState α} (h : MInv s) :
    failSt s = { s with led := { s.led with next := s.led.next + 1 } } := by
  unfold failSt
  simp only [h.files, h.fds, rmv_singleton]

theorem cancelSt_eq {s : MState α} (h : MInv s) :
    cancelSt s = { s with led := { s.led with next := s.led.next + 2 } } := by
  unfold cancelSt
  simp only [rmv_cons_self (next_succ_not_mem h), h.files, h.fds, rmv_singleton]

theorem removeSt_eq {s : MState α} (h : MInv s) :
    removeSt s =
      { s with led := { s.led with files := [s.led.next], next := s.led.next + 2 } } := by
  unfold removeSt
  simp only [rmv_cons_self (next_succ_not_mem h), h.files, h.fds, rmv_singleton]

/-- the ledger after a completed swap-out: only the new mapping is live -/
theorem okSt_led {s : MState α} (h : MInv s) :
    (okSt s).led = { files := [], fds := [], maps := [s.led.next + 1], next := s.led.next + 2 } := by
  unfold okSt
  simp only []
  rw [h.files, h.fds, rmv_singleton]
  cases hm : s.mapped with
  | none => simp only []; rw [h.maps_of_none hm]
  | some old =>
    simp only []
    rw [h.maps_of_some hm, rmv_pair (Nat.ne_of_gt (Nat.lt_succ_of_lt (h.id_lt hm)))]

theorem failSt_inv {s : MState α} (h : MInv s) : MInv (failSt s) := by
  rw [failSt_eq h]
  exact h.bump 1

theorem cancelSt_inv {s : MState α} (h : MInv s) : MInv (cancelSt s) := by
  rw [cancelSt_eq h]
  exact h.bump 2

theorem okSt_maps {s : MState α} (h : MInv s) : (okSt s).led.maps = [s.led.next + 1] :=
  congrArg Ledger.maps (okSt_led h)

theorem okSt_inv {s : MState α} (h : MInv s) : MInv (okSt s) := by
  refine ⟨by simp [okSt], ?_, ?_, ?_, allGood_const_map _ _, ?_⟩
  · rw [okSt_led h]
  · rw [okSt_led h]
  · rw [okSt_led h]
    rfl
  · intro x hx
    rw [okSt_led h] at hx ⊢
    simp only [List.nil_append, List.mem_singleton] at hx
    show x < s.led.next + 2
    omega

/-! ### the exits of `mmap` -/

/-- the two fast exits: already mapped and clean, or no stored entry (then nothing is mapped
    either, so the `Munmap` of that exit does nothing) -/
theorem mmap_noop {s : MState α} (h : alreadyClean s = true ∨ s.m.nnz = 0) (f : Faults) :
    mmap f s = (s, .ok ()) := by
  rw [mmap_eq]
  by_cases hc : alreadyClean s = true
  · rw [if_pos hc]
  · rw [if_neg hc, if_pos (h.resolve_left hc), munmap_none (mapped_none_of_not_clean_of_empty
      (eq_false_of_ne_true hc) (h.resolve_left hc))]

theorem mmap_slow (f : Faults) {s : MState α} (hc : alreadyClean s = false) (h0 : s.m.nnz ≠ 0) :
    mmap f s = slowPath f s := by
  rw [mmap_eq, if_neg (ne_true_of_eq_false hc), if_neg h0]

/-- Case analysis over the exits of `Mmap`: a property of `mmap f s` holds if it holds of each exit
    under the tests that lead there. -/
theorem mmap_cases {P : MState α × Except MErr Unit → Prop} (f : Faults) (s : MState α)
    (noop : alreadyClean s = true ∨ s.m.nnz = 0 → P (s, .ok ()))
    (createTemp : alreadyClean s = false → s.m.nnz ≠ 0 → f.createTemp = true → P (s, .error .sys))
    (mapFail : alreadyClean s = false → s.m.nnz ≠ 0 → f.createTemp = false →
      f.truncate = true ∨ f.mmapSys = true → P (failSt s, .error .sys))
    (removeFail : alreadyClean s = false → s.m.nnz ≠ 0 → f.createTemp = false →
      f.truncate = false → f.mmapSys = false → f.remove = true → P (removeSt s, .error .sys))
    (cancel : alreadyClean s = false → s.m.nnz ≠ 0 → f.sysFault = false →
      cancelled f s = true → P (cancelSt s, .error .ctx))
    (done : alreadyClean s = false → s.m.nnz ≠ 0 → f.sysFault = false →
      cancelled f s = false → P (okSt s, .ok ())) :
    P (mmap f s) := by
  by_cases h : alreadyClean s = true ∨ s.m.nnz = 0
  · rw [mmap_noop h]
    exact noop h
  rw [not_or, Bool.not_eq_true] at h
  obtain ⟨hc, h0⟩ := h
  rw [mmap_slow f hc h0, slowPath]
  cases h1 : f.createTemp
  case true => exact createTemp hc h0 h1
  cases h2 : f.truncate
  case true => exact mapFail hc h0 h1 (.inl h2)
  cases h3 : f.mmapSys
  case true => exact mapFail hc h0 h1 (.inr h3)
  cases h4 : f.remove
  case true => exact removeFail hc h0 h1 h2 h3 h4
  have hf := f.sysFault_eq_false_iff.mpr ⟨h1, h2, h3, h4⟩
  cases h5 : cancelled f s
  · exact done hc h0 hf h5
  · exact cancel hc h0 hf h5

theorem mmap_inv {s : MState α} (h : MInv s) {f : Faults} (hr : f.remove = false) :
    MInv (mmap f s).1 :=
  mmap_cases (P := fun r => MInv r.1) f s (fun _ => h) (fun _ _ _ => h)
    (fun _ _ _ _ => failSt_inv h) (fun _ _ _ _ _ h4 => absurd (h4.symm.trans hr) nofun)
    (fun _ _ _ _ => cancelSt_inv h) (fun _ _ _ _ => okSt_inv h)

theorem reset_inv {s : MState α} (h : MInv s) : MInv (reset s) := by
  have h' := munmap_inv h
  unfold reset
  exact ⟨rfl, h'.files, h'.fds, h'.maps, allGood_nil _, h'.fresh⟩

theorem finalize_inv {s : MState α} (h : MInv s) : MInv (finalize s) := munmap_inv h

theorem setDim_locs_length (s : MState α) (r c : Nat) : (setDim s r c).locs.length = r :=
  padLocs_length s.locs r

theorem setDim_inv {s : MState α} (h : MInv s) (r c : Nat) : MInv (setDim s r c) := by
  refine ⟨?_, h.files, h.fds, h.maps, ?_, h.fresh⟩
  · rw [setDim_locs_length]
    exact (setDim_length s.m r c).symm
  · obtain ⟨X, hX⟩ := setMajorDim_rows_take s.m r
    obtain ⟨g, hg, hrows⟩ := setMinorDim_rows_map (s.m.setMajorDim r) c
    have : (setDim s r c).m.rows = ((s.m.rows ++ X).take r).map g := by
      unfold setDim CSM.setDim
      simp only []
      rw [hrows, hX]
    show AllGood s.mapped (setDim s r c).m.rows (setDim s r c).locs
    rw [this]
    exact allGood_map (allGood_grow h.nodangling h.len X r) hg

theorem merge_fst_rows (s u : MState α) :
    (merge s u).1.m.rows = mergeRows (grownRows s.m (munmap u).m) (munmap u).m.rows :=
  merge_rows s.m (munmap u).m

theorem merge_fst_locs (s u : MState α) :
    (merge s u).1.locs = mergeLocs (grownRows s.m (munmap u).m)
      (padLocs s.locs (grownRows s.m (munmap u).m).length) (munmap u).m.rows := by
  unfold merge padLocs
  simp only []
  rw [merge_grown_rows]

theorem merge_fst_inv {s : MState α} (h : MInv s) (u : MState α) : MInv (merge s u).1 := by
  refine ⟨?_, h.files, h.fds, h.maps, ?_, h.fresh⟩
  · rw [merge_fst_rows, merge_fst_locs, mergeLocs_length _ _ _ (padLocs_length _ _),
      Mx.mergeRows_length]
  · show AllGood s.mapped (merge s u).1.m.rows (merge s u).1.locs
    rw [merge_fst_rows, merge_fst_locs]
    apply allGood_merge
    obtain ⟨X, hX⟩ := setMajorDim_rows_take s.m (max s.m.major (munmap u).m.major)
    unfold grownRows
    rw [Mx.setMajorDim_length, hX]
    exact allGood_grow h.nodangling h.len X _

/-- the argument after `Merge` is `Reset` -/
theorem merge_snd_eq_reset (s u : MState α) : (merge s u).2 = reset u := rfl

theorem merge_snd_inv (s : MState α) {u : MState α} (h : MInv u) : MInv (merge s u).2 :=
  reset_inv h

theorem fresh_inv (m : CSM α) {led : Ledger} (hc : led.clean) : MInv (fresh m led) := by
  obtain ⟨h1, h2, h3⟩ := hc
  refine ⟨by simp [fresh], h1, h2, h3, allGood_const_heap _ _, ?_⟩
  intro x hx
  simp [fresh, h1, h2, h3] at hx

/-! ### the operation language -/

/-- the operations a client can perform on a (possibly swapped-out) matrix; `mmap f` carries the
    environment's fault choice for that call, `mergeFrom u` merges a freshly built update `u`,
    `finalize` is the garbage collector's hook -/
inductive Op (α : Type) where
  | mmap (f : Faults)
  | munmap
  | reset
  | finalize
  | setDim (r c : Nat)
  | mergeFrom (u : CSM α)

/-- one operation on the swap-out state (the process ledger is carried along) -/
def step (s : MState α) : Op α → MState α
  | .mmap f => (Mm.mmap f s).1
  | .munmap => Mm.munmap s
  | .reset => Mm.reset s
  | .finalize => Mm.finalize s
  | .setDim r c => Mm.setDim s r c
  | .mergeFrom u => (Mm.merge s (fresh u s.led)).1

def run (s : MState α) (ops : List (Op α)) : MState α := ops.foldl step s

/-- the same operation on a plain heap matrix: swap-out, swap-in and finalisation do nothing -/
def stepPlain (m : CSM α) : Op α → CSM α
  | .mmap _ => m
  | .munmap => m
  | .finalize => m
  | .reset => CSM.empty
  | .setDim r c => m.setDim r c
  | .mergeFrom u => (m.merge u).1

def runPlain (m : CSM α) (ops : List (Op α)) : CSM α := ops.foldl stepPlain m

/-- no `Mmap` call of the history suffers an `os.Remove` failure -/
def NoRemoveFault (ops : List (Op α)) : Prop := ∀ f, Op.mmap f ∈ ops → f.remove = false

theorem step_inv {s : MState α} (h : MInv s) (op : Op α)
    (hop : ∀ f, op = Op.mmap f → f.remove = false) : MInv (step s op) := by
  cases op with
  | mmap f => exact mmap_inv h (hop f rfl)
  | munmap => exact munmap_inv h
  | reset => exact reset_inv h
  | finalize => exact finalize_inv h
  | setDim r c => exact setDim_inv h r c
  | mergeFrom u => exact merge_fst_inv h _

theorem run_inv {s : MState α} (h : MInv s) (ops : List (Op α)) (hops : NoRemoveFault ops) :
    MInv (run s ops) := by
  induction ops generalizing s with
  | nil => exact h
  | cons op ops ih =>
    unfold run
    rw [List.foldl_cons]
    exact ih (step_inv h op (fun f hf => hops f (by simp [hf])))
      (fun f hf => hops f (by simp [hf]))

/-! ### transparency -/

/-- same visible contents and dimensions, both hidden parts clean -/
structure Sim (a b : CSM α) : Prop where
  rows_eq : a.rows = b.rows
  major_eq : a.major = b.major
  minor_eq : a.minor = b.minor
  left_clean : HClean a
  right_clean : HClean b

theorem mmap_visible (f : Faults) (s : MState α) :
    (mmap f s).1.m.rows = s.m.rows ∧ (mmap f s).1.m.major = s.m.major ∧
    (mmap f s).1.m.minor = s.m.minor := by
  refine mmap_cases (P := fun r => r.1.m.rows = s.m.rows ∧ r.1.m.major = s.m.major ∧
    r.1.m.minor = s.m.minor) f s ?_ ?_ ?_ ?_ ?_ ?_
  all_goals
    intros
    exact ⟨rfl, rfl, rfl⟩

theorem mmap_rows (f : Faults) (s : MState α) : (mmap f s).1.m.rows = s.m.rows :=
  (mmap_visible f s).1

theorem mmap_major (f : Faults) (s : MState α) : (mmap f s).1.m.major = s.m.major :=
  (mmap_visible f s).2.1

theorem mmap_minor (f : Faults) (s : MState α) : (mmap f s).1.m.minor = s.m.minor :=
  (mmap_visible f s).2.2

theorem okSt_hclean (s : MState α) : HClean (okSt s).m := by
  intro r hr
  simp only [okSt, List.mem_map] at hr
  obtain ⟨_, _, rfl⟩ := hr
  rfl

theorem mmap_hclean (f : Faults) {s : MState α} (hc : HClean s.m) : HClean (mmap f s).1.m :=
  mmap_cases (P := fun r => HClean r.1.m) f s (fun _ => hc) (fun _ _ _ => hc) (fun _ _ _ _ => hc)
    (fun _ _ _ _ _ _ => hc) (fun _ _ _ _ => hc) (fun _ _ _ _ => okSt_hclean s)

theorem setMajorDim_sim {a b : CSM α} (h : Sim a b) (d : Nat) :
    Sim (a.setMajorDim d) (b.setMajorDim d) := by
  obtain ⟨h1, h2, h3, h4, h5⟩ := h
  refine ⟨?_, ?_, ?_, Mx.setMajorDim_hidden_nil h4 d, Mx.setMajorDim_hidden_nil h5 d⟩
  · rw [Mx.setMajorDim_rows_of_clean h4, Mx.setMajorDim_rows_of_clean h5, h1]
  · rw [Mx.setMajorDim_major, Mx.setMajorDim_major]
  · rw [Mx.setMajorDim_minor, Mx.setMajorDim_minor, h3]

theorem setMinorDim_sim {a b : CSM α} (h : Sim a b) (d : Nat) :
    Sim (a.setMinorDim d) (b.setMinorDim d) := by
  obtain ⟨h1, h2, h3, h4, h5⟩ := h
  have ha : HClean (a.setMinorDim d) := by unfold HClean; rw [Mx.setMinorDim_hidden]; exact h4
  have hb : HClean (b.setMinorDim d) := by unfold HClean; rw [Mx.setMinorDim_hidden]; exact h5
  refine ⟨?_, ?_, ?_, ha, hb⟩
  all_goals
    unfold CSM.setMinorDim
    rw [h3]
    split
    · simp only [h1, h2]
    · simp only [h1, h2]

theorem setDim_sim {a b : CSM α} (h : Sim a b) (r c : Nat) : Sim (a.setDim r c) (b.setDim r c) :=
  setMinorDim_sim (setMajorDim_sim h r) c

theorem merge_sim {a b : CSM α} (h : Sim a b) (u : CSM α) : Sim (a.merge u).1 (b.merge u).1 := by
  have hg := setMinorDim_sim (setMajorDim_sim h (max a.major u.major)) (max a.minor u.minor)
  rw [h.major_eq, h.minor_eq] at hg
  refine ⟨?_, ?_, ?_, merge_hclean h.left_clean u, merge_hclean h.right_clean u⟩
  · unfold CSM.merge
    simp only []
    rw [h.major_eq, h.minor_eq, hg.rows_eq]
  · rw [Mx.merge_major, Mx.merge_major, h.major_eq]
  · rw [Mx.merge_minor, Mx.merge_minor, h.minor_eq]

theorem munmap_sim {s : MState α} {p : CSM α} (h : Sim s.m p) : Sim (munmap s).m p :=
  ⟨(munmap_rows s).trans h.rows_eq, (munmap_major s).trans h.major_eq,
    (munmap_minor s).trans h.minor_eq, munmap_hclean h.left_clean, h.right_clean⟩

theorem step_sim {s : MState α} {p : CSM α} (h : Sim s.m p) (op : Op α) :
    Sim (step s op).m (stepPlain p op) := by
  cases op with
  | mmap f =>
    exact ⟨(mmap_rows f s).trans h.rows_eq, (mmap_major f s).trans h.major_eq,
      (mmap_minor f s).trans h.minor_eq, mmap_hclean f h.left_clean, h.right_clean⟩
  | munmap | finalize => exact munmap_sim h
  | reset =>
    have hc : HClean (CSM.empty : CSM α) := by intro r hr; simp [CSM.empty] at hr
    exact ⟨rfl, rfl, rfl, hc, hc⟩
  | setDim r c => exact setDim_sim h r c
  | mergeFrom u => exact merge_sim h u

theorem run_sim {s : MState α} {p : CSM α} (h : Sim s.m p) (ops : List (Op α)) :
    Sim (run s ops).m (runPlain p ops) := by
  induction ops generalizing s p with
  | nil => exact h
  | cons op ops ih =>
    unfold run runPlain
    rw [List.foldl_cons, List.foldl_cons]
    exact ih (step_sim h op)

/-! ### re-mapping -/

theorem okSt_not_dirty (s : MState α) : dirty (okSt s) (s.led.next + 1) = false := by
  rw [dirty_eq_false_iff]
  intro p hp _
  exact snd_of_mem_zip_const hp

theorem okSt_alreadyClean (s : MState α) : alreadyClean (okSt s) = true := by
  have h := okSt_not_dirty s
  unfold alreadyClean
  show (!dirty (okSt s) (s.led.next + 1)) = true
  rw [h]; rfl

theorem mergeFrom_rows (s : MState α) (u : CSM α) :
    (step s (.mergeFrom u)).m.rows = mergeRows (grownRows s.m u) u.rows :=
  merge_rows s.m u

theorem mergeFrom_locs (s : MState α) (u : CSM α) :
    (step s (.mergeFrom u)).locs =
      mergeLocs (grownRows s.m u) (padLocs s.locs (grownRows s.m u).length) u.rows :=
  merge_fst_locs s (fresh u s.led)

/-- a row that receives a non-empty update row and ends non-empty is outside every mapping -/
theorem dirty_mergeFrom (s : MState α) (u : CSM α) (id : Nat) {i : Nat}
    (hne : (step s (.mergeFrom u)).m.rows.getD i [] ≠ []) (hu : u.rows.getD i [] ≠ []) :
    dirty (step s (.mergeFrom u)) id = true := by
  rw [dirty_eq_true_iff, mergeFrom_locs]
  rw [mergeFrom_rows] at hne ⊢
  exact ⟨_, mergeLocs_heap_mem _ _ _ (padLocs_length _ _) hne hu, hne, nofun⟩

end EtVerif.Mm
