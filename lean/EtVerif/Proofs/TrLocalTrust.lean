/-
  Refinement of the translated basic.CanonicalizeLocalTrust (Gen/Translated.lean) to the model
  `canonicalizeLocalTrust`.
-/
import EtVerif.Proofs.TrCanon
import EtVerif.Proofs.TrMatSmall
namespace EtVerif.Tr
open EtVerif EtVerif.GoSem EtVerif.Gen Scalar
variable {α : Type} [Scalar α]
set_option linter.unusedSectionVars false

omit [Scalar α] in
theorem RowVector_eq (g : GCSMatrix α) (i : Int) (row : List (GEntry α)) (h : goIdx g.Entries i = .ok row) :
    Gen.CSRMatrix_RowVector g i = .ok ({ m := g, index := i }, ({ Dim := g.MinorDim, Entries := row } : GVector α)) := by
  simp [Gen.CSRMatrix_RowVector, CSRMatrix_RowVector.body, Stm.run, go_run, h]

omit [Scalar α] in
theorem SetRowVector_eq (g : GCSMatrix α) (i : Int) (v : GVector α) (t : List (List (GEntry α)))
    (h : goSet g.Entries i v.Entries = .ok t) :
    Gen.CSRMatrix_SetRowVector g i v = .ok ({ m := { g with Entries := t }, index := i, vector := v }, ()) := by
  simp [Gen.CSRMatrix_SetRowVector, CSRMatrix_SetRowVector.body, Stm.run, go_run, h]

theorem canonLT_body (fuel : Nat) (p : Option (Vec α)) (s : CanonicalizeLocalTrust.St α)
    (pre rest : List (List (GEntry α))) (r : Row α)
    (hl : s.localTrust.Entries = pre ++ toGs r :: rest) (hi : s.i = (pre.length : Int))
    (hp : s.preTrust = p.map toGV) :
    ∃ s', CanonicalizeLocalTrust.loop1_body fuel s = .ok (s', .next) ∧
      s'.localTrust = { s.localTrust with Entries := pre ++ toGs (canonRow p r) :: rest } ∧
      s'.i = s.i ∧ s'.n = s.n ∧ s'.preTrust = s.preTrust := by
  have g1 : goIdx s.localTrust.Entries s.i = .ok (toGs r) := goIdx_mid _ _ pre (toGs r) rest hl hi
  have hRV := RowVector_eq s.localTrust s.i (toGs r) g1
  have gset : ∀ r', goSet s.localTrust.Entries s.i r' = .ok (pre ++ r' :: rest) :=
    fun r' => goSet_mid _ _ pre (toGs r) r' rest hl hi
  have hC := Canonicalize_refines r
  cases hcan : canonicalize r with
  | ok r' =>
    simp only [hcan] at hC
    obtain ⟨⟨st, e⟩, hC1, hC2⟩ := map_eq_ok hC
    have e1 : st.entries = toGs r' := congrArg Prod.fst hC2
    have e2 : e = none := congrArg Prod.snd hC2
    subst e2
    simp only [CanonicalizeLocalTrust.loop1_body, go_run, hRV, hC1, e1, gset, Option.isNone_none, canonRow,
      hcan]
    exact ⟨_, rfl, rfl, rfl, rfl, rfl⟩
  | error err =>
    simp only [hcan] at hC
    obtain ⟨⟨st, e⟩, hC1, hC2⟩ := map_eq_ok hC
    have e1 : st.entries = toGs r := congrArg Prod.fst hC2
    have e2 : e = some ⟨"ErrZeroSum"⟩ := congrArg Prod.snd hC2
    subst e2
    cases p with
    | none =>
      simp only [Option.map_none] at hp
      simp only [CanonicalizeLocalTrust.loop1_body, go_run, hRV, hC1, e1, gset, Option.isNone_some, decide_true,
        hp, Option.isNone_none, Bool.not_true, canonRow, hcan]
      exact ⟨_, rfl, rfl, rfl, rfl, rfl⟩
    | some pv =>
      simp only [Option.map_some] at hp
      have hS := SetRowVector_eq { s.localTrust with Entries := pre ++ toGs r :: rest } s.i (toGV pv)
        (pre ++ toGs pv.entries :: rest)
        (goSet_mid _ _ pre (toGs r) _ rest rfl hi)
      simp only [CanonicalizeLocalTrust.loop1_body, go_run, hRV, hC1, e1, gset, Option.isNone_some, decide_true,
        hp, Bool.not_false, goDeref, hS, canonRow, hcan]
      exact ⟨_, rfl, rfl, rfl, rfl, rfl⟩

theorem canonLT_loop (fuel0 : Nat) (p : Option (Vec α)) :
    ∀ (rem : List (Row α)) (fuel : Nat) (done : List (List (GEntry α))) (s : CanonicalizeLocalTrust.St α),
      rem.length ≤ fuel → s.localTrust.Entries = done ++ rem.map toGs → s.i = (done.length : Int) →
      s.n = ((done.length + rem.length : Nat) : Int) → s.preTrust = p.map toGV →
      ∃ s', Stm.loop 1 (CanonicalizeLocalTrust.loop1_cond fuel0) (CanonicalizeLocalTrust.loop1_body (α := α) fuel0)
            (CanonicalizeLocalTrust.loop1_post fuel0) fuel s = .ok (s', .next) ∧
        s'.localTrust = { s.localTrust with Entries := done ++ (rem.map (canonRow p)).map toGs } := by
  intro rem
  induction rem with
  | nil =>
    intro fuel done s hf hl hi hn hp
    refine ⟨s, ?_, ?_⟩
    · apply loop_exit
      simp [CanonicalizeLocalTrust.loop1_cond, pure, Except.pure, hi, hn]
    · cases hs : s.localTrust; simp [hs] at hl ⊢; exact hl
  | cons r rem ih =>
    intro fuel done s hf hl hi hn hp
    cases fuel with
    | zero => simp at hf
    | succ f =>
      have hf' : rem.length ≤ f := by simpa using hf
      have hc : CanonicalizeLocalTrust.loop1_cond fuel0 s = .ok true := by
        simp [CanonicalizeLocalTrust.loop1_cond, pure, Except.pure, hi, hn]
        omega
      obtain ⟨s1, b1, b2, b3, b4, b5⟩ := canonLT_body fuel0 p s done (rem.map toGs) r
        (by simpa using hl) hi hp
      have hpost : CanonicalizeLocalTrust.loop1_post fuel0 s1 = .ok ({ s1 with i := s1.i + 1 }, .next) := by
        simp [CanonicalizeLocalTrust.loop1_post, go_run]
      obtain ⟨s', c1, c2⟩ := ih f (done ++ [toGs (canonRow p r)]) { s1 with i := s1.i + 1 } hf'
        (by simp [b2]) (by simp [b3, hi]) (by simp [b4, hn]; omega) (by simp [b5, hp])
      refine ⟨s', ?_, ?_⟩
      · rw [loop_step hc b1 hpost]
        exact c1
      · rw [c2]; simp [b2]

/-- Go `basic.CanonicalizeLocalTrust` = the model's `canonicalizeLocalTrust`: every row divided by its
    compensated sum in place; a zero-sum row is replaced by the pre-trust's entries when a pre-trust is given and
    left untouched otherwise; a non-square matrix or a pre-trust of another dimension is refused untouched. -/
theorem CanonicalizeLocalTrust_refines (fuel : Nat) (m : CSM α) (p : Option (Vec α))
    (hrows : m.rows.length = m.major) (hf : m.major ≤ fuel) :
    (Gen.CanonicalizeLocalTrust fuel (toGM m) (p.map toGV)).map (fun r => (r.1.localTrust, r.2)) =
      (match canonicalizeLocalTrust m p with
       | .ok m' => .ok (toGM m', none)
       | .error _ => .ok (toGM m, some ⟨"ErrDimensionMismatch"⟩)) := by
  by_cases hsq : m.major = m.minor
  · obtain ⟨st, hD⟩ := CSMatrix_Dim_sq (toGM m) (by simp [hsq])
    by_cases hdim : (match p with | some p => decide (m.major ≠ p.dim) | none => false) = true
    · obtain ⟨pv, rfl⟩ : ∃ pv, p = some pv := by
        cases p with
        | none => simp at hdim
        | some pv => exact ⟨pv, rfl⟩
      have hn2 : ¬ (m.minor = pv.dim) := by
        simp at hdim; omega
      have hne : ¬ ((m.minor : Int) = (pv.dim : Int)) := by omega
      simp [Gen.CanonicalizeLocalTrust, CanonicalizeLocalTrust.body, Stm.run, go_run, Except.map, hD, goDeref,
        hne, hn2, canonicalizeLocalTrust, CSM.dim, hsq]
    · have hcanon : canonicalizeLocalTrust m p = .ok { m with rows := m.rows.map (canonRow p) } := by
        simp only [canonicalizeLocalTrust, CSM.dim, hsq, ne_eq, not_true_eq_false, if_false]
        rw [← hsq]
        exact if_neg hdim
      obtain ⟨s', c1, c2⟩ := canonLT_loop fuel p m.rows fuel []
        { localTrust := toGM m, preTrust := p.map toGV, n := (m.major : Int), err := none, i := 0,
          inRow := (GVector.zero : GVector α), viewIdx := 0, err_2 := none }
        (by simpa [hrows] using hf) (by simp) rfl (by simp [hrows]) rfl
      have hchk : (if (!(p.map toGV).isNone) then (do
            let t1 ← goDeref (p.map toGV)
            pure (!(decide ((m.major : Int) = (t1).Dim)))) else (pure false : R Bool)) = .ok false := by
        cases p with
        | none => rfl
        | some pv =>
          have : m.major = pv.dim := by simpa using hdim
          simp [goDeref, go_run, this]
      rw [hcanon]
      simp only [Gen.CanonicalizeLocalTrust, CanonicalizeLocalTrust.body, Stm.run, go_run, Except.map, hD,
        toGM_MajorDim, Option.isNone_none, Bool.not_true]
      simp only [go_run] at hchk
      simp only [hchk, c1]
      simp [c2, toGM]
  · obtain ⟨st, hD⟩ := CSMatrix_Dim_nsq (toGM m) (by simp; omega)
    simp [Gen.CanonicalizeLocalTrust, CanonicalizeLocalTrust.body, Stm.run, go_run, Except.map, hD,
      canonicalizeLocalTrust, CSM.dim, hsq]

end EtVerif.Tr
