/-
  The convergence checker translated from the source (`Gen.*_src`, with `math.Sqrt`, `math.IsNaN`, `math.IsInf`
  as uninterpreted parameters `sqrtO`, `nanO`, `infO`) SIMULATES the hand-modelled extern checker called by the
  translated `basic.Compute` (`Gen.NewConvergenceChecker`, `Gen.ConvergenceChecker_Update/_Converged/_Delta`),
  which carries the squared delta.
-/
import EtVerif.Proofs.TrAddSub
import EtVerif.Proofs.TrVecSmall
import EtVerif.Proofs.TrKbn
namespace EtVerif.Tr
open EtVerif EtVerif.GoSem EtVerif.Gen Scalar
variable {α : Type} [Scalar α]

/-- The source checker `g` represents the extern/model checker `m`: same previous vector (as entries), same epsilon.
    Nothing is said of `g.d`: that it is `sqrtO` of the model's squared delta holds only after an `Update` and is part
    of what `ConvergenceChecker_Update_src_simulates` concludes (the parameter `sqrtO` is not used here). -/
structure CCRel (sqrtO : α → α) (g : GConvergenceCheckerSrc α) (m : GConvergenceChecker α) (n : Nat) : Prop where
  t : g.t = toGV ⟨n, m.c.t⟩
  e : g.e = m.e

/-- The compensated sum of squares of a list of entries: what `Norm2` takes the root of.  Every squared delta of the
    model is one: `(cv.update t).dsq = sqSum (subEntries t cv.t)` and `v.sumSq = sqSum v.entries`, by definition. -/
def sqSum (es : List (Entry α)) : α := kbnSum (es.map fun e => mul e.val e.val)

theorem update_dsq_eq_sqSum (cv : ConvChecker α) (t : List (Entry α)) :
    (cv.update t).dsq = sqSum (subEntries t cv.t) := rfl

theorem sumSq_eq_sqSum (v : Vec α) : v.sumSq = sqSum v.entries := rfl

/-- The stand-ins `sqrtO`, `nanO`, `infO` for `math.Sqrt`, `math.IsNaN`, `math.IsInf` agree with the model ON EVERY
    COMPENSATED SUM OF SQUARES `x = sqSum es`, for the epsilon `e` of the run:
    * `nf`: the Go finiteness test on `sqrt x` is the model's `nonFinite x`;
    * `sq`: `sqrt x ≤ e` is the model's `sqrtLe x e`.

    Why restricted to sums of squares: quantified over EVERY scalar `x` the first fact is false of the real float
    functions, and then every theorem assuming it is vacuous for the intended instance.  The square root of a negative
    FINITE number is NaN: `math.IsNaN(math.Sqrt(-1))` is true while `nonFinite (-1)` is false.  Together with `sq`
    (at the floats `sqrtLe x e` is `sqrt x ≤ e`, so `sqrtO (-1)` and `sqrtO NaN` are both NaN) no choice of oracles
    satisfies `nf` both at `x = -1` and at `x = NaN`.  The checker only ever takes roots of (Kahan–Babuška–Neumaier
    compensated) sums of squares of an entry list; on those `nf` says "a sum of squares is never a negative finite
    number", which is what the floats deliver, and at the floats with `sqrtO := Float.sqrt` the fact `sq` holds by
    `rfl`.  Likewise `sq` is asked at the run's epsilon only (the exact instances model `sqrtLe x e` as `x ≤ e·e`,
    which is the comparison of the root only for `e ≥ 0`; `Compute` refuses `e ≤ 0`). -/
structure OracleOK (sqrtO : α → α) (nanO infO : α → Bool) (e : α) : Prop where
  nf : ∀ es : List (Entry α), (nanO (sqrtO (sqSum es)) || infO (sqrtO (sqSum es))) = nonFinite (sqSum es)
  sq : ∀ es : List (Entry α), Scalar.le (sqrtO (sqSum es)) e = Scalar.sqrtLe (sqSum es) e

/-- The hypotheses quantified over every scalar (unsatisfiable at the floats, see `OracleOK`) are stronger. -/
theorem OracleOK.of_forall {sqrtO : α → α} {nanO infO : α → Bool}
    (hnf : ∀ x : α, (nanO (sqrtO x) || infO (sqrtO x)) = nonFinite x)
    (hsq : ∀ x e : α, Scalar.le (sqrtO x) e = Scalar.sqrtLe x e) (e : α) : OracleOK sqrtO nanO infO e :=
  ⟨fun _ => hnf _, fun _ => hsq _ e⟩

theorem Vector_Norm2_src_loop (sqrtO : α → α) (es : List (GEntry α)) :
    ∀ (pre : List (GEntry α)) (s : Vector_Norm2_src.St α), s.v.Entries = pre ++ es →
      ∃ s', Stm.range 1 (Vector_Norm2_src.loop1_bind sqrtO) (Vector_Norm2_src.loop1_body sqrtO)
          (pre.length : Int) es s = .ok (s', .next) ∧
        s'.summer = toGK ((es.map (fun e => mul e.Value e.Value)).foldl KBN.push (ofGK s.summer)) := by
  induction es with
  | nil => intro pre s _; exact ⟨s, rfl, by simp⟩
  | cons e es ih =>
    intro pre s hs
    have hidx : goIdx s.v.Entries (pre.length : Int) = .ok e := goIdx_mid _ _ pre e es hs rfl
    obtain ⟨st, h1, h2⟩ := KBNSummer_Add_ok s.summer (mul e.Value e.Value)
    obtain ⟨s', h3, h4⟩ := ih (pre ++ [e]) { s with i := (pre.length : Int), value := e.Value, summer := st.s }
      (by simp [hs])
    refine ⟨s', ?_, ?_⟩
    · rw [range_cons_next (s1 := { s with i := (pre.length : Int), value := e.Value, summer := st.s })]
      · have hl : (((pre ++ [e]).length : Nat) : Int) = (pre.length : Int) + 1 := by simp
        rw [hl] at h3
        exact h3
      · simp [go_run, Vector_Norm2_src.loop1_body, Vector_Norm2_src.loop1_bind, hidx, h1]
    · simp [h4, h2]

/-- Go `Vector.Norm2` = sqrt of the model's compensated sum of squares. -/
theorem Vector_Norm2_src_refines (sqrtO : α → α) (v : Vec α) :
    (Gen.Vector_Norm2_src sqrtO (toGV v)).map (fun r => r.2) = .ok (sqrtO v.sumSq) := by
  obtain ⟨s', h1, h2⟩ := Vector_Norm2_src_loop sqrtO (toGs v.entries) []
    { v := toGV v, summer := GKBNSummer.zero, i := 0, value := Scalar.zero } (by simp)
  obtain ⟨st, hst⟩ := KBNSummer_Sum_ok s'.summer
  simp only [toGK_zero, List.length_nil, Int.natCast_zero] at h1
  simp only [go_run, Vector_Norm2_src, Vector_Norm2_src.body, Stm.run, Stm.rangeOver, Vector_Norm2_src.loop1_xs,
    toGK_zero, toGV_Entries, h1, hst, Except.map]
  simp [h2, Vec.sumSq, kbnSum, toGs, Function.comp_def, ofGK, toGK, KBN.init, GKBNSummer.zero]

theorem Vector_Assign_ok (w : GVector α) (v1 : Vec α) :
    ∃ st, Vector_Assign w (toGV v1) = .ok (st, ()) ∧ st.v = toGV v1 := by
  obtain ⟨r, h1, h2⟩ := map_eq_ok (Vector_Assign_refines w v1)
  exact ⟨r.1, h1, h2⟩

/-- `NewConvergenceChecker`: previous vector = t0, epsilon = e, iteration counter 0, sentinel delta 2·e. -/
theorem NewConvergenceChecker_src_refines (t0 : Vec α) (e : α) :
    (Gen.NewConvergenceChecker_src (toGV t0) e).map (fun r => r.2) =
      .ok { iter := 0, t := toGV t0, d := Scalar.mul (Scalar.ofNat 2) e, e := e } := by
  obtain ⟨st, h1, h2⟩ := Vector_Assign_ok (GVector.zero : GVector α) t0
  simp [go_run, NewConvergenceChecker_src, NewConvergenceChecker_src.body, Stm.run, Except.map, h1, h2]

theorem NewConvergenceChecker_src_rel (sqrtO : α → α) (t0 : Vec α) (e : α) :
    ∃ st g stm m, Gen.NewConvergenceChecker_src (toGV t0) e = .ok (st, g) ∧
      Gen.NewConvergenceChecker (toGV t0) e = .ok (stm, m) ∧ CCRel sqrtO g m t0.dim := by
  obtain ⟨r, h1, h2⟩ := map_eq_ok (NewConvergenceChecker_src_refines t0 e)
  refine ⟨r.1, r.2, {}, ⟨⟨t0.entries, Scalar.zero⟩, e⟩, h1, ?_, ?_⟩
  · simp [NewConvergenceChecker]
  · rw [h2]
    exact ⟨rfl, rfl⟩

theorem Vector_Norm2_src_ok (sqrtO : α → α) (v : Vec α) :
    ∃ st, Gen.Vector_Norm2_src sqrtO (toGV v) = .ok (st, sqrtO v.sumSq) := by
  obtain ⟨r, h1, h2⟩ := map_eq_ok (Vector_Norm2_src_refines sqrtO v)
  exact ⟨r.1, by rw [h1, ← h2]⟩

theorem Vector_SubVec_ok (capO : Nat → Int) (fuel : Nat) (w : GVector α) (v1 v2 : Vec α)
    (hd : v1.dim = v2.dim) (hf : v1.entries.length + v2.entries.length ≤ fuel) :
    ∃ st, Vector_SubVec capO fuel w (toGV v1) (toGV v2) = .ok (st, none) ∧
      st.v = toGV ⟨v1.dim, subEntries v1.entries v2.entries⟩ := by
  have h := Vector_SubVec_refines capO fuel w v1 v2 hf
  simp only [Vec.subVec, hd, ne_eq, not_true_eq_false, if_false] at h
  obtain ⟨r, h1, h2⟩ := map_eq_ok h
  simp only [Prod.mk.injEq] at h2
  refine ⟨r.1, ?_, ?_⟩
  · rw [h1, ← h2.2]
  · rw [h2.1, hd]

/-- `Update` when the Go finiteness test passes: no error; the checker now holds the vector, the same epsilon, and
    the ROOT of the model's new squared delta; its iteration counter advances. -/
theorem Update_src_fin (capO : Nat → Int) (fuel : Nat) (sqrtO : α → α) (nanO infO : α → Bool)
    (g : GConvergenceCheckerSrc α) (cv : ConvChecker α) (e : α) (n : Nat) (t : List (Entry α))
    (hgt : g.t = toGV ⟨n, cv.t⟩) (hge : g.e = e) (hf : t.length + cv.t.length ≤ fuel)
    (hx : (nanO (sqrtO (cv.update t).dsq) || infO (sqrtO (cv.update t).dsq)) = false) :
    ∃ ru, Gen.ConvergenceChecker_Update_src capO fuel sqrtO nanO infO g (toGV ⟨n, t⟩) = .ok ru ∧ ru.2 = none ∧
      ru.1.c.t = toGV ⟨n, t⟩ ∧ ru.1.c.e = e ∧ ru.1.c.d = sqrtO (cv.update t).dsq ∧ ru.1.c.iter = g.iter + 1 := by
  obtain ⟨gi, gt, gd, ge⟩ := g
  simp only at hgt hge
  subst hgt hge
  obtain ⟨ss, hs1, hs2⟩ := Vector_SubVec_ok capO fuel ({ Dim := 0, Entries := [] } : GVector α) ⟨n, t⟩ ⟨n, cv.t⟩
    rfl hf
  simp only at hs2
  obtain ⟨sn, hn⟩ := Vector_Norm2_src_ok sqrtO (⟨n, subEntries t cv.t⟩ : Vec α)
  obtain ⟨sa, ha1, ha2⟩ := Vector_Assign_ok (toGV (⟨n, cv.t⟩ : Vec α)) ⟨n, t⟩
  rw [← hs2] at hn
  have hx' : (nanO (sqrtO (Vec.sumSq (⟨n, subEntries t cv.t⟩ : Vec α))) ||
      infO (sqrtO (Vec.sumSq (⟨n, subEntries t cv.t⟩ : Vec α)))) = false := hx
  refine ⟨(⟨{ iter := gi + 1, t := sa.v, d := sqrtO (Vec.sumSq (⟨n, subEntries t cv.t⟩ : Vec α)), e := ge },
      toGV ⟨n, t⟩, ss.v, none, sqrtO (Vec.sumSq (⟨n, subEntries t cv.t⟩ : Vec α))⟩, none), ?_, rfl, ha2, rfl, rfl,
    rfl⟩
  simp [go_run, ConvergenceChecker_Update_src, ConvergenceChecker_Update_src.body, Stm.run, hs1, hn, hx', ha1]

/-- `Update` when the Go finiteness test fails: an error, the checker unchanged. -/
theorem Update_src_nonfin (capO : Nat → Int) (fuel : Nat) (sqrtO : α → α) (nanO infO : α → Bool)
    (g : GConvergenceCheckerSrc α) (cv : ConvChecker α) (n : Nat) (t : List (Entry α))
    (hgt : g.t = toGV ⟨n, cv.t⟩) (hf : t.length + cv.t.length ≤ fuel)
    (hx : (nanO (sqrtO (cv.update t).dsq) || infO (sqrtO (cv.update t).dsq)) = true) :
    ∃ ru, Gen.ConvergenceChecker_Update_src capO fuel sqrtO nanO infO g (toGV ⟨n, t⟩) = .ok ru ∧
      ru.2 = some ⟨"trust vector delta is not finite (%v)"⟩ ∧ ru.1.c = g := by
  obtain ⟨gi, gt, gd, ge⟩ := g
  simp only at hgt
  subst hgt
  obtain ⟨ss, hs1, hs2⟩ := Vector_SubVec_ok capO fuel ({ Dim := 0, Entries := [] } : GVector α) ⟨n, t⟩ ⟨n, cv.t⟩
    rfl hf
  simp only at hs2
  obtain ⟨sn, hn⟩ := Vector_Norm2_src_ok sqrtO (⟨n, subEntries t cv.t⟩ : Vec α)
  rw [← hs2] at hn
  have hx' : (nanO (sqrtO (Vec.sumSq (⟨n, subEntries t cv.t⟩ : Vec α))) ||
      infO (sqrtO (Vec.sumSq (⟨n, subEntries t cv.t⟩ : Vec α)))) = true := hx
  refine ⟨(⟨{ iter := gi, t := toGV ⟨n, cv.t⟩, d := gd, e := ge },
      toGV ⟨n, t⟩, ss.v, none, sqrtO (Vec.sumSq (⟨n, subEntries t cv.t⟩ : Vec α))⟩,
      some ⟨"trust vector delta is not finite (%v)"⟩), ?_, rfl, rfl⟩
  simp [go_run, ConvergenceChecker_Update_src, ConvergenceChecker_Update_src.body, Stm.run, hs1, hn, hx']

/-- `Update`: under the oracle hypothesis "the Go finiteness test on sqrt x is the model's `nonFinite x`" AT THE ONE
    VALUE MET — `x = (m.c.update t.entries).dsq`, the model's new squared delta, i.e. the compensated sum of squares
    `sqSum (subEntries t.entries m.c.t)` of the difference to the previously checked vector (`OracleOK.nf` provides
    it) — one Update of the source checker on a vector of the same dimension does what the extern does: same error
    decision; on success the relation is re-established, the iteration counter advances and
    `g'.d = sqrtO (new squared delta)`; on a non-finite delta both leave their checker unchanged.
    Fuel bounds the SubVec merge loop. -/
theorem ConvergenceChecker_Update_src_simulates (capO : Nat → Int) (fuel : Nat) (sqrtO : α → α) (nanO infO : α → Bool)
    (g : GConvergenceCheckerSrc α) (m : GConvergenceChecker α) (n : Nat) (t : Vec α)
    (hnf : (nanO (sqrtO (m.c.update t.entries).dsq) || infO (sqrtO (m.c.update t.entries).dsq)) =
      nonFinite (m.c.update t.entries).dsq)
    (hrel : CCRel sqrtO g m n) (hdim : t.dim = n) (hf : t.entries.length + m.c.t.length ≤ fuel) :
    ∃ st g' stm m' err,
      Gen.ConvergenceChecker_Update_src capO fuel sqrtO nanO infO g (toGV t) = .ok (st, err) ∧ st.c = g' ∧
      Gen.ConvergenceChecker_Update m (toGV t) = .ok (stm, err) ∧ stm.c = m' ∧
      CCRel sqrtO g' m' n ∧
      (err = none → g'.d = sqrtO m'.c.dsq ∧ g'.iter = g.iter + 1) ∧
      (err ≠ none → g' = g ∧ m' = m) := by
  have htt : toGV t = toGV (⟨n, t.entries⟩ : Vec α) := by rw [← hdim]
  rw [htt]
  cases hfin : nonFinite (m.c.update t.entries).dsq with
  | true =>
    obtain ⟨⟨st, _⟩, hu, rfl, hc⟩ := Update_src_nonfin capO fuel sqrtO nanO infO g m.c n t.entries hrel.t hf
      (hnf.trans hfin)
    refine ⟨st, g, ⟨m⟩, m, _, hu, hc, ?_, rfl, hrel, fun h => (by cases h), fun _ => ⟨rfl, rfl⟩⟩
    simp [ConvergenceChecker_Update, hfin]
  | false =>
    obtain ⟨⟨st, _⟩, hu, rfl, hut, hueps, hud, hui⟩ := Update_src_fin capO fuel sqrtO nanO infO g m.c m.e n
      t.entries hrel.t hrel.e hf (hnf.trans hfin)
    refine ⟨st, st.c, ⟨{ m with c := m.c.update t.entries }⟩, _, none, hu, rfl, ?_, rfl, ⟨hut, hueps⟩,
      fun _ => ⟨hud, hui⟩, fun h => absurd rfl h⟩
    simp [ConvergenceChecker_Update, hfin]

/-- `Converged`: under "sqrt x ≤ e ⟺ the model's sqrtLe x e" at the one value met — `x = m.c.dsq`, the squared delta
    the extern holds (after an `Update` a compensated sum of squares: `OracleOK.sq` provides the fact), and the
    checker's epsilon — the two verdicts coincide. -/
theorem ConvergenceChecker_Converged_src_agrees (sqrtO : α → α) (g : GConvergenceCheckerSrc α)
    (m : GConvergenceChecker α) (he : g.e = m.e) (hd : g.d = sqrtO m.c.dsq)
    (hsq : Scalar.le (sqrtO m.c.dsq) m.e = Scalar.sqrtLe m.c.dsq m.e) :
    (Gen.ConvergenceChecker_Converged_src g).map (fun r => r.2) =
      (Gen.ConvergenceChecker_Converged m).map (fun r => r.2) := by
  simp [ConvergenceChecker_Converged_src, ConvergenceChecker_Converged_src.body, ConvergenceChecker_Converged,
    Stm.run, Stm.ret, pure, Except.pure, Except.map, he, hd, hsq]

/-- `Delta`: the source returns the norm, the extern the squared norm: `sqrtO` of it. -/
theorem ConvergenceChecker_Delta_src_agrees (sqrtO : α → α) (g : GConvergenceCheckerSrc α)
    (m : GConvergenceChecker α) (hd : g.d = sqrtO m.c.dsq) :
    (Gen.ConvergenceChecker_Delta_src g).map (fun r => r.2) = .ok (sqrtO m.c.dsq) ∧
    (Gen.ConvergenceChecker_Delta m).map (fun r => r.2) = .ok m.c.dsq := by
  constructor
  · simp [ConvergenceChecker_Delta_src, ConvergenceChecker_Delta_src.body, Stm.run, Stm.ret, pure, Except.pure,
      Except.map, hd]
  · simp [ConvergenceChecker_Delta, Except.map]

end EtVerif.Tr
