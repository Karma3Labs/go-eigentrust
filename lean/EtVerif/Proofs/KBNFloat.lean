/-
  Rounding analysis of the Kahan–Babuška–Neumaier summer (`KBN`, Model/Sparse.lean; Go:
  `KBNSummer`, pkg/sparse/util.go) at a *rounded real* arithmetic.

  Lean's `Float` is opaque, so the float64 arithmetic is modelled by the reals together with a
  rounding function `fl : ℝ → ℝ`; every operation of `Scalar` rounds its exact result
  (`flScalar fl`).  What is known about `fl` is the explicit hypothesis `FPModel fl u`
  (a structure of propositions, passed as a theorem argument; nothing is an axiom):

  * the standard model without underflow, `|fl x - x| ≤ u * |x|`;
  * `fl` is idempotent, so "x is a floating-point number" is `fl x = x`;
  * Dekker's FastTwoSum exactness in exactly the shape `KBN.push` uses it: for floating-point
    numbers `a`, `b` with `|b| ≤ |a|`, the computed `b - ((a ⊕ b) ⊖ a)` is the exact rounding
    error `(a + b) - fl (a + b)` of the addition (true for binary floating point with
    round-to-nearest, no overflow; assumed here, only for representable `a`, `b`).

  Contents (Props/C09b.lean states the results):
  * one step of the summer and the real-arithmetic step lemmas (`step_abs`, `step_E`, `step_d`);
  * `run_inv`: the invariant `Inv` after any list of representable numbers;
  * `result_bound_pow`: `|kbnSum xs - Σ xs| ≤ u |Σ xs| + n² u² (1+u)^(2n) Σ|x|`, no smallness;
    `result_bound`: the factor `(1+u)^(2n)` is at most 4 when `n u ≤ 1/2`;
  * dot products: `dotTerms_fl` (the summer is fed the rounded products), `sum_map_fl_sub`,
    `absSum_map_fl_le` and `bound_of_rounded` (from the rounded to the exact terms);
  * `fpModel_id` and `fpModel_bump`: exact arithmetic, and a rounding function `flBump` that is
    not exact, both satisfy `FPModel`.
-/
import EtVerif.Model.Sparse
import EtVerif.Proofs.FieldScalar
import Mathlib.Data.Real.Basic
import Mathlib.Algebra.Order.Ring.Abs
import Mathlib.Algebra.BigOperators.Group.List.Basic
import Mathlib.Tactic.Ring
import Mathlib.Tactic.Linarith
import Mathlib.Tactic.Positivity
import Mathlib.Tactic.GCongr
import Mathlib.Tactic.NormNum

namespace EtVerif
namespace KBNFloat

open Classical

/-- The real numbers with every arithmetic result rounded by `fl`.
    Comparisons, negation and absolute value are exact (as in IEEE 754). -/
@[reducible] noncomputable def flScalar (fl : ℝ → ℝ) : Scalar ℝ where
  zero := 0
  one := 1
  add := fun x y => fl (x + y)
  sub := fun x y => fl (x - y)
  mul := fun x y => fl (x * y)
  div := fun x y => fl (x / y)
  neg := fun x => -x
  abs := fun x => |x|
  lt := fun x y => decide (x < y)
  le := fun x y => decide (x ≤ y)
  eq := fun x y => decide (x = y)
  ofNat := fun n => (n : ℝ)
  sqrtLe := fun x e => decide (x ≤ e * e)

section ops
variable (fl : ℝ → ℝ) (x y : ℝ)
theorem fs_zero : @Scalar.zero ℝ (flScalar fl) = 0 := rfl
theorem fs_add : @Scalar.add ℝ (flScalar fl) x y = fl (x + y) := rfl
theorem fs_sub : @Scalar.sub ℝ (flScalar fl) x y = fl (x - y) := rfl
theorem fs_mul : @Scalar.mul ℝ (flScalar fl) x y = fl (x * y) := rfl
theorem fs_abs : @Scalar.abs ℝ (flScalar fl) x = |x| := rfl
theorem fs_lt : @Scalar.lt ℝ (flScalar fl) x y = decide (x < y) := rfl
end ops

/-- What is assumed of the rounding function `fl` with unit roundoff `u`. -/
structure FPModel (fl : ℝ → ℝ) (u : ℝ) : Prop where
  u_nonneg : 0 ≤ u
  /-- standard model (no underflow): relative error at most `u` -/
  rel : ∀ x, |fl x - x| ≤ u * |x|
  fl_zero : fl 0 = 0
  /-- rounding a floating-point number changes nothing; `fl x = x` reads "x is representable" -/
  fl_idem : ∀ x, fl (fl x) = fl x
  /-- FastTwoSum (Dekker): for representable `a`, `b` with `|b| ≤ |a|` the two rounded
      subtractions `lessSig ⊖ ((a ⊕ b) ⊖ moreSig)` of `KBN.push` return the rounding error of
      `a ⊕ b` exactly. -/
  twoSum : ∀ a b, fl a = a → fl b = b → |b| ≤ |a| →
    fl (b - fl (fl (a + b) - a)) = (a + b) - fl (a + b)

/-- Non-vacuity: exact arithmetic is a model with `u = 0`. -/
theorem fpModel_id : FPModel id 0 where
  u_nonneg := le_refl 0
  rel := by intro x; simp
  fl_zero := rfl
  fl_idem := fun _ => rfl
  twoSum := by intro a b _ _ _; simp

example : FPModel id 0 := fpModel_id

variable {fl : ℝ → ℝ} {u : ℝ}

/-! ### one step of the summer -/

noncomputable def run (fl : ℝ → ℝ) (xs : List ℝ) : KBN ℝ :=
  @List.foldl (KBN ℝ) ℝ (@KBN.push ℝ (flScalar fl)) (@KBN.init ℝ (flScalar fl)) xs

theorem kbnSum_eq (xs : List ℝ) :
    @kbnSum ℝ (flScalar fl) xs = fl ((run fl xs).sum + (run fl xs).comp) := rfl

theorem run_nil : run fl [] = ⟨0, 0⟩ := rfl

theorem run_snoc (ys : List ℝ) (x : ℝ) :
    run fl (ys ++ [x]) = @KBN.push ℝ (flScalar fl) (run fl ys) x := by
  simp [run, List.foldl_append]

theorem push_sum (s : KBN ℝ) (v : ℝ) :
    (@KBN.push ℝ (flScalar fl) s v).sum = fl (s.sum + v) := rfl

/-- The quantity added to the compensation is exactly the rounding error of the addition: `twoSum`
    in whichever of the two operand orders the `swap` test of `KBN.push` selects. -/
theorem push_comp (h : FPModel fl u) (s : KBN ℝ) (v : ℝ) (hs : fl s.sum = s.sum)
    (hv : fl v = v) :
    (@KBN.push ℝ (flScalar fl) s v).comp = fl (s.comp + ((s.sum + v) - fl (s.sum + v))) := by
  by_cases hlt : |s.sum| < |v|
  · have e := h.twoSum v s.sum hv hs (le_of_lt hlt)
    rw [add_comm v s.sum] at e
    simp only [KBN.push, fs_add, fs_sub, fs_abs, fs_lt, hlt, decide_true, if_true]
    rw [e]
  · have e := h.twoSum s.sum v hs hv (not_lt.mp hlt)
    simp only [KBN.push, fs_add, fs_sub, fs_abs, fs_lt, hlt, decide_false,
      Bool.false_eq_true, if_false]
    rw [e]

/-! ### real-arithmetic step lemmas (no `fl`) -/

section arith
variable {P A A' kk s x y E e c c' d d' w ε ε' δ : ℝ}

/-- With `|s| ≤ P A`, anything within a factor `w` of `|s + x|` is within `w P` of `A + |x|`
    (`w = 1 + u` for the new partial sum, `w = u` for its rounding error). -/
theorem step_abs (hw : 0 ≤ w) (hP : 1 ≤ P) (hs : |s| ≤ P * A) (hy : |y| ≤ w * |s + x|) :
    |y| ≤ w * P * (A + |x|) :=
  calc |y| ≤ w * |s + x| := hy
    _ ≤ w * (|s| + |x|) := mul_le_mul_of_nonneg_left (abs_add_le s x) hw
    _ ≤ w * (P * A + P * |x|) :=
      mul_le_mul_of_nonneg_left (add_le_add hs (le_mul_of_one_le_left (abs_nonneg x) hP)) hw
    _ = w * P * (A + |x|) := by ring

/-- One step of the first-order bound: `ε` bounds the accumulated error `E` relative to `A`
    before the step, `δ` the new local error `e`, and `ε' = (ε + δ) w` is the bound after it. -/
theorem step_E (hw : 1 ≤ w) (hε : 0 ≤ ε) (hA : 0 ≤ A) (hAA : A ≤ A') (hε' : (ε + δ) * w = ε')
    (hE : |E| * w ≤ ε * A) (he : |e| ≤ δ * A') : |E + e| * w ≤ ε' * A' := by
  subst hε'
  have hw0 : 0 ≤ w := zero_le_one.trans hw
  have hAw : A ≤ w * A' := hAA.trans (le_mul_of_one_le_left (hA.trans hAA) hw)
  calc |E + e| * w ≤ (|E| + |e|) * w := mul_le_mul_of_nonneg_right (abs_add_le E e) hw0
    _ = |E| * w + |e| * w := add_mul _ _ _
    _ ≤ ε * (w * A') + δ * A' * w :=
      add_le_add (hE.trans (mul_le_mul_of_nonneg_left hAw hε)) (mul_le_mul_of_nonneg_right he hw0)
    _ = (ε + δ) * w * A' := by ring

/-- One step of the second-order bound: the distance `d` between the stored compensation and the
    accumulated error stays within the square of the first-order bound, because
    `w ε² + u ε' ≤ (ε w + u) ε' ≤ ε'²` for `ε' = (ε + δ) w`. -/
theorem step_d (hu : 0 ≤ u) (hw : 1 ≤ w) (hε : 0 ≤ ε) (hδ : u ≤ δ * w) (hA : 0 ≤ A) (hAA : A ≤ A')
    (hε' : (ε + δ) * w = ε') (hd : d * w ≤ ε ^ 2 * A) (hE : |E| * w ≤ ε' * A')
    (hd' : d' ≤ w * d + u * |E|) : d' * w ≤ ε' ^ 2 * A' := by
  subst hε'
  have hw0 : 0 ≤ w := zero_le_one.trans hw
  have hεw : 0 ≤ ε * w := mul_nonneg hε hw0
  have h1 : ε * w + u ≤ (ε + δ) * w := by rw [add_mul]; exact add_le_add_right hδ _
  have h2 : ε * w ≤ (ε + δ) * w := (le_add_of_nonneg_right hu).trans h1
  have hc : w * ε ^ 2 + u * ((ε + δ) * w) ≤ ((ε + δ) * w) ^ 2 :=
    calc w * ε ^ 2 + u * ((ε + δ) * w) = ε * (ε * w) + u * ((ε + δ) * w) := by ring
      _ ≤ ε * w * ((ε + δ) * w) + u * ((ε + δ) * w) :=
        add_le_add_left (mul_le_mul (le_mul_of_one_le_right hε hw) h2 hεw hεw) _
      _ = (ε * w + u) * ((ε + δ) * w) := (add_mul _ _ _).symm
      _ ≤ (ε + δ) * w * ((ε + δ) * w) := mul_le_mul_of_nonneg_right h1 (hεw.trans h2)
      _ = ((ε + δ) * w) ^ 2 := (sq _).symm
  calc d' * w ≤ (w * d + u * |E|) * w := mul_le_mul_of_nonneg_right hd' hw0
    _ = w * (d * w) + u * (|E| * w) := by ring
    _ ≤ w * (ε ^ 2 * A') + u * ((ε + δ) * w * A') :=
      add_le_add
        (mul_le_mul_of_nonneg_left (hd.trans (mul_le_mul_of_nonneg_left hAA (sq_nonneg ε))) hw0)
        (mul_le_mul_of_nonneg_left hE hu)
    _ = (w * ε ^ 2 + u * ((ε + δ) * w)) * A' := by ring
    _ ≤ ((ε + δ) * w) ^ 2 * A' := mul_le_mul_of_nonneg_right hc (hA.trans hAA)

/-- The `hε'` of `step_E`/`step_d` as instantiated in `inv_snoc`: `ε = k u (1+u)^k`,
    `δ = u (1+u)^k`. -/
theorem eps_succ : (kk * u * P + u * P) * w = (kk + 1) * u * (P * w) := by ring

/-- `c`, `c'` the stored compensation before and after the step, `E` the accumulated error, `e`
    the local one; this is the `hd'` of `step_d` (with `w = 1 + u`). -/
theorem comp_dist (hc' : |c' - (c + e)| ≤ u * |c + e|) (hu : 0 ≤ u) :
    |c' - (E + e)| ≤ (1 + u) * |c - E| + u * |E + e| := by
  have h1 : |c' - (E + e)| ≤ |c' - (c + e)| + |c - E| := by
    have := abs_sub_le c' (c + e) (E + e)
    rwa [add_sub_add_right_eq_sub] at this
  have h2 : |c + e| ≤ |c - E| + |E + e| := by
    have := abs_add_le (c - E) (E + e)
    rwa [← add_assoc, sub_add_cancel] at this
  have h3 : u * |c + e| ≤ u * (|c - E| + |E + e|) := mul_le_mul_of_nonneg_left h2 hu
  linarith

/-- The final rounded addition of `KBN.result`: `res = fl (s + c)`, `S` the exact sum. -/
theorem final_dist {S res : ℝ} (hu : 0 ≤ u) (hres : |res - (s + c)| ≤ u * |s + c|)
    (hS : s + E = S) : |res - S| ≤ u * |S| + (1 + u) * |c - E| := by
  have e1 : s + c - S = c - E := by rw [← hS]; ring
  have h1 : |s + c| ≤ |S| + |c - E| := by
    have := abs_add_le S (s + c - S)
    rwa [add_sub_cancel, e1] at this
  have h2 : |res - S| ≤ |res - (s + c)| + |c - E| := by
    have := abs_sub_le res (s + c) S
    rwa [e1] at this
  have h3 : u * |s + c| ≤ u * (|S| + |c - E|) := mul_le_mul_of_nonneg_left h1 hu
  linarith

end arith

theorem pow_mul_le_one (hu : 0 ≤ u) (n : ℕ) : (1 + u) ^ n * (1 - n * u) ≤ 1 := by
  induction n with
  | zero => simp
  | succ k ih =>
    calc (1 + u) ^ (k + 1) * (1 - ((k + 1 : ℕ) : ℝ) * u)
        = (1 + u) ^ k * (1 - k * u) - (1 + u) ^ k * ((k + 1) * u ^ 2) := by push_cast; ring
      _ ≤ (1 + u) ^ k * (1 - k * u) := sub_le_self _ (by positivity)
      _ ≤ 1 := ih

theorem pow_le_two (hu : 0 ≤ u) (n : ℕ) (hn : (n : ℝ) * u ≤ 1 / 2) : (1 + u) ^ n ≤ 2 := by
  have : (1 + u) ^ n * (1 / 2) ≤ 1 :=
    (mul_le_mul_of_nonneg_left (by linarith) (by positivity)).trans (pow_mul_le_one hu n)
  linarith

/-! ### the invariant of the summation loop -/

noncomputable def absSum (xs : List ℝ) : ℝ := (xs.map fun x => |x|).sum

theorem absSum_nil : absSum [] = 0 := rfl

theorem absSum_snoc (ys : List ℝ) (x : ℝ) : absSum (ys ++ [x]) = absSum ys + |x| := by
  simp [absSum]

theorem absSum_cons (p : ℝ) (t : List ℝ) : absSum (p :: t) = |p| + absSum t := rfl

theorem absSum_nonneg (xs : List ℝ) : 0 ≤ absSum xs := by
  induction xs with
  | nil => exact le_rfl
  | cons a t ih => exact add_nonneg (abs_nonneg a) ih

theorem abs_fl_le (h : FPModel fl u) (y : ℝ) : |fl y| ≤ (1 + u) * |y| :=
  calc |fl y| = |(fl y - y) + y| := by rw [sub_add_cancel]
    _ ≤ |fl y - y| + |y| := abs_add_le _ _
    _ ≤ u * |y| + |y| := add_le_add_left (h.rel y) _
    _ = (1 + u) * |y| := by rw [add_mul, one_mul, add_comm]

/-- Invariant after the prefix `ys` (state `st`), with `k = ys.length`, `A = Σ|y|`,
    `E = Σ ys - st.sum` the *exact* accumulated error of the running sum:
    the running sum is representable, `|sum| ≤ (1+u)^k A`,
    `|E| (1+u) ≤ k u (1+u)^k A`, and `|comp - E| (1+u) ≤ (k u (1+u)^k)² A`.
    The two error bounds carry the factor `1 + u` because that is how they are consumed:
    `step_d` needs `|E| (1+u)`, and `final_dist` needs `(1+u) |comp - E|`. -/
structure Inv (fl : ℝ → ℝ) (u : ℝ) (ys : List ℝ) (st : KBN ℝ) : Prop where
  repr : fl st.sum = st.sum
  sumB : |st.sum| ≤ (1 + u) ^ ys.length * absSum ys
  errB : |ys.sum - st.sum| * (1 + u) ≤ (ys.length : ℝ) * u * (1 + u) ^ ys.length * absSum ys
  compB : |st.comp - (ys.sum - st.sum)| * (1 + u) ≤
    ((ys.length : ℝ) * u * (1 + u) ^ ys.length) ^ 2 * absSum ys

theorem inv_nil (h : FPModel fl u) : Inv fl u [] (run fl []) := by
  refine ⟨?_, ?_, ?_, ?_⟩ <;> simp [run_nil, absSum_nil, h.fl_zero]

theorem inv_snoc (h : FPModel fl u) (ys : List ℝ) (x : ℝ) (st : KBN ℝ) (hx : fl x = x)
    (I : Inv fl u ys st) : Inv fl u (ys ++ [x]) (@KBN.push ℝ (flScalar fl) st x) := by
  have hu := h.u_nonneg
  have hw : 1 ≤ 1 + u := le_add_of_nonneg_right hu
  have hP : 1 ≤ (1 + u) ^ ys.length := one_le_pow₀ hw
  have hk : (0 : ℝ) ≤ (ys.length : ℝ) := Nat.cast_nonneg _
  have hA := absSum_nonneg ys
  have hAA : absSum ys ≤ absSum ys + |x| := le_add_of_nonneg_right (abs_nonneg x)
  -- the local error of the new running sum
  have he : |st.sum + x - fl (st.sum + x)| ≤ u * |st.sum + x| := by
    rw [abs_sub_comm]; exact h.rel _
  have eE : (ys ++ [x]).sum - fl (st.sum + x) =
      (ys.sum - st.sum) + (st.sum + x - fl (st.sum + x)) := by
    rw [List.sum_append, List.sum_singleton]; ring
  have elen : (ys ++ [x]).length = ys.length + 1 := List.length_append
  have hδ : u ≤ u * (1 + u) ^ ys.length * (1 + u) := by
    rw [mul_assoc]; exact le_mul_of_one_le_right hu (one_le_mul_of_one_le_of_one_le hP hw)
  have hε : 0 ≤ (ys.length : ℝ) * u * (1 + u) ^ ys.length :=
    mul_nonneg (mul_nonneg hk hu) (zero_le_one.trans hP)
  have b_E := step_E hw hε hA hAA eps_succ I.errB (step_abs hu hP I.sumB he)
  have b_d := step_d hu hw hε hδ hA hAA eps_succ I.compB b_E
    (comp_dist (E := ys.sum - st.sum) (h.rel _) hu)
  refine ⟨?_, ?_, ?_, ?_⟩
  · rw [push_sum]; exact h.fl_idem _
  · rw [push_sum, elen, pow_succ', absSum_snoc]
    exact step_abs (zero_le_one.trans hw) hP I.sumB (abs_fl_le h _)
  · rw [push_sum, eE, elen, Nat.cast_succ, pow_succ, absSum_snoc]; exact b_E
  · rw [push_comp h st x I.repr hx, push_sum, eE, elen, Nat.cast_succ, pow_succ, absSum_snoc]
    exact b_d

theorem run_inv (h : FPModel fl u) (xs : List ℝ) (hx : ∀ x ∈ xs, fl x = x) :
    Inv fl u xs (run fl xs) := by
  induction xs using List.reverseRecOn with
  | nil => exact inv_nil h
  | append_singleton ys x ih =>
    rw [run_snoc]
    exact inv_snoc h ys x _ (hx x (by simp)) (ih fun y hy => hx y (by simp [hy]))

/-- Error bound with the explicit growth factor `(1+u)^(2n)`; no smallness condition. -/
theorem result_bound_pow (h : FPModel fl u) (xs : List ℝ) (hx : ∀ x ∈ xs, fl x = x) :
    |@kbnSum ℝ (flScalar fl) xs - xs.sum| ≤
      u * |xs.sum| + (xs.length : ℝ) ^ 2 * u ^ 2 * ((1 + u) ^ xs.length) ^ 2 * absSum xs := by
  have hc := (run_inv h xs hx).compB
  rw [mul_pow, mul_pow] at hc
  rw [kbnSum_eq]
  exact (final_dist h.u_nonneg (h.rel _) (add_sub_cancel _ _)).trans
    (add_le_add_right ((mul_comm _ _).trans_le hc) _)

/-- With `n u ≤ 1/2` the growth factor is at most 4. -/
theorem result_bound (h : FPModel fl u) (xs : List ℝ) (hx : ∀ x ∈ xs, fl x = x)
    (hn : (xs.length : ℝ) * u ≤ 1 / 2) :
    |@kbnSum ℝ (flScalar fl) xs - xs.sum| ≤
      u * |xs.sum| + 4 * (xs.length : ℝ) ^ 2 * u ^ 2 * absSum xs := by
  have hsq : ((1 + u) ^ xs.length) ^ 2 ≤ 4 :=
    (pow_le_pow_left₀ (pow_nonneg (add_nonneg zero_le_one h.u_nonneg) _)
      (pow_le_two h.u_nonneg xs.length hn) 2).trans_eq (by norm_num)
  refine (result_bound_pow h xs hx).trans (add_le_add_right ?_ _)
  rw [mul_assoc 4, mul_comm 4]
  exact mul_le_mul_of_nonneg_right
    (mul_le_mul_of_nonneg_left hsq (mul_nonneg (sq_nonneg _) (sq_nonneg _))) (absSum_nonneg xs)

/-! ### dot products: the summer is fed the rounded products -/

/-- At the rounded arithmetic `dotTerms` yields the roundings of the exact products
    (same index matching: indices are compared exactly). -/
theorem dotTerms_fl (fl : ℝ → ℝ) (e1 e2 : List (Entry ℝ)) :
    @dotTerms ℝ (flScalar fl) e1 e2 = (@dotTerms ℝ fieldScalar e1 e2).map fl := by
  fun_induction @dotTerms ℝ fieldScalar e1 e2 with
  | case1 e2 => rw [@dotTerms.eq_1 ℝ (flScalar fl)]; rfl
  | case2 e1 h =>
    cases e1 with
    | nil => exact absurd rfl h
    | cons a t => rw [@dotTerms.eq_2 ℝ (flScalar fl) _ (by simp)]; rfl
  | case3 a e1 b e2 hlt ih => rw [@dotTerms.eq_3 ℝ (flScalar fl), if_pos hlt, ih]
  | case4 a e1 b e2 hlt heq ih =>
    rw [@dotTerms.eq_3 ℝ (flScalar fl), if_neg hlt, if_pos heq, ih]; rfl
  | case5 a e1 b e2 hlt hne ih =>
    rw [@dotTerms.eq_3 ℝ (flScalar fl), if_neg hlt, if_neg hne, ih]

theorem sum_map_fl_sub (h : FPModel fl u) (ps : List ℝ) :
    |(ps.map fl).sum - ps.sum| ≤ u * absSum ps := by
  induction ps with
  | nil => simp [absSum]
  | cons p t ih =>
    rw [List.map_cons, List.sum_cons, List.sum_cons, add_sub_add_comm, absSum_cons, mul_add]
    exact (abs_add_le _ _).trans (add_le_add (h.rel p) ih)

theorem absSum_map_fl_le (h : FPModel fl u) (ps : List ℝ) :
    (ps.map fun p => |fl p|).sum ≤ (1 + u) * absSum ps := by
  induction ps with
  | nil => simp [absSum]
  | cons p t ih =>
    rw [List.map_cons, List.sum_cons, absSum_cons, mul_add]
    exact add_le_add (abs_fl_le h p) ih

/-- From a bound relative to the rounded terms (sum `F`, absolute sum `AF`) to one relative to
    the exact terms (sum `S`, absolute sum `A`). -/
theorem bound_of_rounded {r F S A AF K : ℝ} (hu : 0 ≤ u) (hK : 0 ≤ K)
    (hb : |r - F| ≤ u * |F| + K * AF) (d1 : |F - S| ≤ u * A) (d2 : AF ≤ (1 + u) * A) :
    |r - S| ≤ u * |S| + (u + u ^ 2 + K * (1 + u)) * A := by
  have t2 : |F| ≤ u * A + |S| :=
    calc |F| = |(F - S) + S| := by rw [sub_add_cancel]
      _ ≤ |F - S| + |S| := abs_add_le _ _
      _ ≤ u * A + |S| := add_le_add_left d1 _
  calc |r - S| ≤ |r - F| + |F - S| := abs_sub_le r F S
    _ ≤ (u * (u * A + |S|) + K * ((1 + u) * A)) + u * A :=
      add_le_add (hb.trans (add_le_add (mul_le_mul_of_nonneg_left t2 hu)
        (mul_le_mul_of_nonneg_left d2 hK))) d1
    _ = u * |S| + (u + u ^ 2 + K * (1 + u)) * A := by ring

theorem abs_sum_le_absSum (ps : List ℝ) : |ps.sum| ≤ absSum ps := by
  induction ps with
  | nil => exact abs_zero.le
  | cons p t ih => exact (abs_add_le p t.sum).trans (add_le_add_right ih _)

/-! ### a model that is not exact arithmetic (non-vacuity with `u > 0`) -/

/-- Exact arithmetic except that `3` is not representable and rounds to `3 + 1/8`. -/
noncomputable def flBump (x : ℝ) : ℝ := if x = 3 then 25 / 8 else x

theorem flBump_three : flBump 3 = 25 / 8 := by simp [flBump]
theorem flBump_ne {x : ℝ} (hx : x ≠ 3) : flBump x = x := by simp [flBump, hx]
theorem flBump_repr {x : ℝ} (hx : flBump x = x) : x ≠ 3 := by
  intro h3; rw [h3, flBump_three] at hx; norm_num at hx

theorem fpModel_bump : FPModel flBump (1 / 24) where
  u_nonneg := by norm_num
  rel := by
    intro x
    by_cases hx : x = 3
    · rw [hx, flBump_three]; norm_num [abs_of_pos]
    · rw [flBump_ne hx, sub_self, abs_zero]; positivity
  fl_zero := flBump_ne (by norm_num)
  fl_idem := by
    intro x
    by_cases hx : x = 3
    · rw [hx, flBump_three]; exact flBump_ne (by norm_num)
    · rw [flBump_ne hx, flBump_ne hx]
  twoSum := by
    intro a b ha hb hab
    have ha3 := flBump_repr ha
    have hb3 := flBump_repr hb
    by_cases hs : a + b = 3
    · -- the error `3 - 25/8` of the rounded sum is representable, and so is `25/8 - a`: it is
      -- `3` only for `a = 1/8`, `b = 23/8`, which `|b| ≤ |a|` excludes
      have h1 : (25 / 8 : ℝ) - a ≠ 3 := by
        intro h
        obtain rfl : a = 25 / 8 - 3 := by rw [← h, sub_sub_cancel]
        obtain rfl : b = 3 - (25 / 8 - 3) := eq_sub_of_add_eq' hs
        norm_num [abs_of_pos] at hab
      have e2 : b - (25 / 8 - a) = 3 - 25 / 8 := by rw [← hs]; ring
      rw [hs, flBump_three, flBump_ne h1, e2]
      exact flBump_ne (by norm_num)
    · rw [flBump_ne hs, add_sub_cancel_left, flBump_ne hb3, sub_self, sub_self]
      exact flBump_ne (by norm_num)

end KBNFloat
end EtVerif
