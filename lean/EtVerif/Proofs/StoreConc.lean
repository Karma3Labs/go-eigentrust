/-
  Concurrent (step-level) model of the stored local-trust handlers and the machinery behind the
  concurrent clause of C13 (Props/C13b.lean).

  What is modelled (pkg/basic/server/namedtrust.go, lockedtrust.go, pkg/util/syncmap.go,
  pkg/basic/server/oapi/openapi.go UpdateLocalTrust / getLocalTrust / HeadLocalTrust /
  DeleteLocalTrust):

  * matrices are abstracted to an arbitrary type `M` with an overlay `ov : M → M → M`
    (`ov target update`, the effect of `target.Merge(update)`); request bodies are already loaded;
  * a `*TrustMatrix` is an object id (a `Nat`); the `sync.Map` is `String → Option Nat`; objects
    removed from the map by `Swap` / `LoadAndDelete` keep existing (a goroutine may hold the pointer);
  * every `sync.Map` primitive is one atomic step; every `LockAndRun` section is one atomic step
    (the per-object mutex makes sections on one object serial, sections on different objects touch
    disjoint state);
  * the closing `LockAndRun(c.Mmap)` section of UpdateLocalTrust does not change the content of the
    matrix (C12) and is omitted; so is `c.Reset()` on the request's own, unshared body;
  * a goroutine = one request (`Nat`); there is no bound on their number.  A client that issues its
    requests one after the other is a special schedule.

  Handlers as programs of atomic steps:
    put id b    : [alloc o' := b; Swap(id, o')]                               → 201 iff nothing loaded
    merge id b  : [alloc o' := b; LoadOrStore(id, o')] ; if loaded o: [section: o := ov o b]
                                                                              → 201 iff nothing loaded
    get id      : [Load id] ; none ⇒ 404 | some o ⇒ [section: read o]         → matrix
    head id     : [Load id]                                                   → 204 / 404
    delete id   : [LoadAndDelete id]                                          → 204 / 404

  History variables (do not influence the behaviour): `trace` (the atomic actions in execution
  order; the step index of an action is its position), `invT` (index of a request's first action),
  `hist` (completed requests: first / last action index, request, response).  Taking the first and
  last *atomic action* as invocation / response instants is the tightest choice: the real
  invocation is earlier and the real response later, which only removes real-time constraints.

  Section 1 (`TraceInv`: map and contents are functions of the trace) and sections 2-4 (`SInv`:
  the linearization by forward simulation) do not depend on each other; section 1 only feeds
  `C13b.conc_invariant` and `C13b.content_is_fold`.  Section 5 (`stepFn`, `runFn`) is an executable
  form of `Step`, for the concrete executions of C13b.
-/
import Mathlib.Logic.Relation
import Mathlib.Logic.Function.Basic
import Mathlib.Data.List.Perm.Basic

namespace EtVerif.StoreConc

/- Object ids (`*TrustMatrix` pointers) and request / goroutine ids are natural numbers; they are
   written `Nat` throughout (variables `o`, `new`, `prev` : object ids; `r`, `rid` : request ids)
   because `omega` does not look through type abbreviations. -/

inductive Req (M : Type) where
  | put (id : String) (body : M)
  | merge (id : String) (body : M)
  | get (id : String)
  | head (id : String)
  | delete (id : String)
deriving DecidableEq

inductive Resp (M : Type) where
  | created | updated | noContent | notFound
  | matrix (m : M)
deriving DecidableEq

def Req.id {M : Type} : Req M → String
  | .put id _ => id | .merge id _ => id | .get id => id | .head id => id | .delete id => id

/-! ## sequential specification (`Oapi.handleStore` / `C13.specStep` with matrices abstracted) -/

abbrev KV (M : Type) := String → Option M

variable {M : Type}

def specStep (ov : M → M → M) (kv : KV M) : Req M → KV M × Resp M
  | .put id b => (Function.update kv id (some b), if (kv id).isSome then .updated else .created)
  | .merge id b =>
    match kv id with
    | none => (Function.update kv id (some b), .created)
    | some c => (Function.update kv id (some (ov c b)), .updated)
  | .get id => (kv, match kv id with | none => .notFound | some c => .matrix c)
  | .head id => (kv, if (kv id).isSome then .noContent else .notFound)
  | .delete id =>
    if (kv id).isSome then (Function.update kv id none, .noContent) else (kv, .notFound)

def runSpec (ov : M → M → M) (kv : KV M) : List (Req M) → List (Resp M)
  | [] => []
  | q :: qs => (specStep ov kv q).2 :: runSpec ov (specStep ov kv q).1 qs

/-! ## the concurrent system -/

inductive Pc where
  | start
  | mergeLoaded (o : Nat)
  | getLoaded (o : Nat)
  | done

/-- atomic actions, as recorded in the trace -/
inductive Ev (M : Type) where
  | swap (r : Nat) (id : String) (new : Nat) (body : M) (prev : Option Nat)
  | los (r : Nat) (id : String) (new : Nat) (body : M) (prev : Option Nat)
  | msec (r : Nat) (o : Nat) (body : M)
  | gload (r : Nat) (id : String) (res : Option Nat)
  | gread (r : Nat) (o : Nat) (c : M)
  | hload (r : Nat) (id : String) (res : Option Nat)
  | lad (r : Nat) (id : String) (prev : Option Nat)

/-- a completed request -/
structure Rec (M : Type) where
  rid : Nat
  req : Req M
  inv : Nat
  res : Nat
  resp : Resp M
deriving DecidableEq

structure St (M : Type) where
  map : String → Option Nat
  cont : Nat → Option M
  next : Nat
  pc : Nat → Pc
  invT : Nat → Nat
  trace : List (Ev M)
  hist : List (Rec M)

def init : St M :=
  { map := fun _ => none, cont := fun _ => none, next := 0, pc := fun _ => .start,
    invT := fun _ => 0, trace := [], hist := [] }

open Function in
inductive Step (prog : Nat → Req M) (ov : M → M → M) : St M → St M → Prop
  /-- put: NewTrustMatrixWithContents + Swap -/
  | swap (s : St M) (r : Nat) (id : String) (body : M)
      (hp : prog r = .put id body) (hpc : s.pc r = .start) :
      Step prog ov s
        { map := update s.map id (some s.next)
          cont := update s.cont s.next (some body)
          next := s.next + 1
          pc := update s.pc r .done
          invT := update s.invT r s.trace.length
          trace := s.trace ++ [.swap r id s.next body (s.map id)]
          hist := s.hist ++ [⟨r, .put id body, s.trace.length, s.trace.length,
                    if (s.map id).isSome then .updated else .created⟩] }
  /-- merge: NewTrustMatrixWithContents + LoadOrStore, nothing loaded: stored, answer 201 -/
  | losStore (s : St M) (r : Nat) (id : String) (body : M)
      (hp : prog r = .merge id body) (hpc : s.pc r = .start) (hm : s.map id = none) :
      Step prog ov s
        { map := update s.map id (some s.next)
          cont := update s.cont s.next (some body)
          next := s.next + 1
          pc := update s.pc r .done
          invT := update s.invT r s.trace.length
          trace := s.trace ++ [.los r id s.next body none]
          hist := s.hist ++ [⟨r, .merge id body, s.trace.length, s.trace.length, .created⟩] }
  /-- merge: NewTrustMatrixWithContents + LoadOrStore, object `o` loaded (the new object is
      dropped) -/
  | losLoad (s : St M) (r : Nat) (id : String) (body : M) (o : Nat)
      (hp : prog r = .merge id body) (hpc : s.pc r = .start) (hm : s.map id = some o) :
      Step prog ov s
        { map := s.map
          cont := update s.cont s.next (some body)
          next := s.next + 1
          pc := update s.pc r (.mergeLoaded o)
          invT := update s.invT r s.trace.length
          trace := s.trace ++ [.los r id s.next body (some o)]
          hist := s.hist }
  /-- merge: the locked section `c2.Merge(c)` on the loaded object, answer 200 -/
  | msec (s : St M) (r : Nat) (id : String) (body : M) (o : Nat) (c : M)
      (hp : prog r = .merge id body) (hpc : s.pc r = .mergeLoaded o) (hc : s.cont o = some c) :
      Step prog ov s
        { map := s.map
          cont := update s.cont o (some (ov c body))
          next := s.next
          pc := update s.pc r .done
          invT := s.invT
          trace := s.trace ++ [.msec r o body]
          hist := s.hist ++ [⟨r, .merge id body, s.invT r, s.trace.length, .updated⟩] }
  /-- get: Load finds nothing, answer 404 -/
  | gloadNone (s : St M) (r : Nat) (id : String)
      (hp : prog r = .get id) (hpc : s.pc r = .start) (hm : s.map id = none) :
      Step prog ov s
        { map := s.map, cont := s.cont, next := s.next
          pc := update s.pc r .done
          invT := update s.invT r s.trace.length
          trace := s.trace ++ [.gload r id none]
          hist := s.hist ++ [⟨r, .get id, s.trace.length, s.trace.length, .notFound⟩] }
  /-- get: Load finds `o` -/
  | gloadSome (s : St M) (r : Nat) (id : String) (o : Nat)
      (hp : prog r = .get id) (hpc : s.pc r = .start) (hm : s.map id = some o) :
      Step prog ov s
        { map := s.map, cont := s.cont, next := s.next
          pc := update s.pc r (.getLoaded o)
          invT := update s.invT r s.trace.length
          trace := s.trace ++ [.gload r id (some o)]
          hist := s.hist }
  /-- get: the locked section reading the loaded object, answer 200 + content -/
  | gread (s : St M) (r : Nat) (id : String) (o : Nat) (c : M)
      (hp : prog r = .get id) (hpc : s.pc r = .getLoaded o) (hc : s.cont o = some c) :
      Step prog ov s
        { map := s.map, cont := s.cont, next := s.next
          pc := update s.pc r .done
          invT := s.invT
          trace := s.trace ++ [.gread r o c]
          hist := s.hist ++ [⟨r, .get id, s.invT r, s.trace.length, .matrix c⟩] }
  /-- head: Load -/
  | hload (s : St M) (r : Nat) (id : String)
      (hp : prog r = .head id) (hpc : s.pc r = .start) :
      Step prog ov s
        { map := s.map, cont := s.cont, next := s.next
          pc := update s.pc r .done
          invT := update s.invT r s.trace.length
          trace := s.trace ++ [.hload r id (s.map id)]
          hist := s.hist ++ [⟨r, .head id, s.trace.length, s.trace.length,
                    if (s.map id).isSome then .noContent else .notFound⟩] }
  /-- delete: LoadAndDelete -/
  | lad (s : St M) (r : Nat) (id : String)
      (hp : prog r = .delete id) (hpc : s.pc r = .start) :
      Step prog ov s
        { map := update s.map id none
          cont := s.cont, next := s.next
          pc := update s.pc r .done
          invT := update s.invT r s.trace.length
          trace := s.trace ++ [.lad r id (s.map id)]
          hist := s.hist ++ [⟨r, .delete id, s.trace.length, s.trace.length,
                    if (s.map id).isSome then .noContent else .notFound⟩] }

def Reach (prog : Nat → Req M) (ov : M → M → M) (s : St M) : Prop :=
  Relation.ReflTransGen (Step prog ov) init s

/-! ## 1. the state is a function of the trace of atomic actions -/

def Ev.rid : Ev M → Nat
  | .swap r .. => r | .los r .. => r | .msec r .. => r | .gload r .. => r
  | .gread r .. => r | .hload r .. => r | .lad r .. => r

def Ev.mapEff (m : String → Option Nat) : Ev M → String → Option Nat
  | .swap _ id o _ _ => Function.update m id (some o)
  | .los _ id o _ _ => if (m id).isSome then m else Function.update m id (some o)
  | .lad _ id _ => Function.update m id none
  | _ => m

def Ev.contEff (ov : M → M → M) (cont : Nat → Option M) : Ev M → Nat → Option M
  | .swap _ _ o b _ => Function.update cont o (some b)
  | .los _ _ o b _ => Function.update cont o (some b)
  | .msec _ o b => Function.update cont o ((cont o).map (ov · b))
  | _ => cont

def mapOf (tr : List (Ev M)) : String → Option Nat :=
  tr.foldl Ev.mapEff (fun _ => none)

/-- the body an action allocates object `o` with -/
def Ev.allocOf (o : Nat) : Ev M → Option M
  | .swap _ _ o' b _ => if o' = o then some b else none
  | .los _ _ o' b _ => if o' = o then some b else none
  | _ => none

/-- the merge body an action applies to object `o` in a locked section -/
def Ev.mergeOn (o : Nat) : Ev M → Option M
  | .msec _ o' b => if o' = o then some b else none
  | _ => none

def allocBody (tr : List (Ev M)) (o : Nat) : Option M := tr.findSome? (Ev.allocOf o)

/-- merge bodies applied to `o`, in the order their locked sections executed -/
def mergeBodies (tr : List (Ev M)) (o : Nat) : List M := tr.filterMap (Ev.mergeOn o)

/-- the content of `o` after a trace: the fold of `ov` over the merge bodies applied to it, in
    section order, starting from the body it was allocated with (`none` = never allocated) -/
def contOf (ov : M → M → M) (tr : List (Ev M)) (o : Nat) : Option M :=
  (allocBody tr o).map fun b0 => (mergeBodies tr o).foldl ov b0

/-- what an action must have observed when executed after trace `tr` -/
def Ev.okAfter (ov : M → M → M) (tr : List (Ev M)) : Ev M → Prop
  | .swap _ id o _ prev => prev = mapOf tr id ∧ allocBody tr o = none
  | .los _ id o _ prev => prev = mapOf tr id ∧ allocBody tr o = none
  | .msec _ o _ => (contOf ov tr o).isSome
  | .gload _ id res => res = mapOf tr id
  | .gread _ o c => contOf ov tr o = some c
  | .hload _ id res => res = mapOf tr id
  | .lad _ id prev => prev = mapOf tr id

/-- every action of the trace observed exactly the state defined by the actions before it -/
inductive Sound (ov : M → M → M) : List (Ev M) → Prop
  | nil : Sound ov []
  | snoc {tr : List (Ev M)} {e : Ev M} : Sound ov tr → e.okAfter ov tr → Sound ov (tr ++ [e])

/-- the response a final action determines (`none`: the action is not final) -/
def Ev.resp? : Ev M → Option (Resp M)
  | .swap _ _ _ _ prev => some (if prev.isSome then .updated else .created)
  | .los _ _ _ _ prev => if prev.isSome then none else some .created
  | .msec .. => some .updated
  | .gload _ _ res => if res.isSome then none else some .notFound
  | .gread _ _ c => some (.matrix c)
  | .hload _ _ res => some (if res.isSome then .noContent else .notFound)
  | .lad _ _ prev => some (if prev.isSome then .noContent else .notFound)

/-- a history record is backed by the trace: its response instant holds the final action of the
    request and the response is the one that action determines -/
def Rec.Backed (prog : Nat → Req M) (tr : List (Ev M)) (rc : Rec M) : Prop :=
  rc.req = prog rc.rid ∧ rc.inv ≤ rc.res ∧
  ∃ e, tr[rc.res]? = some e ∧ e.rid = rc.rid ∧ e.resp? = some rc.resp

structure TraceInv (prog : Nat → Req M) (ov : M → M → M) (s : St M) : Prop where
  map_eq : s.map = mapOf s.trace
  cont_eq : s.cont = contOf ov s.trace
  fresh : ∀ o, s.next ≤ o → allocBody s.trace o = none
  sound : Sound ov s.trace
  backed : ∀ rc ∈ s.hist, rc.Backed prog s.trace
  invT_le : ∀ r, s.invT r ≤ s.trace.length

theorem mapOf_snoc (tr : List (Ev M)) (e : Ev M) : mapOf (tr ++ [e]) = e.mapEff (mapOf tr) := by
  simp [mapOf, List.foldl_append]

theorem allocBody_snoc (tr : List (Ev M)) (e : Ev M) (o : Nat) :
    allocBody (tr ++ [e]) o = (allocBody tr o).or (e.allocOf o) := by
  simp [allocBody, List.findSome?_append]

theorem mergeBodies_snoc (tr : List (Ev M)) (e : Ev M) (o : Nat) :
    mergeBodies (tr ++ [e]) o = mergeBodies tr o ++ (e.mergeOn o).toList := by
  simp only [mergeBodies, List.filterMap_append, List.filterMap_cons, List.filterMap_nil]
  cases e.mergeOn o <;> rfl

theorem contOf_snoc_other {ov : M → M → M} {tr : List (Ev M)} {e : Ev M} {o : Nat}
    (ha : e.allocOf o = none) (hm : e.mergeOn o = none) :
    contOf ov (tr ++ [e]) o = contOf ov tr o := by
  simp [contOf, allocBody_snoc, mergeBodies_snoc, ha, hm]

theorem Sound.noMerge {ov : M → M → M} {tr : List (Ev M)} (h : Sound ov tr) (o : Nat)
    (ha : allocBody tr o = none) : mergeBodies tr o = [] := by
  induction h with
  | nil => rfl
  | @snoc tr e _ hok ih =>
    rw [allocBody_snoc] at ha
    have h1 : allocBody tr o = none := (Option.or_eq_none_iff.mp ha).1
    rw [mergeBodies_snoc, ih h1]
    cases e with
    | msec r o' b =>
      by_cases ho : o' = o
      · subst ho
        simp [Ev.okAfter, contOf, h1] at hok
      · simp [Ev.mergeOn, ho]
    | _ => rfl

theorem contOf_snoc_alloc {ov : M → M → M} {tr : List (Ev M)} (hs : Sound ov tr) {e : Ev M}
    {o : Nat} {b : M}
    (hf : allocBody tr o = none) (ha : e.allocOf o = some b) (hm : e.mergeOn o = none) :
    contOf ov (tr ++ [e]) o = some b := by
  simp [contOf, allocBody_snoc, mergeBodies_snoc, ha, hm, hf, hs.noMerge o hf]

theorem contOf_snoc_merge {ov : M → M → M} {tr : List (Ev M)} {e : Ev M} {o : Nat} {c b : M}
    (hc : contOf ov tr o = some c) (ha : e.allocOf o = none) (hm : e.mergeOn o = some b) :
    contOf ov (tr ++ [e]) o = some (ov c b) := by
  simp only [contOf, Option.map_eq_some_iff] at hc
  obtain ⟨b0, h0, rfl⟩ := hc
  simp [contOf, allocBody_snoc, mergeBodies_snoc, ha, hm, h0, List.foldl_append]

theorem Rec.Backed.snoc {prog : Nat → Req M} {tr : List (Ev M)} {rc : Rec M}
    (h : rc.Backed prog tr) (e : Ev M) : rc.Backed prog (tr ++ [e]) := by
  obtain ⟨h1, h2, e', h3, h4⟩ := h
  refine ⟨h1, h2, e', ?_, h4⟩
  rw [List.getElem?_append_left (List.getElem?_eq_some_iff.mp h3).1]
  exact h3

theorem Rec.Backed.last {prog : Nat → Req M} (tr : List (Ev M)) (e : Ev M) (rc : Rec M)
    (h1 : rc.req = prog rc.rid) (h2 : rc.inv ≤ rc.res) (h3 : rc.res = tr.length)
    (h4 : e.rid = rc.rid) (h5 : e.resp? = some rc.resp) : rc.Backed prog (tr ++ [e]) :=
  ⟨h1, h2, e, by simp [h3], h4, h5⟩

theorem TraceInv.init (prog : Nat → Req M) (ov : M → M → M) : TraceInv prog ov (init : St M) :=
  ⟨rfl, rfl, fun _ _ => rfl, .nil, fun _ h => (by cases h), fun _ => Nat.le_refl _⟩

theorem contOf_snoc {ov : M → M → M} {tr : List (Ev M)} {e : Ev M} (hs : Sound ov tr)
    (hok : e.okAfter ov tr) : contOf ov (tr ++ [e]) = e.contEff ov (contOf ov tr) := by
  funext o
  cases e with
  | swap r id o' b prev | los r id o' b prev =>
    by_cases ho : o' = o
    · subst ho
      rw [contOf_snoc_alloc hs hok.2 (b := b), Ev.contEff, Function.update_self]
      exacts [if_pos rfl, rfl]
    · rw [contOf_snoc_other, Ev.contEff, Function.update_of_ne (Ne.symm ho)]
      exacts [if_neg ho, rfl]
  | msec r o' b =>
    by_cases ho : o' = o
    · subst ho
      obtain ⟨c, hc⟩ := Option.isSome_iff_exists.mp hok
      rw [contOf_snoc_merge hc, Ev.contEff, hc, Function.update_self]
      exacts [rfl, rfl, if_pos rfl]
    · rw [contOf_snoc_other, Ev.contEff, Function.update_of_ne (Ne.symm ho)]
      exacts [rfl, if_neg ho]
  | _ => exact contOf_snoc_other rfl rfl

/-- All nine cases of `TraceInv.step` are instances of this: a transition that appends one action
    `e` which observed the current state, changes map and contents by the effect of `e`, allocates
    only below the new `next`, completes at most one request (with `e` as its final action) and
    stamps at most one goroutine. -/
theorem TraceInv.snoc {prog : Nat → Req M} {ov : M → M → M} {s s' : St M}
    (h : TraceInv prog ov s) (e : Ev M) (htr : s'.trace = s.trace ++ [e])
    (hok : e.okAfter ov s.trace) (hmap : s'.map = e.mapEff s.map)
    (hcont : s'.cont = e.contEff ov s.cont)
    (hnext : ∀ o, s'.next ≤ o → s.next ≤ o ∧ e.allocOf o = none)
    (hhist : s'.hist = s.hist ∨
      ∃ rc, s'.hist = s.hist ++ [rc] ∧ rc.Backed prog (s.trace ++ [e]))
    (hinvT : s'.invT = s.invT ∨ ∃ r, s'.invT = Function.update s.invT r s.trace.length) :
    TraceInv prog ov s' := by
  obtain ⟨hmap0, hcont0, hfresh, hsound, hback, hinv⟩ := h
  refine ⟨?_, ?_, ?_, ?_, ?_, ?_⟩
  · rw [htr, mapOf_snoc, hmap, hmap0]
  · rw [htr, contOf_snoc hsound hok, hcont, hcont0]
  · intro o ho
    rw [htr, allocBody_snoc, hfresh o (hnext o ho).1, (hnext o ho).2]
    rfl
  · rw [htr]
    exact hsound.snoc hok
  · rw [htr]
    rcases hhist with hh | ⟨rc, hh, hrc⟩ <;> rw [hh]
    · exact fun rc' h => (hback rc' h).snoc e
    · intro rc' h
      rcases List.mem_append.mp h with h | h
      · exact (hback rc' h).snoc e
      · rw [List.mem_singleton.mp h]
        exact hrc
  · intro r
    rw [htr, List.length_append]
    rcases hinvT with hh | ⟨r0, hh⟩ <;> rw [hh]
    · exact Nat.le_succ_of_le (hinv r)
    · rw [Function.update_apply]
      split
      · exact Nat.le_succ _
      · exact Nat.le_succ_of_le (hinv r)

theorem TraceInv.step {prog : Nat → Req M} {ov : M → M → M} {s s' : St M}
    (h : TraceInv prog ov s) (hs : Step prog ov s s') : TraceInv prog ov s' := by
  have map_at : ∀ id, s.map id = mapOf s.trace id := congrFun h.map_eq
  have cont_at : ∀ o, s.cont o = contOf ov s.trace o := congrFun h.cont_eq
  have hfresh : allocBody s.trace s.next = none := h.fresh _ (Nat.le_refl _)
  have above : ∀ o (b : M), s.next + 1 ≤ o →
      s.next ≤ o ∧ (if s.next = o then some b else none) = none :=
    fun _ _ ho => ⟨Nat.le_of_succ_le ho, if_neg (Nat.ne_of_lt ho)⟩
  -- `induction` applies the recursor as it stands (the target state is a variable); `cases` would
  -- solve an equation between state literals first
  induction hs with
  | swap r id body hp hpc =>
    exact h.snoc _ (htr := rfl) (hok := ⟨map_at id, hfresh⟩) (hmap := rfl) (hcont := rfl)
      (hnext := (above · body)) (hinvT := .inr ⟨r, rfl⟩)
      (hhist := .inr ⟨_, rfl, .last _ _ _ hp.symm (Nat.le_refl _) rfl rfl rfl⟩)
  | losStore r id body hp hpc hm =>
    exact h.snoc _ (htr := rfl) (hok := ⟨hm ▸ map_at id, hfresh⟩)
      (hmap := by rw [Ev.mapEff, hm]; rfl) (hcont := rfl) (hnext := (above · body))
      (hinvT := .inr ⟨r, rfl⟩)
      (hhist := .inr ⟨_, rfl, .last _ _ _ hp.symm (Nat.le_refl _) rfl rfl rfl⟩)
  | losLoad r id body o hp hpc hm =>
    exact h.snoc _ (htr := rfl) (hok := ⟨hm ▸ map_at id, hfresh⟩)
      (hmap := by rw [Ev.mapEff, hm]; rfl) (hcont := rfl) (hnext := (above · body))
      (hinvT := .inr ⟨r, rfl⟩) (hhist := .inl rfl)
  | msec r id body o c hp hpc hc =>
    exact h.snoc _ (htr := rfl) (hok := Option.isSome_iff_exists.mpr ⟨c, (cont_at o).symm.trans hc⟩)
      (hmap := rfl) (hcont := by rw [Ev.contEff, hc]; rfl) (hnext := fun _ ho => ⟨ho, rfl⟩)
      (hinvT := .inl rfl)
      (hhist := .inr ⟨_, rfl, .last _ _ _ hp.symm (h.invT_le r) rfl rfl rfl⟩)
  | gloadNone r id hp hpc hm =>
    exact h.snoc _ (htr := rfl) (hok := hm ▸ map_at id) (hmap := rfl) (hcont := rfl)
      (hnext := fun _ ho => ⟨ho, rfl⟩) (hinvT := .inr ⟨r, rfl⟩)
      (hhist := .inr ⟨_, rfl, .last _ _ _ hp.symm (Nat.le_refl _) rfl rfl rfl⟩)
  | gloadSome r id o hp hpc hm =>
    exact h.snoc _ (htr := rfl) (hok := hm ▸ map_at id) (hmap := rfl) (hcont := rfl)
      (hnext := fun _ ho => ⟨ho, rfl⟩) (hinvT := .inr ⟨r, rfl⟩) (hhist := .inl rfl)
  | gread r id o c hp hpc hc =>
    exact h.snoc _ (htr := rfl) (hok := (cont_at o).symm.trans hc) (hmap := rfl) (hcont := rfl)
      (hnext := fun _ ho => ⟨ho, rfl⟩) (hinvT := .inl rfl)
      (hhist := .inr ⟨_, rfl, .last _ _ _ hp.symm (h.invT_le r) rfl rfl rfl⟩)
  | hload r id hp hpc =>
    exact h.snoc _ (htr := rfl) (hok := map_at id) (hmap := rfl) (hcont := rfl)
      (hnext := fun _ ho => ⟨ho, rfl⟩) (hinvT := .inr ⟨r, rfl⟩)
      (hhist := .inr ⟨_, rfl, .last _ _ _ hp.symm (Nat.le_refl _) rfl rfl rfl⟩)
  | lad r id hp hpc =>
    exact h.snoc _ (htr := rfl) (hok := map_at id) (hmap := rfl) (hcont := rfl)
      (hnext := fun _ ho => ⟨ho, rfl⟩) (hinvT := .inr ⟨r, rfl⟩)
      (hhist := .inr ⟨_, rfl, .last _ _ _ hp.symm (Nat.le_refl _) rfl rfl rfl⟩)

theorem TraceInv.reach {prog : Nat → Req M} {ov : M → M → M} {s : St M}
    (h : Reach prog ov s) : TraceInv prog ov s := by
  induction h with
  | refl => exact TraceInv.init prog ov
  | tail _ hs ih => exact ih.step hs

/-! ## 2. linearizations

  A linearization under construction is a list of *items*.  An item is one request linearized at
  its own final action (`main`, at step `t`), preceded by the *late* requests (`pre`): requests
  that loaded an object before step `t`, where `main` (a put or a delete of the same id) removed
  that object from the map, and that ran their locked section on the orphaned object after `t`.
  Late requests are linearized immediately before `main`, in the order of their sections; this is
  inside their interval because they were in flight at step `t`. -/

/-- the recorded responses are those of the specification run from `kv` -/
def Legal (ov : M → M → M) (kv : KV M) : List (Rec M) → Prop
  | [] => True
  | rc :: l => (specStep ov kv rc.req).2 = rc.resp ∧ Legal ov (specStep ov kv rc.req).1 l

def runSt (ov : M → M → M) (kv : KV M) : List (Rec M) → KV M
  | [] => kv
  | rc :: l => runSt ov (specStep ov kv rc.req).1 l

theorem runSt_append (ov : M → M → M) (kv : KV M) (a b : List (Rec M)) :
    runSt ov kv (a ++ b) = runSt ov (runSt ov kv a) b := by
  induction a generalizing kv with
  | nil => rfl
  | cons rc a ih => simp only [List.cons_append, runSt, ih]

theorem Legal_append (ov : M → M → M) (kv : KV M) (a b : List (Rec M)) :
    Legal ov kv (a ++ b) ↔ Legal ov kv a ∧ Legal ov (runSt ov kv a) b := by
  induction a generalizing kv with
  | nil => simp [Legal, runSt]
  | cons rc a ih => simp only [List.cons_append, Legal, runSt, ih, and_assoc]

theorem Legal_iff_runSpec (ov : M → M → M) (kv : KV M) (l : List (Rec M)) :
    Legal ov kv l ↔ runSpec ov kv (l.map (·.req)) = l.map (·.resp) := by
  induction l generalizing kv with
  | nil => simp [Legal, runSpec]
  | cons rc l ih => simp only [Legal, List.map_cons, runSpec, List.cons.injEq, ih]

/-- One entry of a linearization under construction: the request `main`, linearized at step `t`
    (the step of its final action), preceded by the late requests `pre`.  Replayed through the
    specification from `kv0`, `pre ++ [main]` gives the recorded responses and ends in `kv1`, and
    all of them were in flight at step `t` (`ItemOK`). -/
structure Item (M : Type) where
  kv0 : KV M
  pre : List (Rec M)
  main : Rec M
  t : Nat
  kv1 : KV M

def Item.recs (it : Item M) : List (Rec M) := it.pre ++ [it.main]

/-- specification state just before `main` -/
def Item.mid (ov : M → M → M) (it : Item M) : KV M := runSt ov it.kv0 it.pre

structure ItemOK (ov : M → M → M) (it : Item M) : Prop where
  legal : Legal ov it.kv0 it.recs
  post : runSt ov it.kv0 it.recs = it.kv1
  times : ∀ rc ∈ it.recs, rc.inv ≤ it.t ∧ it.t ≤ rc.res

/-- every item starts in the store its predecessor ended in: from `kv` to the last argument -/
def Chain (kv : KV M) : List (Item M) → KV M → Prop
  | [], e => kv = e
  | it :: L, e => it.kv0 = kv ∧ Chain it.kv1 L e

/-- the linearization itself: the requests of all items, in order -/
def flat (L : List (Item M)) : List (Rec M) := L.flatMap Item.recs

/-- `L` linearizes the completed requests `hist` of a state whose trace has `n` actions and whose
    abstract store is `kvEnd`: the items lead from the empty store to `kvEnd`, stand in the order
    of their steps (all before `n`), and together hold exactly the requests of `hist`. -/
structure LinOK (ov : M → M → M) (L : List (Item M)) (kvEnd : KV M) (n : Nat)
    (hist : List (Rec M)) : Prop where
  items : ∀ it ∈ L, ItemOK ov it
  chain : Chain (fun _ => none) L kvEnd
  sorted : L.Pairwise (fun a b => a.t < b.t)
  lt : ∀ it ∈ L, it.t < n
  perm : (flat L).Perm hist

theorem legal_flat (ov : M → M → M) (L : List (Item M)) (kv e : KV M)
    (hi : ∀ it ∈ L, ItemOK ov it) (hc : Chain kv L e) :
    Legal ov kv (flat L) ∧ runSt ov kv (flat L) = e := by
  induction L generalizing kv with
  | nil => exact ⟨trivial, hc⟩
  | cons it L ih =>
    obtain ⟨h0, hc⟩ := hc
    have hit := hi it (by simp)
    obtain ⟨h1, h2⟩ := ih it.kv1 (fun x hx => hi x (by simp [hx])) hc
    subst h0
    simp only [flat, List.flatMap_cons] at *
    rw [Legal_append, runSt_append, hit.post]
    exact ⟨⟨hit.legal, h1⟩, h2⟩

/-- real-time order: nobody is placed after a request that was invoked after its response -/
theorem rt_flat (ov : M → M → M) (L : List (Item M))
    (hi : ∀ it ∈ L, ItemOK ov it) (hs : L.Pairwise (fun a b => a.t < b.t)) :
    (flat L).Pairwise (fun a b => ¬ b.res < a.inv) := by
  induction L with
  | nil => simp [flat]
  | cons it L ih =>
    rw [List.pairwise_cons] at hs
    have hit := hi it (by simp)
    simp only [flat, List.flatMap_cons]
    rw [List.pairwise_append]
    refine ⟨?_, ih (fun x hx => hi x (by simp [hx])) hs.2, ?_⟩
    · exact List.pairwise_of_forall_mem_list fun a ha b hb =>
        Nat.not_lt.mpr (Nat.le_trans (hit.times a ha).1 (hit.times b hb).2)
    · intro a ha b hb
      obtain ⟨it', hit', hb⟩ := List.mem_flatMap.mp hb
      exact Nat.not_lt.mpr (Nat.le_trans (hit.times a ha).1 (Nat.le_trans
        (Nat.le_of_lt (hs.1 it' hit')) ((hi it' (List.mem_cons_of_mem _ hit')).times b hb).2))

theorem Chain.snoc {kv e : KV M} {L : List (Item M)} (h : Chain kv L e) (it : Item M)
    (h0 : it.kv0 = e) : Chain kv (L ++ [it]) it.kv1 := by
  induction L generalizing kv with
  | nil => exact ⟨h0.trans h.symm, rfl⟩
  | cons a L ih => exact ⟨h.1, ih h.2⟩

theorem Chain.map {kv e : KV M} {L : List (Item M)} (h : Chain kv L e) (f : Item M → Item M)
    (h0 : ∀ it, (f it).kv0 = it.kv0) (h1 : ∀ it, (f it).kv1 = it.kv1) :
    Chain kv (L.map f) e := by
  induction L generalizing kv with
  | nil => exact h
  | cons a L ih =>
    refine ⟨(h0 a).trans h.1, ?_⟩
    rw [h1 a]; exact ih h.2

theorem length_lt_snoc {α : Type} (l : List α) (a : α) : l.length < (l ++ [a]).length := by
  rw [List.length_append]
  exact Nat.lt_succ_self _

/-- linearize a request at the current step -/
theorem LinOK.push {ov : M → M → M} {L : List (Item M)} {kv kv' : KV M} {n n' : Nat}
    {hist : List (Rec M)} (h : LinOK ov L kv n hist) (rc : Rec M)
    (hst : specStep ov kv rc.req = (kv', rc.resp)) (hinv : rc.inv ≤ n) (hres : rc.res = n)
    (hn : n < n') : LinOK ov (L ++ [⟨kv, [], rc, n, kv'⟩]) kv' n' (hist ++ [rc]) := by
  refine ⟨fun it hit => ?_, h.chain.snoc _ rfl, ?_, fun it hit => ?_, ?_⟩
  · rcases List.mem_append.mp hit with hit | hit
    · exact h.items it hit
    · rw [List.mem_singleton.mp hit]
      exact ⟨⟨congrArg Prod.snd hst, trivial⟩, congrArg Prod.fst hst,
        fun rc' hrc' => List.mem_singleton.mp hrc' ▸ ⟨hinv, Nat.le_of_eq hres.symm⟩⟩
  · exact List.pairwise_append.mpr ⟨h.sorted, List.pairwise_singleton _ _,
      fun a ha b hb => List.mem_singleton.mp hb ▸ h.lt a ha⟩
  · rcases List.mem_append.mp hit with hit | hit
    · exact Nat.lt_trans (h.lt it hit) hn
    · rw [List.mem_singleton.mp hit]
      exact hn
  · rw [flat, List.flatMap_append]
    exact h.perm.append_right _

/-- a step that completes no request -/
theorem LinOK.mono {ov : M → M → M} {L : List (Item M)} {kv : KV M} {n n' : Nat}
    {hist : List (Rec M)} (h : LinOK ov L kv n hist) (hn : n ≤ n') : LinOK ov L kv n' hist :=
  ⟨h.items, h.chain, h.sorted, fun it hit => Nat.lt_of_lt_of_le (h.lt it hit) hn, h.perm⟩

/-- add a late request to the item linearized at step `w` -/
def Item.late (w : Nat) (rc : Rec M) (it : Item M) : Item M :=
  { it with pre := if it.t = w then it.pre ++ [rc] else it.pre }

theorem Item.late_ne {w : Nat} (rc : Rec M) {it : Item M} (h : it.t ≠ w) : it.late w rc = it := by
  rw [Item.late, if_neg h]

theorem Item.late_self (rc : Rec M) (it : Item M) :
    it.late it.t rc = { it with pre := it.pre ++ [rc] } := by
  rw [Item.late, if_pos rfl]

theorem Item.late_mid (ov : M → M → M) (rc : Rec M) (it : Item M) :
    (it.late it.t rc).mid ov = (specStep ov (it.mid ov) rc.req).1 := by
  rw [Item.late_self, Item.mid, runSt_append]
  rfl

theorem sorted_unique {L : List (Item M)} (hs : L.Pairwise (fun a b => a.t < b.t))
    {a b : Item M} (ha : a ∈ L) (hb : b ∈ L) (hab : a.t = b.t) : a = b := by
  exact List.Pairwise.forall_of_forall_of_flip (R := fun a b => a.t = b.t → a = b)
    (fun _ _ _ => rfl) (hs.imp fun h e => absurd e (Nat.ne_of_lt h))
    (hs.imp fun h e => absurd e (Nat.ne_of_gt h)) ha hb hab

theorem flat_late_perm {L : List (Item M)} (hs : L.Pairwise (fun a b => a.t < b.t))
    {it0 : Item M} (h0 : it0 ∈ L) (rc : Rec M) :
    (flat (L.map (Item.late it0.t rc))).Perm (flat L ++ [rc]) := by
  induction L with
  | nil => cases h0
  | cons a L ih =>
    rw [List.pairwise_cons] at hs
    simp only [flat, List.map_cons, List.flatMap_cons] at ih ⊢
    by_cases ha : a.t = it0.t
    · -- the items after `a` are later than `it0.t`: `rc` goes into `a` only
      have hrest : L.map (Item.late it0.t rc) = L :=
        (List.map_congr_left fun x hx =>
          Item.late_ne rc (ha ▸ Nat.ne_of_gt (hs.1 x hx))).trans (List.map_id L)
      rw [hrest, ← ha, Item.late_self]
      simp only [Item.recs, List.append_assoc]
      exact (List.perm_append_comm (l₁ := [rc])).append_left _
    · rw [Item.late_ne rc ha, List.append_assoc]
      exact (ih hs.2 ((List.mem_cons.mp h0).resolve_left fun h => ha (h ▸ rfl))).append_left _

/-- linearize a late request just before the main request of the item of step `it0.t` -/
theorem LinOK.late {ov : M → M → M} {L : List (Item M)} {kv : KV M} {n n' : Nat}
    {hist : List (Rec M)} (h : LinOK ov L kv n hist) {it0 : Item M} (h0 : it0 ∈ L) (rc : Rec M)
    (hresp : (specStep ov (it0.mid ov) rc.req).2 = rc.resp)
    (hmain : specStep ov (specStep ov (it0.mid ov) rc.req).1 it0.main.req =
      specStep ov (it0.mid ov) it0.main.req)
    (hinv : rc.inv ≤ it0.t) (hres : it0.t ≤ rc.res) (hn : n ≤ n') :
    LinOK ov (L.map (Item.late it0.t rc)) kv n' (hist ++ [rc]) := by
  refine ⟨?_, h.chain.map _ (fun _ => rfl) (fun _ => rfl), h.sorted.map _ fun _ _ hab => hab,
    ?_, (flat_late_perm h.sorted h0 rc).trans (h.perm.append_right _)⟩
  · intro it hit
    obtain ⟨a, ha, rfl⟩ := List.mem_map.mp hit
    by_cases hat : a.t = it0.t
    · obtain rfl := sorted_unique h.sorted ha h0 hat
      obtain ⟨hl, hp, ht⟩ := h.items a ha
      rw [Item.late_self]
      simp only [Item.recs, Item.mid, Legal_append, runSt_append, Legal, runSt, and_true]
        at hl hp hresp hmain
      refine ⟨?_, ?_, fun rc' hrc' => ?_⟩
      · simp only [Item.recs, Legal_append, runSt_append, Legal, runSt, and_true]
        exact ⟨⟨hl.1, hresp⟩, hmain ▸ hl.2⟩
      · simp only [Item.recs, runSt_append, runSt]
        exact hmain ▸ hp
      · rcases List.mem_append.mp hrc' with hrc' | hrc'
        · rcases List.mem_append.mp hrc' with hrc' | hrc'
          · exact ht rc' (List.mem_append_left _ hrc')
          · rw [List.mem_singleton.mp hrc']
            exact ⟨hinv, hres⟩
        · exact ht rc' (List.mem_append_right _ hrc')
    · rw [Item.late_ne rc hat]
      exact h.items a ha
  · intro it hit
    obtain ⟨a, ha, rfl⟩ := List.mem_map.mp hit
    exact Nat.lt_of_lt_of_le (h.lt a ha) hn

/-! ## 3. the simulation invariant -/

/-- the abstract store a concrete state denotes: id ↦ content of the object the map binds it to -/
def absOf (map : String → Option Nat) (cont : Nat → Option M) : KV M :=
  fun id => (map id).bind cont

def St.abs (s : St M) : KV M := absOf s.map s.cont

theorem absOf_update (map : String → Option Nat) (cont : Nat → Option M) (id : String)
    (v : Option Nat) :
    absOf (Function.update map id v) cont = Function.update (absOf map cont) id (v.bind cont) := by
  funext id'
  by_cases h : id' = id
  · rw [h, absOf, Function.update_self, Function.update_self]
  · rw [absOf, Function.update_of_ne h, Function.update_of_ne h]
    rfl

theorem absOf_congr {map : String → Option Nat} {cont cont' : Nat → Option M}
    (h : ∀ id o, map id = some o → cont' o = cont o) : absOf map cont' = absOf map cont := by
  funext id
  show (map id).bind cont' = (map id).bind cont
  cases hm : map id with
  | none => rfl
  | some o => exact h id o hm

theorem St.abs_none {s : St M} {id : String} (hm : s.map id = none) : s.abs id = none := by
  show (s.map id).bind s.cont = none
  rw [hm]
  rfl

theorem St.abs_some {s : St M} {id : String} {o : Nat} (hm : s.map id = some o) :
    s.abs id = s.cont o := by
  show (s.map id).bind s.cont = s.cont o
  rw [hm]
  rfl

theorem absOf_cont_live (map : String → Option Nat) (cont : Nat → Option M) (id : String)
    (o : Nat) (x : M) (hm : map id = some o) (hinj : ∀ id', map id' = some o → id' = id) :
    absOf map (Function.update cont o (some x)) = Function.update (absOf map cont) id (some x) := by
  funext id'
  by_cases h : id' = id
  · subst h; simp [absOf, hm]
  · simp only [absOf, Function.update_of_ne h]
    cases hm' : map id' with
    | none => rfl
    | some o' =>
      have : o' ≠ o := fun ho => h (hinj id' (ho ▸ hm'))
      simp [Function.update_of_ne this]

/-- `rq` removes or replaces the binding of `id`, whatever it was bound to -/
def Req.kills : Req M → String → Prop
  | .put id' _, id => id' = id
  | .delete id', id => id' = id
  | _, _ => False

/-- a request that replaces / removes the binding of `id` does not see the content bound to it -/
theorem kills_insens (ov : M → M → M) (rq : Req M) (id : String) (hk : rq.kills id)
    (kv : KV M) (c c' : M) (hc : kv id = some c) :
    specStep ov (Function.update kv id (some c')) rq = specStep ov kv rq := by
  cases rq with
  | put id' b => cases hk; simp [specStep, hc]
  | delete id' => cases hk; simp [specStep, hc]
  | merge _ _ => cases hk
  | get _ => cases hk
  | head _ => cases hk

/-- the item of step `w` removed the binding of `id`, whose content was `c` just before -/
def OrphAt (ov : M → M → M) (L : List (Item M)) (w : Nat) (id : String) (c : M) : Prop :=
  ∃ it ∈ L, it.t = w ∧ it.main.req.kills id ∧ it.mid ov id = some c

theorem OrphAt.append {ov : M → M → M} {L : List (Item M)} {w : Nat} {id : String} {c : M}
    (h : OrphAt ov L w id c) (x : Item M) : OrphAt ov (L ++ [x]) w id c := by
  obtain ⟨it, hit, h1⟩ := h
  exact ⟨it, List.mem_append_left _ hit, h1⟩

theorem OrphAt.late_eq {ov : M → M → M} {L : List (Item M)} {w : Nat} {id : String} {c c' : M}
    (h : OrphAt ov L w id c) (rc : Rec M)
    (hc : ∀ kv : KV M, kv id = some c → (specStep ov kv rc.req).1 id = some c') :
    OrphAt ov (L.map (Item.late w rc)) w id c' := by
  obtain ⟨it, hit, h1, h2, h3⟩ := h
  subst h1
  refine ⟨it.late it.t rc, List.mem_map.mpr ⟨it, hit, rfl⟩, rfl, h2, ?_⟩
  rw [Item.late_mid]
  exact hc _ h3

/-- proof-only bookkeeping: the linearization, the id an object was created for, the step at
    which an object was removed from the map -/
structure Ghost (M : Type) where
  L : List (Item M)
  key : Nat → String
  orphT : Nat → Option Nat

/-- the object a goroutine has loaded and not yet entered its locked section on -/
def Pc.obj : Pc → Option Nat
  | .mergeLoaded o => some o
  | .getLoaded o => some o
  | _ => none

/-- goroutine `r` holds a pointer to object `o` -/
def Holds (pc : Nat → Pc) (r o : Nat) : Prop := (pc r).obj = some o

theorem Holds.of_update {pc : Nat → Pc} {r0 r o : Nat} {p : Pc}
    (h : Holds (Function.update pc r0 p) r o) :
    r = r0 ∧ p.obj = some o ∨ r ≠ r0 ∧ Holds pc r o := by
  by_cases hr : r = r0
  · subst hr
    rw [Holds, Function.update_self] at h
    exact .inl ⟨rfl, h⟩
  · rw [Holds, Function.update_of_ne hr] at h
    exact .inr ⟨hr, h⟩

theorem Holds.of_update_done {pc : Nat → Pc} {r0 r o : Nat}
    (h : Holds (Function.update pc r0 .done) r o) : r ≠ r0 ∧ Holds pc r o :=
  (Holds.of_update h).resolve_left fun h' => Option.some_ne_none _ h'.2.symm

/-- What a goroutine `r` that loaded `o` under `id`, and has not yet run its locked section on it,
    relies on.  The last field carries the idea of the simulation: once a put / delete of `id`,
    linearized at step `w`, has removed `o` from the map, the content of `o` stays equal to what
    the specification holds under `id` *just before* that request (`Item.mid` of its item, see
    `OrphAt`).  A section that runs on the orphan later is answered as the specification answers
    at that point; its request is appended to the `pre` of that item (`Item.late`), which moves
    `Item.mid` along with the content of `o` and is not seen by the put / delete
    (`kills_insens`). -/
structure RefOK (ov : M → M → M) (s : St M) (G : Ghost M) (r : Nat) (id : String) (o : Nat) :
    Prop where
  lt : o < s.next
  key : G.key o = id
  inv : s.invT r < s.trace.length
  content : (s.cont o).isSome
  /-- not orphaned: still bound under `id` -/
  live : G.orphT o = none → s.map id = some o
  /-- orphaned at step `w`, after `r` was invoked: the content of `o` is what the specification
      holds under `id` just before the request linearized at `w` -/
  orph : ∀ w c, G.orphT o = some w → s.cont o = some c → s.invT r < w ∧ OrphAt ov G.L w id c

/-- the simulation invariant between a state and the bookkeeping `G` -/
structure SInv (prog : Nat → Req M) (ov : M → M → M) (s : St M) (G : Ghost M) : Prop where
  /-- `G.L` linearizes the completed requests and ends in the store `s` denotes -/
  lin : LinOK ov G.L s.abs s.trace.length s.hist
  /-- a bound object is allocated, was created for that id, is not orphaned and has a content -/
  mapI : ∀ id o, s.map id = some o →
    o < s.next ∧ G.key o = id ∧ G.orphT o = none ∧ (s.cont o).isSome
  ref : ∀ r o, Holds s.pc r o → RefOK ov s G r (prog r).id o
  /-- a step orphans at most one object -/
  orphInj : ∀ o o' w, G.orphT o = some w → G.orphT o' = some w → o = o'
  /-- orphaning steps lie in the past, orphans are allocated -/
  orphLt : ∀ o w, G.orphT o = some w → w < s.trace.length ∧ o < s.next

theorem SInv.abs_isSome {prog : Nat → Req M} {ov : M → M → M} {s : St M} {G : Ghost M}
    (h : SInv prog ov s G) (id : String) : (s.abs id).isSome = (s.map id).isSome := by
  simp only [St.abs, absOf]
  cases hm : s.map id with
  | none => rfl
  | some o => simpa using (h.mapI id o hm).2.2.2

theorem SInv.init (prog : Nat → Req M) (ov : M → M → M) :
    SInv prog ov (init : St M) ⟨[], fun _ => "", fun _ => none⟩ := by
  refine ⟨⟨fun _ h => (by cases h), rfl, List.Pairwise.nil, fun _ h => (by cases h), List.Perm.nil⟩,
    fun _ _ h => (by cases h), ?_, fun _ _ _ h => (by cases h), fun _ _ h => (by cases h)⟩
  intro r o h
  cases h

/-- transport of `RefOK` along a step that does not remove a binding -/
theorem RefOK.mono {ov : M → M → M} {s s' : St M} {G : Ghost M} {r : Nat} {id : String} {o : Nat}
    (h : RefOK ov s G r id o) (L' : List (Item M)) (hnext : s.next ≤ s'.next)
    (hcont : s'.cont o = s.cont o ∨ (G.orphT o = none ∧ (s'.cont o).isSome))
    (hinvT : s'.invT r = s.invT r) (hlen : s.trace.length ≤ s'.trace.length)
    (hmap : s'.map id = s.map id)
    (hL : ∀ w c, G.orphT o = some w → OrphAt ov G.L w id c → OrphAt ov L' w id c) :
    RefOK ov s' ⟨L', G.key, G.orphT⟩ r id o := by
  obtain ⟨h1, h2, h3, h4, h5, h6⟩ := h
  refine ⟨Nat.lt_of_lt_of_le h1 hnext, h2, by rw [hinvT]; exact Nat.lt_of_lt_of_le h3 hlen,
    ?_, fun hn => hmap ▸ h5 hn, fun w c hw hc => ?_⟩
  · rcases hcont with hcont | hcont
    · exact (congrArg Option.isSome hcont).trans h4
    · exact hcont.2
  · rcases hcont with hcont | hcont
    · have := h6 w c hw (hcont.symm.trans hc)
      rw [hinvT]
      exact ⟨this.1, hL w c hw this.2⟩
    · cases hcont.1.symm.trans hw

/-- transport of `RefOK` along a step that replaces / removes the binding of `id0` -/
theorem RefOK.pushKill {ov : M → M → M} {s s' : St M} {G : Ghost M} {r : Nat} {id : String}
    {o : Nat} (h : RefOK ov s G r id o)
    (hI : ∀ id o, s.map id = some o → G.key o = id ∧ G.orphT o = none)
    (id0 : String) (rc : Rec M) (kv1 : KV M) (key' : Nat → String)
    (hk : s.map id0 ≠ none → rc.req.kills id0)
    (hnext : s.next ≤ s'.next) (hkey : key' o = G.key o) (hcont : s'.cont o = s.cont o)
    (hinvT : s'.invT r = s.invT r) (hlen : s.trace.length ≤ s'.trace.length)
    (hmap : ∀ id', id' ≠ id0 → s'.map id' = s.map id') :
    RefOK ov s' ⟨G.L ++ [⟨s.abs, [], rc, s.trace.length, kv1⟩], key',
      fun o => if s.map id0 = some o then some s.trace.length else G.orphT o⟩ r id o := by
  obtain ⟨h1, h2, h3, h4, h5, h6⟩ := h
  refine ⟨Nat.lt_of_lt_of_le h1 hnext, hkey.trans h2,
    by rw [hinvT]; exact Nat.lt_of_lt_of_le h3 hlen, (congrArg Option.isSome hcont).trans h4,
    ?_, ?_⟩
  · intro hn
    dsimp only at hn
    by_cases hm : s.map id0 = some o
    · rw [if_pos hm] at hn; cases hn
    · rw [if_neg hm] at hn
      have h7 := h5 hn
      have : id ≠ id0 := fun hid => hm (hid ▸ h7)
      rw [hmap id this]; exact h7
  · intro w c hw hc
    replace hc : s.cont o = some c := hcont.symm.trans hc
    dsimp only at hw ⊢
    rw [hinvT]
    by_cases hm : s.map id0 = some o
    · rw [if_pos hm] at hw
      cases hw
      have hid : id0 = id := (hI id0 o hm).1.symm.trans h2
      subst hid
      exact ⟨h3, _, List.mem_append_right _ (List.mem_singleton.mpr rfl), rfl,
        hk (hm ▸ Option.some_ne_none _), (St.abs_some hm).trans hc⟩
    · rw [if_neg hm] at hw
      exact ⟨(h6 w c hw hc).1, (h6 w c hw hc).2.append _⟩

theorem orphInj_kill {orphT : Nat → Option Nat} {mo : Option Nat} {t : Nat}
    (hinj : ∀ o o' w, orphT o = some w → orphT o' = some w → o = o')
    (hlt : ∀ o w, orphT o = some w → w < t) :
    ∀ o o' w, (if mo = some o then some t else orphT o) = some w →
      (if mo = some o' then some t else orphT o') = some w → o = o' := by
  intro o o' w h1 h2
  by_cases hm : mo = some o <;> by_cases hm' : mo = some o'
  · rw [hm] at hm'; exact Option.some.inj hm'
  · rw [if_pos hm] at h1; rw [if_neg hm'] at h2
    cases h1; exact absurd (hlt o' _ h2) (Nat.lt_irrefl _)
  · rw [if_neg hm] at h1; rw [if_pos hm'] at h2
    cases h2; exact absurd (hlt o _ h1) (Nat.lt_irrefl _)
  · rw [if_neg hm] at h1; rw [if_neg hm'] at h2
    exact hinj o o' w h1 h2

theorem orphLt_mono {orphT : Nat → Option Nat} {t t' nx nx' : Nat}
    (hlt : ∀ o w, orphT o = some w → w < t ∧ o < nx) (ht : t ≤ t') (hnx : nx ≤ nx') :
    ∀ o w, orphT o = some w → w < t' ∧ o < nx' :=
  fun o w hw => ⟨Nat.lt_of_lt_of_le (hlt o w hw).1 ht, Nat.lt_of_lt_of_le (hlt o w hw).2 hnx⟩

theorem orphLt_kill {orphT : Nat → Option Nat} {mo : Option Nat} {t t' nx nx' : Nat}
    (hlt : ∀ o w, orphT o = some w → w < t ∧ o < nx) (hm : ∀ o, mo = some o → o < nx)
    (ht : t < t') (hnx : nx ≤ nx') :
    ∀ o w, (if mo = some o then some t else orphT o) = some w → w < t' ∧ o < nx' := by
  intro o w h
  by_cases hmo : mo = some o
  · rw [if_pos hmo] at h
    cases h
    exact ⟨ht, Nat.lt_of_lt_of_le (hm o hmo) hnx⟩
  · rw [if_neg hmo] at h
    exact orphLt_mono hlt (Nat.le_of_lt ht) hnx o w h

theorem SInv.orphT_fresh {prog : Nat → Req M} {ov : M → M → M} {s : St M} {G : Ghost M}
    (h : SInv prog ov s G) {o : Nat} (ho : s.next ≤ o) : G.orphT o = none := by
  cases hw : G.orphT o with
  | none => rfl
  | some w => exact absurd (h.orphLt o w hw).2 (Nat.not_lt.mpr ho)

/-- A step of `r` that rebinds `id` (to a fresh object or to nothing) and completes `rc`: `rc` is
    linearized now, and the object bound to `id` before, if any, is orphaned at this step. -/
theorem SInv.kill {prog : Nat → Req M} {ov : M → M → M} {s : St M} {G : Ghost M}
    (h : SInv prog ov s G) (r : Nat) (id : String) (v : Option Nat) {e : Ev M} {rc : Rec M}
    {cont' : Nat → Option M} {next' : Nat} (key' : Nat → String)
    (hk : s.map id ≠ none → rc.req.kills id)
    (hst : specStep ov s.abs rc.req = (absOf (Function.update s.map id v) cont', rc.resp))
    (hinv : rc.inv ≤ s.trace.length) (hres : rc.res = s.trace.length) (hnext : s.next ≤ next')
    (hold : ∀ o, o < s.next → cont' o = s.cont o ∧ key' o = G.key o)
    (hv : ∀ o, v = some o → s.next ≤ o ∧ o < next' ∧ key' o = id ∧ (cont' o).isSome) :
    ∃ G', SInv prog ov
      { map := Function.update s.map id v, cont := cont', next := next',
        pc := Function.update s.pc r .done, invT := Function.update s.invT r s.trace.length,
        trace := s.trace ++ [e], hist := s.hist ++ [rc] } G' := by
  have hI : ∀ id o, s.map id = some o → G.key o = id ∧ G.orphT o = none :=
    fun id o hm => ⟨(h.mapI id o hm).2.1, (h.mapI id o hm).2.2.1⟩
  refine ⟨⟨G.L ++ [⟨s.abs, [], rc, s.trace.length, absOf (Function.update s.map id v) cont'⟩], key',
      fun o => if s.map id = some o then some s.trace.length else G.orphT o⟩,
    h.lin.push rc hst hinv hres (length_lt_snoc ..), ?_, ?_,
    orphInj_kill h.orphInj (fun o w hw => (h.orphLt o w hw).1),
    orphLt_kill h.orphLt (fun o hm => (h.mapI id o hm).1) (length_lt_snoc ..) hnext⟩
  · intro id' o hm
    dsimp only at hm ⊢
    by_cases hid : id' = id
    · subst hid
      rw [Function.update_self] at hm
      obtain ⟨h1, h2, h3, h4⟩ := hv o hm
      refine ⟨h2, h3, ?_, h4⟩
      rw [if_neg (fun hm' => Nat.not_lt.mpr h1 (h.mapI _ _ hm').1), h.orphT_fresh h1]
    · rw [Function.update_of_ne hid] at hm
      obtain ⟨h1, h2, h3, h4⟩ := h.mapI id' o hm
      refine ⟨Nat.lt_of_lt_of_le h1 hnext, (hold o h1).2.trans h2, ?_,
        (congrArg Option.isSome (hold o h1).1).trans h4⟩
      rw [if_neg (fun hm' => hid (h2.symm.trans (hI id o hm').1)), h3]
  · intro r' o hh
    obtain ⟨hr, hh⟩ := Holds.of_update_done hh
    have hr0 := h.ref r' o hh
    exact hr0.pushKill hI id _ _ _ hk hnext (hold o hr0.lt).2 (hold o hr0.lt).1
      (Function.update_of_ne hr ..) (Nat.le_of_lt (length_lt_snoc ..))
      (fun id' hid => Function.update_of_ne hid ..)

/-- `SInv.kill` for a step that binds `id` to the object it allocates with content `body` -/
theorem SInv.install {prog : Nat → Req M} {ov : M → M → M} {s : St M} {G : Ghost M}
    (h : SInv prog ov s G) (r : Nat) (id : String) (body : M) {e : Ev M} {rc : Rec M}
    (hk : s.map id ≠ none → rc.req.kills id)
    (hst : specStep ov s.abs rc.req = (Function.update s.abs id (some body), rc.resp))
    (hinv : rc.inv ≤ s.trace.length) (hres : rc.res = s.trace.length) :
    ∃ G', SInv prog ov
      { map := Function.update s.map id (some s.next)
        cont := Function.update s.cont s.next (some body), next := s.next + 1,
        pc := Function.update s.pc r .done, invT := Function.update s.invT r s.trace.length,
        trace := s.trace ++ [e], hist := s.hist ++ [rc] } G' := by
  refine h.kill r id (some s.next) (Function.update G.key s.next id) hk ?_ hinv hres
    (Nat.le_succ _) (fun o ho => ⟨Function.update_of_ne (Nat.ne_of_lt ho) ..,
      Function.update_of_ne (Nat.ne_of_lt ho) ..⟩) ?_
  · rw [absOf_update, absOf_congr fun id' o hm =>
      Function.update_of_ne (Nat.ne_of_lt (h.mapI id' o hm).1) .., Option.bind_some,
      Function.update_self]
    exact hst
  · intro o ho
    cases ho
    exact ⟨Nat.le_refl _, Nat.lt_succ_self _, Function.update_self ..,
      by rw [Function.update_self]; rfl⟩

/-- A step of `r` that completes `rc` and leaves the map alone: `rc` is linearized now.  The
    contents may change on objects that are still bound (a merge section on a live object). -/
theorem SInv.answer {prog : Nat → Req M} {ov : M → M → M} {s : St M} {G : Ghost M}
    (h : SInv prog ov s G) (r : Nat) {e : Ev M} {rc : Rec M} {cont' : Nat → Option M}
    {invT' : Nat → Nat}
    (hcont : ∀ o, cont' o = s.cont o ∨ G.orphT o = none ∧ (cont' o).isSome)
    (hst : specStep ov s.abs rc.req = (absOf s.map cont', rc.resp))
    (hinv : rc.inv ≤ s.trace.length) (hres : rc.res = s.trace.length)
    (hinvT : ∀ r', r' ≠ r → invT' r' = s.invT r') :
    ∃ G', SInv prog ov
      { s with cont := cont', pc := Function.update s.pc r .done, invT := invT',
               trace := s.trace ++ [e], hist := s.hist ++ [rc] } G' := by
  refine ⟨⟨G.L ++ [⟨s.abs, [], rc, s.trace.length, absOf s.map cont'⟩], G.key, G.orphT⟩,
    h.lin.push rc hst hinv hres (length_lt_snoc ..), ?_, ?_, h.orphInj,
    orphLt_mono h.orphLt (Nat.le_of_lt (length_lt_snoc ..)) (Nat.le_refl _)⟩
  · intro id o hm
    obtain ⟨h1, h2, h3, h4⟩ := h.mapI id o hm
    refine ⟨h1, h2, h3, ?_⟩
    rcases hcont o with hc | hc
    · exact (congrArg Option.isSome hc).trans h4
    · exact hc.2
  · intro r' o hh
    obtain ⟨hr, hh⟩ := Holds.of_update_done hh
    exact (h.ref r' o hh).mono _ (Nat.le_refl _) (hcont o) (hinvT r' hr)
      (Nat.le_of_lt (length_lt_snoc ..)) rfl (fun w c _ hO => hO.append _)

/-- A step by which `r` loads the object bound to its id and completes nothing.  (A merge also
    allocates the object it then drops: contents and `next` may grow above the old `next`.) -/
theorem SInv.load {prog : Nat → Req M} {ov : M → M → M} {s : St M} {G : Ghost M}
    (h : SInv prog ov s G) (r : Nat) {id : String} {o : Nat} (hm : s.map id = some o)
    (hid : (prog r).id = id) {p : Pc} (hp : p.obj = some o) {e : Ev M} {cont' : Nat → Option M}
    {next' : Nat} (hnext : s.next ≤ next') (hcont : ∀ o, o < s.next → cont' o = s.cont o) :
    SInv prog ov
      { s with cont := cont', next := next', pc := Function.update s.pc r p,
               invT := Function.update s.invT r s.trace.length, trace := s.trace ++ [e] } G := by
  refine ⟨?_, ?_, ?_, h.orphInj, orphLt_mono h.orphLt (Nat.le_of_lt (length_lt_snoc ..)) hnext⟩
  · show LinOK ov G.L (absOf s.map cont') _ _
    rw [absOf_congr (fun id o hm => hcont o (h.mapI id o hm).1)]
    exact h.lin.mono (Nat.le_of_lt (length_lt_snoc ..))
  · intro id' o' hm'
    obtain ⟨g1, g2, g3, g4⟩ := h.mapI id' o' hm'
    exact ⟨Nat.lt_of_lt_of_le g1 hnext, g2, g3, (congrArg Option.isSome (hcont o' g1)).trans g4⟩
  · intro r' o' hh
    rcases Holds.of_update hh with ⟨rfl, hp'⟩ | ⟨hr, hh⟩
    · obtain rfl : o = o' := Option.some.inj (hp.symm.trans hp')
      obtain ⟨h1, h2, h3, h4⟩ := h.mapI id o hm
      rw [hid]
      refine ⟨Nat.lt_of_lt_of_le h1 hnext, h2, ?_, (congrArg Option.isSome (hcont o h1)).trans h4,
        fun _ => hm, fun w _ hw _ => nomatch h3.symm.trans hw⟩
      dsimp only
      rw [Function.update_self]
      exact length_lt_snoc ..
    · have hr0 := h.ref r' o' hh
      exact hr0.mono _ hnext (Or.inl (hcont o' hr0.lt)) (Function.update_of_ne hr ..)
        (Nat.le_of_lt (length_lt_snoc ..)) rfl (fun w c _ hO => hO)

/-- The locked section of `r` on the object `o` it holds, leaving content `c'` in it (`c` itself
    for a read) and answering `rc`: linearized now while `o` is still bound, otherwise just before
    the request that orphaned `o`. -/
theorem SInv.locked {prog : Nat → Req M} {ov : M → M → M} {s : St M} {G : Ghost M}
    (h : SInv prog ov s G) (r : Nat) {id : String} {o : Nat} {c : M}
    (hh : Holds s.pc r o) (hid : (prog r).id = id) (hc : s.cont o = some c) {e : Ev M}
    {rc : Rec M} (c' : M) {cont' : Nat → Option M}
    (hcont' : cont' = Function.update s.cont o (some c'))
    (hst : ∀ kv : KV M, kv id = some c →
      specStep ov kv rc.req = (Function.update kv id (some c'), rc.resp))
    (hinv : rc.inv = s.invT r) (hres : rc.res = s.trace.length) :
    ∃ G', SInv prog ov
      { s with cont := cont', pc := Function.update s.pc r .done, trace := s.trace ++ [e],
               hist := s.hist ++ [rc] } G' := by
  have hr : RefOK ov s G r id o := hid ▸ h.ref r o hh
  subst hcont'
  cases hw : G.orphT o with
  | none =>
    have hm := hr.live hw
    refine h.answer r (invT' := s.invT) (fun o' => ?_) ?_ (hinv ▸ Nat.le_of_lt hr.inv) hres
      (fun _ _ => rfl)
    · by_cases ho : o' = o
      · exact .inr ⟨ho ▸ hw, by rw [ho, Function.update_self]; rfl⟩
      · exact .inl (Function.update_of_ne ho ..)
    · rw [absOf_cont_live _ _ id o _ hm fun id' hm' => (h.mapI id' o hm').2.1.symm.trans hr.key]
      exact hst _ ((St.abs_some hm).trans hc)
  | some w =>
    -- `rc` goes just before the request that removed `o`, which does not see its content
    obtain ⟨hinvw, it0, hit0, rfl, hkill, hmid⟩ := hr.orph w c hw hc
    have hnotin : ∀ id' o', s.map id' = some o' → o' ≠ o := by
      intro id' o' hm' ho
      subst ho
      rw [(h.mapI id' o' hm').2.2.1] at hw
      cases hw
    have hlen := Nat.le_of_lt (length_lt_snoc s.trace e)
    refine ⟨⟨G.L.map (Item.late it0.t rc), G.key, G.orphT⟩, ?_, ?_, ?_, h.orphInj,
      orphLt_mono h.orphLt hlen (Nat.le_refl _)⟩
    · show LinOK ov _ (absOf s.map _) _ _
      rw [absOf_congr (fun id' o' hm' => Function.update_of_ne (hnotin id' o' hm') ..)]
      refine h.lin.late hit0 rc ?_ ?_ (hinv ▸ Nat.le_of_lt hinvw)
        (hres ▸ Nat.le_of_lt (h.lin.lt it0 hit0)) hlen
      · rw [hst _ hmid]
      · rw [hst _ hmid]
        exact kills_insens ov _ id hkill _ c _ hmid
    · intro id' o' hm'
      obtain ⟨g1, g2, g3, g4⟩ := h.mapI id' o' hm'
      refine ⟨g1, g2, g3, ?_⟩
      dsimp only
      rw [Function.update_of_ne (hnotin id' o' hm')]
      exact g4
    · intro r' o' hh
      obtain ⟨hr', hh⟩ := Holds.of_update_done hh
      have hr0 := h.ref r' o' hh
      by_cases ho : o' = o
      · subst ho
        have hid' : (prog r').id = id := hr0.key.symm.trans hr.key
        rw [hid']
        refine ⟨hr0.lt, hr.key, Nat.lt_of_lt_of_le hr0.inv hlen,
          congrArg Option.isSome (Function.update_self o' (some c') s.cont),
          fun hn => (Option.some_ne_none _ (hw.symm.trans hn)).elim, fun w' c'' hw' hc'' => ?_⟩
        obtain rfl : it0.t = w' := Option.some.inj (hw.symm.trans hw')
        obtain rfl : c' = c'' :=
          Option.some.inj ((Function.update_self o' (some c') s.cont).symm.trans hc'')
        have h2 := hr0.orph it0.t c hw hc
        rw [hid'] at h2
        exact ⟨h2.1, h2.2.late_eq _ fun kv hkv => by
          rw [hst kv hkv]
          exact Function.update_self ..⟩
      · refine hr0.mono _ (Nat.le_refl _) (Or.inl (Function.update_of_ne ho ..)) rfl hlen rfl ?_
        rintro w' c' hw' ⟨it, hit, h1, h2⟩
        have hne : it.t ≠ it0.t := fun hww => ho (h.orphInj o' o _ hw' (h1 ▸ hww ▸ hw))
        exact ⟨it, List.mem_map.mpr ⟨it, hit, Item.late_ne rc hne⟩, h1, h2⟩

/-- The forward simulation.  A put, a delete, and a merge that finds nothing rebind the id; a
    merge or get that finds an object first only loads it; a head, a get that finds nothing and a
    section on a still bound object answer at once; a section on an orphaned object is placed
    before the request that orphaned it. -/
theorem SInv.step {prog : Nat → Req M} {ov : M → M → M} {s s' : St M} {G : Ghost M}
    (h : SInv prog ov s G) (hs : Step prog ov s s') : ∃ G', SInv prog ov s' G' := by
  induction hs with
  | swap r id body hp hpc =>
    exact h.install r id body (hk := fun _ => rfl) (hst := by rw [specStep, h.abs_isSome])
      (hinv := Nat.le_refl _) (hres := rfl)
  | losStore r id body hp hpc hm =>
    exact h.install r id body (hk := fun hne => absurd hm hne)
      (hst := by rw [specStep, St.abs_none hm]) (hinv := Nat.le_refl _) (hres := rfl)
  | lad r id hp hpc =>
    refine h.kill r id none (key' := G.key) (hk := fun _ => rfl) (hst := ?_)
      (hinv := Nat.le_refl _) (hres := rfl) (hnext := Nat.le_refl _)
      (hold := fun _ _ => ⟨rfl, rfl⟩) (hv := fun _ ho => (Option.some_ne_none _ ho.symm).elim)
    rw [absOf_update]
    show specStep ov s.abs (.delete id) = (Function.update s.abs id none, _)
    rw [specStep, h.abs_isSome]
    cases hm : s.map id with
    | none =>
      rw [← St.abs_none hm, Function.update_eq_self]
      rfl
    | some o => rfl
  | gloadNone r id hp hpc hm =>
    exact h.answer r (hcont := fun _ => .inl rfl) (hst := by rw [specStep, St.abs_none hm]; rfl)
      (hinv := Nat.le_refl _) (hres := rfl) (hinvT := fun _ hr => Function.update_of_ne hr ..)
  | hload r id hp hpc =>
    exact h.answer r (hcont := fun _ => .inl rfl) (hst := by rw [specStep, h.abs_isSome]; rfl)
      (hinv := Nat.le_refl _) (hres := rfl) (hinvT := fun _ hr => Function.update_of_ne hr ..)
  | gloadSome r id o hp hpc hm =>
    exact ⟨G, h.load r hm (hid := by rw [hp]; rfl) (hp := rfl) (hnext := Nat.le_refl _)
      (hcont := fun _ _ => rfl)⟩
  | losLoad r id body o hp hpc hm =>
    exact ⟨G, h.load r hm (hid := by rw [hp]; rfl) (hp := rfl) (hnext := Nat.le_succ _)
      (hcont := fun _ ho => Function.update_of_ne (Nat.ne_of_lt ho) ..)⟩
  | msec r id body o c hp hpc hc =>
    exact h.locked r (id := id) (hh := congrArg Pc.obj hpc) (hid := by rw [hp]; rfl) hc
      (c' := ov c body) (hcont' := rfl) (hst := fun kv hkv => by rw [specStep, hkv])
      (hinv := rfl) (hres := rfl)
  | gread r id o c hp hpc hc =>
    exact h.locked r (id := id) (hh := congrArg Pc.obj hpc) (hid := by rw [hp]; rfl) hc
      (c' := c) (hcont' := by rw [← hc, Function.update_eq_self])
      (hst := fun kv hkv => by rw [← hkv, Function.update_eq_self, specStep, hkv])
      (hinv := rfl) (hres := rfl)

theorem SInv.reach {prog : Nat → Req M} {ov : M → M → M} {s : St M}
    (h : Reach prog ov s) : ∃ G, SInv prog ov s G := by
  induction h with
  | refl => exact ⟨_, SInv.init prog ov⟩
  | tail _ hs ih => obtain ⟨G, hG⟩ := ih; exact hG.step hs

/-! ## 4. every reachable history has a linearization -/

theorem linearization_exists {prog : Nat → Req M} {ov : M → M → M} {s : St M}
    (h : Reach prog ov s) :
    ∃ l : List (Rec M), l.Perm s.hist ∧ l.Pairwise (fun a b => ¬ b.res < a.inv) ∧
      runSpec ov (fun _ => none) (l.map (·.req)) = l.map (·.resp) := by
  obtain ⟨G, hG⟩ := SInv.reach h
  refine ⟨flat G.L, hG.lin.perm, rt_flat ov G.L hG.lin.items hG.lin.sorted, ?_⟩
  exact (Legal_iff_runSpec ov _ _).mp (legal_flat ov G.L _ _ hG.lin.items hG.lin.chain).1

/-- the pairwise form of the real-time condition, read with positions: a request that responded
    before another one was invoked stands before it -/
theorem rt_index {l : List (Rec M)} (hp : l.Pairwise (fun a b => ¬ b.res < a.inv))
    (hle : ∀ rc ∈ l, rc.inv ≤ rc.res) (i j : Nat) (hi : i < l.length) (hj : j < l.length)
    (hij : l[i].res < l[j].inv) : i < j := by
  rw [List.pairwise_iff_getElem] at hp
  rcases Nat.lt_trichotomy i j with h | h | h
  · exact h
  · subst h
    exact absurd hij (Nat.not_lt.mpr (hle _ (List.getElem_mem hi)))
  · exact absurd hij (hp j i hj hi h)

/-! ## 5. an executable rendering of `Step` (used to exhibit concrete executions) -/

open Function in
/-- the step goroutine `r` takes in state `s`, if it has one -/
def stepFn (prog : Nat → Req M) (ov : M → M → M) (s : St M) (r : Nat) : Option (St M) :=
  match s.pc r, prog r with
  | .start, .put id body => some
      { map := update s.map id (some s.next)
        cont := update s.cont s.next (some body)
        next := s.next + 1
        pc := update s.pc r .done
        invT := update s.invT r s.trace.length
        trace := s.trace ++ [.swap r id s.next body (s.map id)]
        hist := s.hist ++ [⟨r, .put id body, s.trace.length, s.trace.length,
                  if (s.map id).isSome then .updated else .created⟩] }
  | .start, .merge id body =>
    match s.map id with
    | none => some
      { map := update s.map id (some s.next)
        cont := update s.cont s.next (some body)
        next := s.next + 1
        pc := update s.pc r .done
        invT := update s.invT r s.trace.length
        trace := s.trace ++ [.los r id s.next body none]
        hist := s.hist ++ [⟨r, .merge id body, s.trace.length, s.trace.length, .created⟩] }
    | some o => some
      { map := s.map
        cont := update s.cont s.next (some body)
        next := s.next + 1
        pc := update s.pc r (.mergeLoaded o)
        invT := update s.invT r s.trace.length
        trace := s.trace ++ [.los r id s.next body (some o)]
        hist := s.hist }
  | .mergeLoaded o, .merge id body =>
    match s.cont o with
    | none => none
    | some c => some
      { map := s.map
        cont := update s.cont o (some (ov c body))
        next := s.next
        pc := update s.pc r .done
        invT := s.invT
        trace := s.trace ++ [.msec r o body]
        hist := s.hist ++ [⟨r, .merge id body, s.invT r, s.trace.length, .updated⟩] }
  | .start, .get id =>
    match s.map id with
    | none => some
      { map := s.map, cont := s.cont, next := s.next
        pc := update s.pc r .done
        invT := update s.invT r s.trace.length
        trace := s.trace ++ [.gload r id none]
        hist := s.hist ++ [⟨r, .get id, s.trace.length, s.trace.length, .notFound⟩] }
    | some o => some
      { map := s.map, cont := s.cont, next := s.next
        pc := update s.pc r (.getLoaded o)
        invT := update s.invT r s.trace.length
        trace := s.trace ++ [.gload r id (some o)]
        hist := s.hist }
  | .getLoaded o, .get id =>
    match s.cont o with
    | none => none
    | some c => some
      { map := s.map, cont := s.cont, next := s.next
        pc := update s.pc r .done
        invT := s.invT
        trace := s.trace ++ [.gread r o c]
        hist := s.hist ++ [⟨r, .get id, s.invT r, s.trace.length, .matrix c⟩] }
  | .start, .head id => some
      { map := s.map, cont := s.cont, next := s.next
        pc := update s.pc r .done
        invT := update s.invT r s.trace.length
        trace := s.trace ++ [.hload r id (s.map id)]
        hist := s.hist ++ [⟨r, .head id, s.trace.length, s.trace.length,
                  if (s.map id).isSome then .noContent else .notFound⟩] }
  | .start, .delete id => some
      { map := update s.map id none
        cont := s.cont, next := s.next
        pc := update s.pc r .done
        invT := update s.invT r s.trace.length
        trace := s.trace ++ [.lad r id (s.map id)]
        hist := s.hist ++ [⟨r, .delete id, s.trace.length, s.trace.length,
                  if (s.map id).isSome then .noContent else .notFound⟩] }
  | _, _ => none

theorem stepFn_sound {prog : Nat → Req M} {ov : M → M → M} {s s' : St M} {r : Nat}
    (h : stepFn prog ov s r = some s') : Step prog ov s s' := by
  unfold stepFn at h
  split at h
  · cases h; exact Step.swap s r _ _ ‹_› ‹_›
  · split at h
    · cases h; exact Step.losStore s r _ _ ‹_› ‹_› ‹_›
    · cases h; exact Step.losLoad s r _ _ _ ‹_› ‹_› ‹_›
  · split at h
    · cases h
    · cases h; exact Step.msec s r _ _ _ _ ‹_› ‹_› ‹_›
  · split at h
    · cases h; exact Step.gloadNone s r _ ‹_› ‹_› ‹_›
    · cases h; exact Step.gloadSome s r _ _ ‹_› ‹_› ‹_›
  · split at h
    · cases h
    · cases h; exact Step.gread s r _ _ _ ‹_› ‹_› ‹_›
  · cases h; exact Step.hload s r _ ‹_› ‹_›
  · cases h; exact Step.lad s r _ ‹_› ‹_›
  · cases h

/-- run a schedule (the list of goroutines taking the successive steps) -/
def runFn (prog : Nat → Req M) (ov : M → M → M) (s : St M) : List Nat → Option (St M)
  | [] => some s
  | r :: rs => (stepFn prog ov s r).bind fun s1 => runFn prog ov s1 rs

theorem runFn_sound {prog : Nat → Req M} {ov : M → M → M} {s s' : St M} {sched : List Nat}
    (h : runFn prog ov s sched = some s') : Relation.ReflTransGen (Step prog ov) s s' := by
  induction sched generalizing s with
  | nil => cases h; exact .refl
  | cons r rs ih =>
    simp only [runFn, Option.bind_eq_some_iff] at h
    obtain ⟨s1, h1, h2⟩ := h
    exact .head (stepFn_sound h1) (ih h2)

theorem reach_of_runFn {prog : Nat → Req M} {ov : M → M → M} {s : St M} {sched : List Nat}
    (h : runFn prog ov init sched = some s) : Reach prog ov s := runFn_sound h

end EtVerif.StoreConc
