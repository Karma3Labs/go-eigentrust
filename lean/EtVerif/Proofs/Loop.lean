/-
  Control structure of `computeLoop` / `compute` (Model/Basic.lean; `Compute` in
  pkg/basic/eigentrust.go), for an arbitrary `Scalar` instance: the verdicts are whatever
  `sqrtLe` / `nonFinite` return.

  * the check schedule: `sched`, `lastChk` and their equations (`isCheck_iff`,
    `lastChk_of_isCheck`, the default schedule `minI = freq = 1`);
  * `exitOf`, `computeLoop_succ` — one unfolding of the loop: it takes the exit of the current
    state (`maxI` hit, non-finite delta, exit criteria) or `advance`s;
  * `computeLoop_char`, `computeLoop_exit` — the loop runs `advance` until the first state with
    an exit (or the fuel runs out), and conversely takes the first exit there is;
  * `stateAt` — the state after `k` iterations without exit, with closed forms for every
    component (`iterate`, `sched`, `lastChk`, `dsqAt`, `statsBefore`); `obsAt … k` is the
    observation `(ranking, squared delta)` the flat-tail checker is fed at a check at `k`;
    `nonFiniteAt`, `convergedAt`, `flatAt`, `stopAt` are the verdicts of that check;
  * `loop_spec` — everything about the result of the loop started in `initState t0`: iteration
    count, returned vector, statistics, checks performed, and per `EndedBy` what held at the end
    (`loop_t1_eq`, `loop_ended_criteria`, … are its parts by name);
    `loop_first` — the loop stops at the first `K` where the limit is hit or a check says stop;
    `loop_first_criteria` — and ends by the criteria if it is the check and its delta is finite;
  * `validate`, `ValidInput`, `loopOf`, `compute_eq` — `compute` is the validations, then the loop;
  * `flat_length_iff` — the flat-tail verdict at the `i`-th scheduled check, spelled out on the
    rankings of the last checks.
-/
import EtVerif.Proofs.FlatTail
import Mathlib.Logic.Function.Iterate

namespace EtVerif
open Scalar

variable {α : Type} [Scalar α]

/-! A first-match chain `if b₁ then some x₁ else if b₂ then some x₂ else … else none`, one
link at a time (`validate` and the exits of the loop body are such chains; splitting all the
`if`s at once is exponential in the length of the chain). -/

theorem ite_some_eq_none_iff {E : Type} (b : Prop) [Decidable b] (x : E) (o : Option E) :
    (if b then some x else o) = none ↔ ¬ b ∧ o = none := by
  by_cases h : b <;> simp [h]

theorem ite_some_eq_some_iff {E : Type} (b : Prop) [Decidable b] (x y : E) (o : Option E) :
    (if b then some x else o) = some y ↔ (b ∧ x = y) ∨ (¬ b ∧ o = some y) := by
  by_cases h : b <;> simp [h]

theorem ite_some_getD {E : Type} (b : Prop) [Decidable b] (x d : E) (o : Option E) :
    (if b then some x else o).getD d = if b then x else o.getD d := by
  by_cases h : b <;> simp [h]

/-- the initial loop state of `compute` (the assignments before the `for` loop of `Compute`) -/
def initState (t0 : List (Entry α)) : LoopState α :=
  { t1 := t0, iter := 0, conv := ⟨t0, zero⟩, stats := FlatTailStats.init, checks := [] }

def iterate (ct : List (Row α)) (ap : List (Entry α)) (q : α) (k : Nat) (t0 : List (Entry α)) :
    List (Entry α) := (stepEntries ct ap q)^[k] t0

theorem iterate_zero (ct : List (Row α)) (ap : List (Entry α)) (q : α) (t0 : List (Entry α)) :
    iterate ct ap q 0 t0 = t0 := rfl

theorem iterate_succ (ct : List (Row α)) (ap : List (Entry α)) (q : α) (k : Nat)
    (t0 : List (Entry α)) :
    iterate ct ap q (k + 1) t0 = stepEntries ct ap q (iterate ct ap q k t0) :=
  Function.iterate_succ_apply' _ _ _

/-- the loop guard `iter < maxIters` fails (`none` = unlimited) -/
def maxHit (maxI : Option Nat) (k : Nat) : Bool :=
  match maxI with
  | some m => decide (k ≥ m)
  | none => false

/-- squared norm of the difference of two entry lists (`ConvergenceChecker.Update`) -/
def deltaSq (t t' : List (Entry α)) : α := kbnSum ((subEntries t t').map fun e => mul e.val e.val)

/-- In an ordered field no value is non-finite: the `.nonFinite` exit of the loop is
    unreachable in exact arithmetic. -/
theorem nonFinite_false {K : Type} [Field K] [LinearOrder K] (x : K) : nonFinite x = false := by
  unfold nonFinite
  simp only [s_le, s_eq, s_add, s_isZero]
  by_cases h : x = 0
  · simp [h]
  · have h2 : ¬ (x + x = x) := by
      intro h2
      apply h
      have h3 : x + x = x + 0 := by rw [add_zero]; exact h2
      exact add_left_cancel h3
    simp [h2]

/-! ### the check schedule -/

/-- the scheduled checks `< k`, newest first (the order in which `LoopState.checks` is consed) -/
def sched (minI freq k : Nat) : List Nat := ((List.range k).filter (isCheck minI freq)).reverse

/-- the last scheduled check before iteration `k` (0 if there is none: the checker starts
    with the initial vector) -/
def lastChk (minI freq k : Nat) : Nat := (sched minI freq k).headD 0

omit [Scalar α] in
theorem sched_zero (minI freq : Nat) : sched minI freq 0 = [] := rfl

theorem sched_succ (minI freq k : Nat) :
    sched minI freq (k + 1) =
      if isCheck minI freq k then k :: sched minI freq k else sched minI freq k := by
  unfold sched
  rw [List.range_succ, List.filter_append, List.reverse_append]
  by_cases h : isCheck minI freq k <;> simp [h]

theorem mem_sched {minI freq k j : Nat} :
    j ∈ sched minI freq k ↔ j < k ∧ isCheck minI freq j = true := by
  simp [sched]

theorem isCheck_iff_mod {minI freq k : Nat} :
    isCheck minI freq k = true ↔ minI ≤ k ∧ (k - minI) % freq = 0 := by
  simp [isCheck]

theorem isCheck_iff {minI freq k : Nat} :
    isCheck minI freq k = true ↔ ∃ i, k = minI + i * freq := by
  rw [isCheck_iff_mod]
  constructor
  · rintro ⟨h1, h2⟩
    obtain ⟨i, hi⟩ := Nat.dvd_of_mod_eq_zero h2
    exact ⟨i, by rw [Nat.mul_comm] at hi; omega⟩
  · rintro ⟨i, rfl⟩
    refine ⟨by omega, ?_⟩
    have : minI + i * freq - minI = i * freq := by omega
    rw [this]; exact Nat.mul_mod_left i freq

theorem lastChk_zero (minI freq : Nat) : lastChk minI freq 0 = 0 := rfl

theorem lastChk_succ (minI freq k : Nat) :
    lastChk minI freq (k + 1) = if isCheck minI freq k then k else lastChk minI freq k := by
  unfold lastChk
  rw [sched_succ]
  by_cases h : isCheck minI freq k <;> simp [h]

theorem sched_eq_nil {minI freq k : Nat} (h : k ≤ minI) : sched minI freq k = [] := by
  apply List.eq_nil_iff_forall_not_mem.mpr
  intro j hj
  obtain ⟨h1, h2⟩ := mem_sched.mp hj
  have := (isCheck_iff_mod.mp h2).1
  omega

theorem sched_eq_of_no_check {minI freq c k : Nat} (h : c ≤ k)
    (hn : ∀ j, c ≤ j → j < k → isCheck minI freq j = false) :
    sched minI freq k = sched minI freq c := by
  induction k, h using Nat.le_induction with
  | base => rfl
  | succ k hk ih =>
    rw [sched_succ, hn k hk (Nat.lt_succ_self k), if_neg Bool.false_ne_true]
    exact ih fun j h1 h2 => hn j h1 (Nat.lt_succ_of_lt h2)

theorem lastChk_eq_of_no_check {minI freq c k : Nat} (h : c ≤ k)
    (hn : ∀ j, c ≤ j → j < k → isCheck minI freq j = false) :
    lastChk minI freq k = lastChk minI freq c := by
  unfold lastChk
  rw [sched_eq_of_no_check h hn]

theorem isCheck_gap {minI freq i j : Nat} (h1 : minI + i * freq < j)
    (h2 : j < minI + (i + 1) * freq) : isCheck minI freq j = false := by
  cases hc : isCheck minI freq j with
  | false => rfl
  | true =>
    exfalso
    obtain ⟨i', rfl⟩ := isCheck_iff.mp hc
    have h3 : i < i' := Nat.lt_of_mul_lt_mul_right (Nat.lt_of_add_lt_add_left h1)
    have h4 : i' < i + 1 := Nat.lt_of_mul_lt_mul_right (Nat.lt_of_add_lt_add_left h2)
    omega

theorem sched_next_check {minI freq : Nat} (hf : 1 ≤ freq) (i : Nat) :
    sched minI freq (minI + (i + 1) * freq) = sched minI freq (minI + i * freq + 1) := by
  have hmul := Nat.add_one_mul i freq
  exact sched_eq_of_no_check (by omega) fun j h1 h2 => isCheck_gap (by omega) h2

theorem lastChk_of_isCheck {minI freq k : Nat} (hf : 1 ≤ freq) (hk : isCheck minI freq k = true) :
    lastChk minI freq k = if k ≤ minI then 0 else k - freq := by
  obtain ⟨i, rfl⟩ := isCheck_iff.mp hk
  unfold lastChk
  cases i with
  | zero =>
    rw [Nat.zero_mul, Nat.add_zero, sched_eq_nil (le_refl minI), if_pos (le_refl minI)]
    rfl
  | succ i =>
    have hmul := Nat.add_one_mul i freq
    rw [sched_next_check hf, sched_succ, if_pos (isCheck_iff.mpr ⟨i, rfl⟩), if_neg (by omega)]
    show minI + i * freq = _
    omega

theorem lastChk_lt {minI freq k : Nat} (hk : 0 < k) : lastChk minI freq k < k := by
  unfold lastChk
  cases h : sched minI freq k with
  | nil => simpa using hk
  | cons x xs =>
    have hm : x ∈ sched minI freq k := by rw [h]; simp
    simpa using (mem_sched.mp hm).1

/-! `minI = freq = 1` are the defaults of `Compute` (`checkFreq := 1`, `minIters := checkFreq`) -/

theorem isCheck_default (k : Nat) (hk : 1 ≤ k) : isCheck 1 1 k = true := by
  rw [isCheck_iff_mod]; exact ⟨hk, Nat.mod_one _⟩

theorem isCheck_default_zero : isCheck 1 1 0 = false := by decide

theorem lastChk_default (k : Nat) (hk : 1 ≤ k) : lastChk 1 1 k = k - 1 := by
  rw [lastChk_of_isCheck (le_refl 1) (isCheck_default k hk)]
  split <;> omega

/-! ### one unfolding of the loop -/

section loop
variable (ct : List (Row α)) (ap : List (Entry α)) (q e : α) (minI freq : Nat)
  (maxI : Option Nat) (flatTail nl : Nat)

/-- the bookkeeping the loop performs at the top of an iteration (the
    `if (iter-minIters)%checkFreq == 0 { if iter >= minIters { … } }` block of `Compute`): at a
    scheduled check, update the two checkers and record the check. -/
def checkedState (s : LoopState α) : LoopState α :=
  if isCheck minI freq s.iter then
    { s with
      conv := s.conv.update s.t1
      stats := s.stats.update (rankOf s.t1 nl) (s.conv.update s.t1).dsq
      checks := s.iter :: s.checks }
  else s

/-- a full loop iteration without exit: bookkeeping, then one power-iteration step -/
def advance (s : LoopState α) : LoopState α :=
  { checkedState minI freq nl s with t1 := stepEntries ct ap q s.t1, iter := s.iter + 1 }

/-- the loop exits with `nonFinite` from state `s` -/
def stopNF (s : LoopState α) : Bool :=
  isCheck minI freq s.iter && nonFinite (checkedState minI freq nl s).conv.dsq

/-- the loop exits with `criteria` from state `s` (if not `stopNF`) -/
def stopOK (s : LoopState α) : Bool :=
  isCheck minI freq s.iter && sqrtLe (checkedState minI freq nl s).conv.dsq e
    && decide ((checkedState minI freq nl s).stats.length ≥ flatTail)

/-- where the loop ends when it is in state `s` with fuel left: the three exits of the loop
    body in source order; `none` if it goes on -/
def exitOf (s : LoopState α) : Option (LoopState α × EndedBy) :=
  if maxHit maxI s.iter then some (s, .maxIterations)
  else if stopNF minI freq nl s then some (checkedState minI freq nl s, .nonFinite)
  else if stopOK e minI freq flatTail nl s then some (checkedState minI freq nl s, .criteria)
  else none

theorem computeLoop_zero (s : LoopState α) :
    computeLoop ct ap q e minI freq maxI flatTail nl 0 s = (s, .outOfFuel) := rfl

theorem computeLoop_succ (fuel : Nat) (s : LoopState α) :
    computeLoop ct ap q e minI freq maxI flatTail nl (fuel + 1) s =
      (exitOf e minI freq maxI flatTail nl s).getD
        (computeLoop ct ap q e minI freq maxI flatTail nl fuel
          (advance ct ap q minI freq nl s)) := by
  -- the model's body is `if maxI-test then … else let checked := isCheck …; if checked && … then …
  -- else if checked && … then … else recurse`: deciding `isCheck` and the form of `maxI` first
  -- leaves `simp` only the `if`s that `exitOf` has too
  conv => lhs; unfold computeLoop
  cases hc : isCheck minI freq s.iter <;> cases maxI <;>
    simp [exitOf, ite_some_getD, maxHit, stopNF, stopOK, checkedState, advance, hc]

@[simp] theorem checkedState_iter (s : LoopState α) :
    (checkedState minI freq nl s).iter = s.iter := by
  unfold checkedState; split <;> rfl

@[simp] theorem checkedState_t1 (s : LoopState α) :
    (checkedState minI freq nl s).t1 = s.t1 := by
  unfold checkedState; split <;> rfl

@[simp] theorem advance_iter (s : LoopState α) :
    (advance ct ap q minI freq nl s).iter = s.iter + 1 := rfl

@[simp] theorem advance_t1 (s : LoopState α) :
    (advance ct ap q minI freq nl s).t1 = stepEntries ct ap q s.t1 := rfl

@[simp] theorem advance_conv (s : LoopState α) :
    (advance ct ap q minI freq nl s).conv = (checkedState minI freq nl s).conv := rfl

@[simp] theorem advance_stats (s : LoopState α) :
    (advance ct ap q minI freq nl s).stats = (checkedState minI freq nl s).stats := rfl

@[simp] theorem advance_checks (s : LoopState α) :
    (advance ct ap q minI freq nl s).checks = (checkedState minI freq nl s).checks := rfl

theorem advance_pow_iter (k : Nat) (s : LoopState α) :
    ((advance ct ap q minI freq nl)^[k] s).iter = s.iter + k := by
  induction k with
  | zero => rfl
  | succ k ih => rw [Function.iterate_succ_apply', advance_iter, ih]; omega

theorem advance_pow_t1 (k : Nat) (s : LoopState α) :
    ((advance ct ap q minI freq nl)^[k] s).t1 = (stepEntries ct ap q)^[k] s.t1 := by
  induction k with
  | zero => rfl
  | succ k ih => rw [Function.iterate_succ_apply', advance_t1, ih, Function.iterate_succ_apply']

theorem computeLoop_char (fuel : Nat) :
    ∀ (s0 : LoopState α) (r : LoopState α × EndedBy),
      computeLoop ct ap q e minI freq maxI flatTail nl fuel s0 = r →
      ∃ K, K ≤ fuel ∧
        (∀ j < K, exitOf e minI freq maxI flatTail nl
          ((advance ct ap q minI freq nl)^[j] s0) = none) ∧
        ((K = fuel ∧ r = ((advance ct ap q minI freq nl)^[K] s0, .outOfFuel)) ∨
         (K < fuel ∧ exitOf e minI freq maxI flatTail nl
          ((advance ct ap q minI freq nl)^[K] s0) = some r)) := by
  induction fuel with
  | zero =>
    rintro s0 _ rfl
    exact ⟨0, le_refl _, fun j hj => absurd hj (Nat.not_lt_zero j), Or.inl ⟨rfl, rfl⟩⟩
  | succ fuel ih =>
    rintro s0 _ rfl
    rw [computeLoop_succ]
    cases hx : exitOf e minI freq maxI flatTail nl s0 with
    | some r =>
      exact ⟨0, Nat.zero_le _, fun j hj => absurd hj (Nat.not_lt_zero j),
        Or.inr ⟨Nat.succ_pos _, hx⟩⟩
    | none =>
      obtain ⟨K, hK, hbefore, hend⟩ := ih (advance ct ap q minI freq nl s0) _ rfl
      refine ⟨K + 1, Nat.succ_le_succ hK, ?_, ?_⟩
      · intro j hj
        cases j with
        | zero => exact hx
        | succ j => exact hbefore j (Nat.lt_of_succ_lt_succ hj)
      · rcases hend with ⟨rfl, h⟩ | ⟨hlt, h⟩
        · exact Or.inl ⟨rfl, h⟩
        · exact Or.inr ⟨Nat.succ_lt_succ hlt, h⟩

theorem computeLoop_exit (K : Nat) :
    ∀ (fuel : Nat) (s0 : LoopState α) (r : LoopState α × EndedBy), K < fuel →
      (∀ j < K, exitOf e minI freq maxI flatTail nl
        ((advance ct ap q minI freq nl)^[j] s0) = none) →
      exitOf e minI freq maxI flatTail nl ((advance ct ap q minI freq nl)^[K] s0) = some r →
      computeLoop ct ap q e minI freq maxI flatTail nl fuel s0 = r := by
  induction K with
  | zero =>
    intro fuel s0 r hK _ hat
    obtain ⟨f, rfl⟩ : ∃ f, fuel = f + 1 := ⟨fuel - 1, by omega⟩
    rw [computeLoop_succ]
    exact congrArg (Option.getD · _) hat
  | succ K ih =>
    intro fuel s0 r hK hbefore hat
    obtain ⟨f, rfl⟩ : ∃ f, fuel = f + 1 := ⟨fuel - 1, by omega⟩
    have h0 : exitOf e minI freq maxI flatTail nl s0 = none := hbefore 0 (Nat.succ_pos K)
    rw [computeLoop_succ, h0]
    exact ih f _ r (Nat.lt_of_succ_lt_succ hK)
      (fun j hj => hbefore (j + 1) (Nat.succ_lt_succ hj)) hat

theorem exitOf_some {s s' : LoopState α} {by_ : EndedBy}
    (h : exitOf e minI freq maxI flatTail nl s = some (s', by_)) :
    s'.iter = s.iter ∧ s'.t1 = s.t1 ∧ by_ ≠ .outOfFuel ∧
      (by_ = .maxIterations ↔ maxHit maxI s.iter = true) := by
  unfold exitOf at h
  rw [ite_some_eq_some_iff, ite_some_eq_some_iff, ite_some_eq_some_iff] at h
  rcases h with ⟨hmax, h⟩ | ⟨hmax, ⟨_, h⟩ | ⟨_, ⟨_, h⟩ | ⟨_, h⟩⟩⟩
  · obtain ⟨rfl, rfl⟩ := Prod.mk.inj h
    exact ⟨rfl, rfl, nofun, fun _ => hmax, fun _ => rfl⟩
  · obtain ⟨rfl, rfl⟩ := Prod.mk.inj h
    exact ⟨checkedState_iter .., checkedState_t1 .., nofun, nofun, fun h' => absurd h' hmax⟩
  · obtain ⟨rfl, rfl⟩ := Prod.mk.inj h
    exact ⟨checkedState_iter .., checkedState_t1 .., nofun, nofun, fun h' => absurd h' hmax⟩
  · cases h

/-! ### the state after `k` iterations, in closed form -/

/-- the loop state at the top of iteration `k` when nothing ended the loop before -/
def stateAt (t0 : List (Entry α)) (k : Nat) : LoopState α :=
  (advance ct ap q minI freq nl)^[k] (initState t0)

theorem stateAt_zero (t0 : List (Entry α)) : stateAt ct ap q minI freq nl t0 0 = initState t0 := rfl

theorem stateAt_succ (t0 : List (Entry α)) (k : Nat) :
    stateAt ct ap q minI freq nl t0 (k + 1) =
      advance ct ap q minI freq nl (stateAt ct ap q minI freq nl t0 k) :=
  Function.iterate_succ_apply' _ _ _

@[simp] theorem stateAt_iter (t0 : List (Entry α)) (k : Nat) :
    (stateAt ct ap q minI freq nl t0 k).iter = k := by
  unfold stateAt; rw [advance_pow_iter]; simp [initState]

@[simp] theorem stateAt_t1 (t0 : List (Entry α)) (k : Nat) :
    (stateAt ct ap q minI freq nl t0 k).t1 = iterate ct ap q k t0 := by
  unfold stateAt; rw [advance_pow_t1]; rfl

theorem checkedState_checks (s : LoopState α) :
    (checkedState minI freq nl s).checks =
      if isCheck minI freq s.iter then s.iter :: s.checks else s.checks := by
  unfold checkedState; split <;> rfl

theorem checkedState_conv (s : LoopState α) :
    (checkedState minI freq nl s).conv =
      if isCheck minI freq s.iter then s.conv.update s.t1 else s.conv := by
  unfold checkedState; split <;> rfl

theorem checkedState_stats (s : LoopState α) :
    (checkedState minI freq nl s).stats =
      if isCheck minI freq s.iter then
        s.stats.update (rankOf s.t1 nl) (s.conv.update s.t1).dsq else s.stats := by
  unfold checkedState; split <;> rfl

theorem stateAt_checks (t0 : List (Entry α)) (k : Nat) :
    (stateAt ct ap q minI freq nl t0 k).checks = sched minI freq k := by
  induction k with
  | zero => rfl
  | succ k ih => rw [stateAt_succ, advance_checks, checkedState_checks, stateAt_iter, ih, sched_succ]

theorem checkedState_stateAt_checks (t0 : List (Entry α)) (k : Nat) :
    (checkedState minI freq nl (stateAt ct ap q minI freq nl t0 k)).checks
      = sched minI freq (k + 1) := by
  rw [checkedState_checks, stateAt_iter, stateAt_checks, sched_succ]

theorem stateAt_conv_t (t0 : List (Entry α)) (k : Nat) :
    (stateAt ct ap q minI freq nl t0 k).conv.t = iterate ct ap q (lastChk minI freq k) t0 := by
  induction k with
  | zero => rfl
  | succ k ih =>
    rw [stateAt_succ, advance_conv, checkedState_conv, stateAt_iter, lastChk_succ]
    split
    · simp [ConvChecker.update]
    · exact ih

/-- squared delta computed at a check at iteration `k`: between the `k`-th iterate and the
    iterate of the previous check (the initial vector for the first check). -/
def dsqAt (t0 : List (Entry α)) (k : Nat) : α :=
  deltaSq (iterate ct ap q k t0) (iterate ct ap q (lastChk minI freq k) t0)

theorem checkedState_stateAt_dsq (t0 : List (Entry α)) (k : Nat) (hk : isCheck minI freq k = true) :
    (checkedState minI freq nl (stateAt ct ap q minI freq nl t0 k)).conv.dsq
      = dsqAt ct ap q minI freq t0 k := by
  rw [checkedState_conv, stateAt_iter, if_pos hk]
  simp [ConvChecker.update, stateAt_conv_t, dsqAt, deltaSq]

/-- the observation fed to the flat-tail checker at a check at iteration `k` -/
def obsAt (t0 : List (Entry α)) (k : Nat) : List Nat × α :=
  (rankOf (iterate ct ap q k t0) nl, dsqAt ct ap q minI freq t0 k)

/-- flat-tail statistics after all scheduled checks `< k` -/
def statsBefore (t0 : List (Entry α)) (k : Nat) : FlatTailStats α :=
  ftFold ((sched minI freq k).reverse.map (obsAt ct ap q minI freq nl t0))

theorem statsBefore_succ (t0 : List (Entry α)) (k : Nat) :
    statsBefore ct ap q minI freq nl t0 (k + 1) =
      if isCheck minI freq k then
        (statsBefore ct ap q minI freq nl t0 k).update
          (rankOf (iterate ct ap q k t0) nl) (dsqAt ct ap q minI freq t0 k)
      else statsBefore ct ap q minI freq nl t0 k := by
  unfold statsBefore
  rw [sched_succ]
  split
  · rw [List.reverse_cons, List.map_append, List.map_singleton, ftFold_snoc]; rfl
  · rfl

theorem stateAt_stats (t0 : List (Entry α)) (k : Nat) :
    (stateAt ct ap q minI freq nl t0 k).stats = statsBefore ct ap q minI freq nl t0 k := by
  induction k with
  | zero => rfl
  | succ k ih =>
    rw [stateAt_succ, advance_stats, checkedState_stats, stateAt_iter, statsBefore_succ, ih]
    split
    · rename_i hk
      have := checkedState_stateAt_dsq ct ap q minI freq nl t0 k hk
      rw [checkedState_conv, stateAt_iter, if_pos hk] at this
      rw [this, stateAt_t1]
    · rfl

theorem checkedState_stateAt_stats (t0 : List (Entry α)) (k : Nat) :
    (checkedState minI freq nl (stateAt ct ap q minI freq nl t0 k)).stats
      = statsBefore ct ap q minI freq nl t0 (k + 1) := by
  have := stateAt_stats ct ap q minI freq nl t0 (k + 1)
  rw [stateAt_succ, advance_stats] at this
  exact this

/-! ### verdicts in closed form -/

def nonFiniteAt (t0 : List (Entry α)) (k : Nat) : Bool := nonFinite (dsqAt ct ap q minI freq t0 k)

/-- `Converged()` at a check at iteration `k`: `sqrt dsq ≤ e` -/
def convergedAt (t0 : List (Entry α)) (k : Nat) : Bool := sqrtLe (dsqAt ct ap q minI freq t0 k) e

/-- `Reached()` at a check at iteration `k`: the statistics *including* this check have
    `length ≥ flatTail` -/
def flatAt (t0 : List (Entry α)) (k : Nat) : Bool :=
  decide ((statsBefore ct ap q minI freq nl t0 (k + 1)).length ≥ flatTail)

/-- a scheduled check at iteration `k` ends the loop -/
def stopAt (t0 : List (Entry α)) (k : Nat) : Bool :=
  isCheck minI freq k &&
    (nonFiniteAt ct ap q minI freq t0 k ||
      (convergedAt ct ap q e minI freq t0 k && flatAt ct ap q minI freq flatTail nl t0 k))

theorem stopNF_stateAt (t0 : List (Entry α)) (k : Nat) :
    stopNF minI freq nl (stateAt ct ap q minI freq nl t0 k) =
      (isCheck minI freq k && nonFiniteAt ct ap q minI freq t0 k) := by
  unfold stopNF nonFiniteAt
  rw [stateAt_iter]
  cases hk : isCheck minI freq k with
  | false => rfl
  | true => rw [checkedState_stateAt_dsq _ _ _ _ _ _ _ _ hk]

theorem stopOK_stateAt (t0 : List (Entry α)) (k : Nat) :
    stopOK e minI freq flatTail nl (stateAt ct ap q minI freq nl t0 k) =
      (isCheck minI freq k && convergedAt ct ap q e minI freq t0 k
        && flatAt ct ap q minI freq flatTail nl t0 k) := by
  unfold stopOK convergedAt flatAt
  rw [stateAt_iter, checkedState_stateAt_stats]
  cases hk : isCheck minI freq k with
  | false => rfl
  | true => rw [checkedState_stateAt_dsq _ _ _ _ _ _ _ _ hk]

theorem exitOf_stateAt (t0 : List (Entry α)) (k : Nat) :
    exitOf e minI freq maxI flatTail nl (stateAt ct ap q minI freq nl t0 k) =
      if maxHit maxI k then some (stateAt ct ap q minI freq nl t0 k, .maxIterations)
      else if isCheck minI freq k && nonFiniteAt ct ap q minI freq t0 k then
        some (checkedState minI freq nl (stateAt ct ap q minI freq nl t0 k), .nonFinite)
      else if isCheck minI freq k && convergedAt ct ap q e minI freq t0 k
          && flatAt ct ap q minI freq flatTail nl t0 k then
        some (checkedState minI freq nl (stateAt ct ap q minI freq nl t0 k), .criteria)
      else none := by
  unfold exitOf
  rw [stateAt_iter, stopNF_stateAt, stopOK_stateAt]

theorem exitOf_stateAt_eq_none (t0 : List (Entry α)) (k : Nat) :
    exitOf e minI freq maxI flatTail nl (stateAt ct ap q minI freq nl t0 k) = none ↔
      maxHit maxI k = false ∧ stopAt ct ap q e minI freq flatTail nl t0 k = false := by
  unfold stopAt
  rw [exitOf_stateAt, Bool.and_or_distrib_left, Bool.or_eq_false_iff, ← Bool.and_assoc]
  simp only [ite_some_eq_none_iff, and_true, Bool.not_eq_true]

theorem stopAt_eq_true_iff (t0 : List (Entry α)) (k : Nat) :
    stopAt ct ap q e minI freq flatTail nl t0 k = true ↔
      isCheck minI freq k = true ∧ (nonFiniteAt ct ap q minI freq t0 k = true ∨
        (convergedAt ct ap q e minI freq t0 k = true ∧
          flatAt ct ap q minI freq flatTail nl t0 k = true)) := by
  unfold stopAt
  rw [Bool.and_eq_true, Bool.or_eq_true, Bool.and_eq_true]

theorem stopAt_eq_false_iff (t0 : List (Entry α)) (k : Nat) :
    stopAt ct ap q e minI freq flatTail nl t0 k = false ↔
      (isCheck minI freq k = true → nonFiniteAt ct ap q minI freq t0 k = false ∧
        ¬ (convergedAt ct ap q e minI freq t0 k = true ∧
          flatAt ct ap q minI freq flatTail nl t0 k = true)) := by
  rw [← Bool.not_eq_true, stopAt_eq_true_iff, not_and, not_or, Bool.not_eq_true]

end loop

/-! ### the loop started in the initial state -/

omit [Scalar α] in
theorem maxHit_some (m k : Nat) : maxHit (some m) k = decide (k ≥ m) := rfl
omit [Scalar α] in
theorem maxHit_none (k : Nat) : maxHit none k = false := rfl

omit [Scalar α] in
theorem le_of_maxHit_false {maxI : Option Nat} {K : Nat} (h : ∀ k < K, maxHit maxI k = false)
    {m : Nat} (hm : maxI = some m) : K ≤ m := by
  subst hm
  by_contra hlt
  have := h m (by omega)
  simp [maxHit_some] at this

omit [Scalar α] in
theorem lt_of_maxHit_false {maxI : Option Nat} {K : Nat} (h : maxHit maxI K = false)
    {m : Nat} (hm : maxI = some m) : K < m := by
  subst hm
  simpa [maxHit_some] using h

omit [Scalar α] in
theorem eq_of_maxHit_true {maxI : Option Nat} {K : Nat} (h : ∀ k < K, maxHit maxI k = false)
    (hK : maxHit maxI K = true) : maxI = some K := by
  cases maxI with
  | none => simp [maxHit_none] at hK
  | some m =>
    have h1 := le_of_maxHit_false h rfl
    have h2 : K ≥ m := by simpa [maxHit_some] using hK
    congr 1; omega

section loop
variable (ct : List (Row α)) (ap : List (Entry α)) (q e : α) (minI freq : Nat)
  (maxI : Option Nat) (flatTail nl : Nat)

theorem loop_spec (fuel : Nat) (t0 : List (Entry α)) (s : LoopState α) (by_ : EndedBy)
    (h : computeLoop ct ap q e minI freq maxI flatTail nl fuel (initState t0) = (s, by_)) :
    s.iter ≤ fuel ∧
    (∀ k, k < s.iter → maxHit maxI k = false ∧ stopAt ct ap q e minI freq flatTail nl t0 k = false) ∧
    s.t1 = iterate ct ap q s.iter t0 ∧
    s.stats = ftFold (s.checks.reverse.map (obsAt ct ap q minI freq nl t0)) ∧
    (by_ = .outOfFuel → s.iter = fuel ∧ s.checks = sched minI freq s.iter) ∧
    (by_ = .maxIterations → s.iter < fuel ∧ maxHit maxI s.iter = true ∧
        s.checks = sched minI freq s.iter) ∧
    (by_ = .nonFinite → s.iter < fuel ∧ maxHit maxI s.iter = false ∧
        isCheck minI freq s.iter = true ∧ nonFiniteAt ct ap q minI freq t0 s.iter = true ∧
        s.checks = sched minI freq (s.iter + 1)) ∧
    (by_ = .criteria → s.iter < fuel ∧ maxHit maxI s.iter = false ∧
        isCheck minI freq s.iter = true ∧ nonFiniteAt ct ap q minI freq t0 s.iter = false ∧
        convergedAt ct ap q e minI freq t0 s.iter = true ∧
        flatAt ct ap q minI freq flatTail nl t0 s.iter = true ∧
        s.checks = sched minI freq (s.iter + 1)) := by
  obtain ⟨K, hK, hbefore, hend⟩ :=
    computeLoop_char ct ap q e minI freq maxI flatTail nl fuel _ _ h
  replace hbefore : ∀ k, k < K → maxHit maxI k = false ∧
      stopAt ct ap q e minI freq flatTail nl t0 k = false := fun k hk =>
    (exitOf_stateAt_eq_none ct ap q e minI freq maxI flatTail nl t0 k).mp (hbefore k hk)
  rcases hend with ⟨rfl, hs⟩ | ⟨hlt, hx⟩
  · replace hs : (s, by_) = (stateAt ct ap q minI freq nl t0 K, .outOfFuel) := hs
    obtain ⟨rfl, rfl⟩ := Prod.mk.inj hs
    rw [stateAt_iter, stateAt_t1, stateAt_stats, stateAt_checks]
    exact ⟨hK, hbefore, rfl, rfl, fun _ => ⟨rfl, rfl⟩, nofun, nofun, nofun⟩
  · replace hx : exitOf e minI freq maxI flatTail nl (stateAt ct ap q minI freq nl t0 K)
        = some (s, by_) := hx
    rw [exitOf_stateAt, ite_some_eq_some_iff, ite_some_eq_some_iff, ite_some_eq_some_iff] at hx
    rcases hx with ⟨hmax, hx⟩ | ⟨hmax, ⟨hnf, hx⟩ | ⟨hnf, ⟨hok, hx⟩ | ⟨_, hx⟩⟩⟩
    · obtain ⟨rfl, rfl⟩ := Prod.mk.inj hx
      rw [stateAt_iter, stateAt_t1, stateAt_stats, stateAt_checks]
      exact ⟨hlt.le, hbefore, rfl, rfl, nofun, fun _ => ⟨hlt, hmax, rfl⟩, nofun, nofun⟩
    · obtain ⟨rfl, rfl⟩ := Prod.mk.inj hx
      rw [Bool.and_eq_true] at hnf
      rw [checkedState_iter, stateAt_iter, checkedState_t1, stateAt_t1, checkedState_stateAt_stats,
        checkedState_stateAt_checks]
      exact ⟨hlt.le, hbefore, rfl, rfl, nofun, nofun,
        fun _ => ⟨hlt, Bool.eq_false_iff.mpr hmax, hnf.1, hnf.2, rfl⟩, nofun⟩
    · obtain ⟨rfl, rfl⟩ := Prod.mk.inj hx
      rw [Bool.and_eq_true, Bool.and_eq_true] at hok
      rw [hok.1.1, Bool.true_and, Bool.not_eq_true] at hnf
      rw [checkedState_iter, stateAt_iter, checkedState_t1, stateAt_t1, checkedState_stateAt_stats,
        checkedState_stateAt_checks]
      exact ⟨hlt.le, hbefore, rfl, rfl, nofun, nofun, nofun,
        fun _ => ⟨hlt, Bool.eq_false_iff.mpr hmax, hok.1.1, hnf, hok.1.2, hok.2, rfl⟩⟩
    · cases hx

/-! the parts of `loop_spec` by name -/

section parts
variable {ct ap q e minI freq maxI flatTail nl}

theorem loop_t1_eq {fuel : Nat} {t0 : List (Entry α)} {s : LoopState α} {by_ : EndedBy}
    (h : computeLoop ct ap q e minI freq maxI flatTail nl fuel (initState t0) = (s, by_)) :
    s.t1 = iterate ct ap q s.iter t0 :=
  (loop_spec ct ap q e minI freq maxI flatTail nl fuel t0 s by_ h).2.2.1

theorem loop_stats_eq {fuel : Nat} {t0 : List (Entry α)} {s : LoopState α} {by_ : EndedBy}
    (h : computeLoop ct ap q e minI freq maxI flatTail nl fuel (initState t0) = (s, by_)) :
    s.stats = ftFold (s.checks.reverse.map (obsAt ct ap q minI freq nl t0)) :=
  (loop_spec ct ap q e minI freq maxI flatTail nl fuel t0 s by_ h).2.2.2.1

theorem loop_no_stop_before {fuel : Nat} {t0 : List (Entry α)} {s : LoopState α} {by_ : EndedBy}
    (h : computeLoop ct ap q e minI freq maxI flatTail nl fuel (initState t0) = (s, by_)) :
    ∀ k, k < s.iter →
      maxHit maxI k = false ∧ stopAt ct ap q e minI freq flatTail nl t0 k = false :=
  (loop_spec ct ap q e minI freq maxI flatTail nl fuel t0 s by_ h).2.1

theorem loop_ended_maxIterations {fuel : Nat} {t0 : List (Entry α)} {s : LoopState α}
    (h : computeLoop ct ap q e minI freq maxI flatTail nl fuel (initState t0)
      = (s, .maxIterations)) :
    s.iter < fuel ∧ maxHit maxI s.iter = true ∧ s.checks = sched minI freq s.iter :=
  (loop_spec ct ap q e minI freq maxI flatTail nl fuel t0 s _ h).2.2.2.2.2.1 rfl

theorem loop_ended_nonFinite {fuel : Nat} {t0 : List (Entry α)} {s : LoopState α}
    (h : computeLoop ct ap q e minI freq maxI flatTail nl fuel (initState t0)
      = (s, .nonFinite)) :
    s.iter < fuel ∧ maxHit maxI s.iter = false ∧ isCheck minI freq s.iter = true ∧
      nonFiniteAt ct ap q minI freq t0 s.iter = true ∧
      s.checks = sched minI freq (s.iter + 1) :=
  (loop_spec ct ap q e minI freq maxI flatTail nl fuel t0 s _ h).2.2.2.2.2.2.1 rfl

theorem loop_ended_criteria {fuel : Nat} {t0 : List (Entry α)} {s : LoopState α}
    (h : computeLoop ct ap q e minI freq maxI flatTail nl fuel (initState t0)
      = (s, .criteria)) :
    s.iter < fuel ∧ maxHit maxI s.iter = false ∧ isCheck minI freq s.iter = true ∧
      nonFiniteAt ct ap q minI freq t0 s.iter = false ∧
      convergedAt ct ap q e minI freq t0 s.iter = true ∧
      flatAt ct ap q minI freq flatTail nl t0 s.iter = true ∧
      s.checks = sched minI freq (s.iter + 1) :=
  (loop_spec ct ap q e minI freq maxI flatTail nl fuel t0 s _ h).2.2.2.2.2.2.2 rfl

end parts

theorem loop_first (fuel : Nat) (t0 : List (Entry α)) (K : Nat) (hK : K < fuel)
    (hbefore : ∀ k, k < K → maxHit maxI k = false ∧
      stopAt ct ap q e minI freq flatTail nl t0 k = false)
    (hat : maxHit maxI K = true ∨ stopAt ct ap q e minI freq flatTail nl t0 K = true)
    (s : LoopState α) (by_ : EndedBy)
    (h : computeLoop ct ap q e minI freq maxI flatTail nl fuel (initState t0) = (s, by_)) :
    s.iter = K ∧ by_ ≠ .outOfFuel ∧ (by_ = .maxIterations ↔ maxHit maxI K = true) := by
  cases hx : exitOf e minI freq maxI flatTail nl (stateAt ct ap q minI freq nl t0 K) with
  | none =>
    obtain ⟨h1, h2⟩ := (exitOf_stateAt_eq_none ct ap q e minI freq maxI flatTail nl t0 K).mp hx
    rcases hat with hat | hat
    · rw [h1] at hat; cases hat
    · rw [h2] at hat; cases hat
  | some r =>
    have hr := computeLoop_exit ct ap q e minI freq maxI flatTail nl K fuel _ r hK
      (fun k hk => (exitOf_stateAt_eq_none ct ap q e minI freq maxI flatTail nl t0 k).mpr
        (hbefore k hk)) hx
    rw [h] at hr
    subst hr
    obtain ⟨h1, _, h2, h3⟩ := exitOf_some e minI freq maxI flatTail nl hx
    rw [stateAt_iter] at h1 h3
    exact ⟨h1, h2, h3⟩

section
variable {ct ap q e minI freq maxI flatTail nl}

theorem loop_first_criteria (fuel : Nat) (t0 : List (Entry α)) (K : Nat) (hK : K < fuel)
    (hbefore : ∀ k, k < K → maxHit maxI k = false ∧
      stopAt ct ap q e minI freq flatTail nl t0 k = false)
    (hmax : maxHit maxI K = false) (hfin : nonFiniteAt ct ap q minI freq t0 K = false)
    (hat : stopAt ct ap q e minI freq flatTail nl t0 K = true)
    (s : LoopState α) (by_ : EndedBy)
    (h : computeLoop ct ap q e minI freq maxI flatTail nl fuel (initState t0) = (s, by_)) :
    s.iter = K ∧ by_ = .criteria := by
  obtain ⟨hi, hnof, hmx⟩ :=
    loop_first ct ap q e minI freq maxI flatTail nl fuel t0 K hK hbefore (Or.inr hat) s by_ h
  refine ⟨hi, ?_⟩
  cases by_ with
  | criteria => rfl
  | outOfFuel => exact absurd rfl hnof
  | maxIterations => rw [hmx.mp rfl] at hmax; cases hmax
  | nonFinite =>
    rw [← hi, (loop_ended_nonFinite h).2.2.2.1]
      at hfin
    cases hfin

end

end loop

/-! ### `compute`: validation, then the loop -/

/-- the validations of `Compute` in source order (dimensions, `alpha`, `epsilon`, then the
    options `checkFreq`, `maxIterations`, `minIterations`): the first one that fails, as the
    error returned. -/
def validate (c : CSM α) (p : Vec α) (a e : α) (o : ComputeOpts α) : Option SErr :=
  if c.major ≠ c.minor then some .dimMismatch
  else if c.major = 0 then some .emptyLocalTrust
  else if p.dim ≠ c.major
      || (match o.t0 with | some t0 => decide (t0.dim ≠ c.major) | none => false)
      || (match o.resultDim with | some d => decide (d ≠ c.major) | none => false) then
    some .dimMismatch
  else if lt a zero || lt one a then some (.badParam "alpha")
  else if le e zero then some (.badParam "epsilon")
  else if o.checkFreq.getD 1 < 1 then some (.badParam "checkFreq")
  else if o.maxIterations.getD 0 < 0 then some (.badParam "maxIterations")
  else if o.minIterations.getD (o.checkFreq.getD 1) ≤ 0 then some (.badParam "minIterations")
  else none

/-- the loop `compute` runs once the validations have passed -/
def loopOf (fuel : Nat) (c : CSM α) (p : Vec α) (a e : α) (o : ComputeOpts α) :
    LoopState α × EndedBy :=
  computeLoop c.transpose.rows (Vec.scale a p).entries (sub one a) e
    (o.minIterations.getD (o.checkFreq.getD 1)).toNat (o.checkFreq.getD 1).toNat
    (if o.maxIterations.getD 0 = 0 then none else some (o.maxIterations.getD 0).toNat)
    o.flatTail (if o.numLeaders = 0 then c.major else o.numLeaders) fuel
    (initState (o.t0.getD p).entries)

/-- one more validation in front of a chain of validations -/
theorem ite_error_match {R : Type} (b : Prop) [Decidable b] (err : SErr) (o : Option SErr)
    (X : Except SErr R) :
    (match (if b then some err else o) with
      | some err => Except.error err
      | none => X) =
    if b then .error err else
      match o with
      | some err => .error err
      | none => X := by
  by_cases h : b
  · rw [if_pos h, if_pos h]
  · rw [if_neg h, if_neg h]

theorem compute_eq (fuel : Nat) (c : CSM α) (p : Vec α) (a e : α) (o : ComputeOpts α) :
    compute fuel c p a e o =
      match validate c p a e o with
      | some err => .error err
      | none =>
        match loopOf fuel c p a e o with
        | (s, by_) =>
          if by_ = .nonFinite then .error (.badParam "nonfinite")
          else .ok ⟨⟨c.major, s.t1⟩, s.iter, s.stats, s.checks.reverse, by_⟩ := by
  by_cases h1 : c.major = c.minor
  · have hd : c.dim = .ok c.major := by simp [CSM.dim, h1]
    have h1' : ¬ (c.major ≠ c.minor) := by simp [h1]
    unfold compute validate
    rw [hd, if_neg h1']
    dsimp only
    simp only [ite_error_match]
    rfl
  · simp [compute, validate, CSM.dim, h1]

/-- every validation of `Compute` passes -/
def ValidInput (c : CSM α) (p : Vec α) (a e : α) (o : ComputeOpts α) : Prop :=
  c.major = c.minor ∧ c.major ≠ 0 ∧ p.dim = c.major ∧
  (∀ t0, o.t0 = some t0 → t0.dim = c.major) ∧ (∀ d, o.resultDim = some d → d = c.major) ∧
  lt a zero = false ∧ lt one a = false ∧ le e zero = false ∧
  1 ≤ o.checkFreq.getD 1 ∧ 0 ≤ o.maxIterations.getD 0 ∧
  0 < o.minIterations.getD (o.checkFreq.getD 1)

namespace ValidInput
variable {c : CSM α} {p : Vec α} {a e : α} {o : ComputeOpts α} (hv : ValidInput c p a e o)
include hv

theorem square : c.major = c.minor := hv.1
theorem nonempty : c.major ≠ 0 := hv.2.1
theorem p_dim : p.dim = c.major := hv.2.2.1
theorem t0_dim : ∀ t0, o.t0 = some t0 → t0.dim = c.major := hv.2.2.2.1
theorem resultDim_eq : ∀ d, o.resultDim = some d → d = c.major := hv.2.2.2.2.1
theorem alpha_not_lt_zero : lt a zero = false := hv.2.2.2.2.2.1
theorem alpha_not_gt_one : lt one a = false := hv.2.2.2.2.2.2.1
theorem epsilon_not_le_zero : le e zero = false := hv.2.2.2.2.2.2.2.1
theorem checkFreq_pos : 1 ≤ o.checkFreq.getD 1 := hv.2.2.2.2.2.2.2.2.1
theorem maxIterations_nonneg : 0 ≤ o.maxIterations.getD 0 := hv.2.2.2.2.2.2.2.2.2.1
theorem minIterations_pos : 0 < o.minIterations.getD (o.checkFreq.getD 1) :=
  hv.2.2.2.2.2.2.2.2.2.2

end ValidInput

/-! the parameter validations read in an ordered field -/

section field
variable {K : Type} [Field K] [LinearOrder K] {c : CSM K} {p : Vec K} {a e : K}
  {o : ComputeOpts K} (hv : ValidInput c p a e o)
include hv

theorem ValidInput.alpha_nonneg : 0 ≤ a := not_lt.mp (of_decide_eq_false hv.alpha_not_lt_zero)
theorem ValidInput.alpha_le_one : a ≤ 1 := not_lt.mp (of_decide_eq_false hv.alpha_not_gt_one)
theorem ValidInput.epsilon_pos : 0 < e := not_le.mp (of_decide_eq_false hv.epsilon_not_le_zero)

end field

theorem validate_eq_none_iff (c : CSM α) (p : Vec α) (a e : α) (o : ComputeOpts α) :
    validate c p a e o = none ↔ ValidInput c p a e o := by
  unfold validate ValidInput
  simp only [ite_some_eq_none_iff, and_true, Bool.or_eq_true, not_or, Bool.not_eq_true,
    decide_eq_false_iff_not, not_not, and_assoc, not_lt, not_le]
  have ht : (match o.t0 with | some t0 => decide (t0.dim ≠ c.major) | none => false) = false ↔
      ∀ t0, o.t0 = some t0 → t0.dim = c.major := by
    cases o.t0 <;> simp
  have hd : (match o.resultDim with | some d => decide (d ≠ c.major) | none => false) = false ↔
      ∀ d, o.resultDim = some d → d = c.major := by
    cases o.resultDim <;> simp
  rw [ht, hd]

/-- an input that fails a validation is rejected with an error that does not depend on the
    fuel: no iteration is performed (in particular `compute 0 …` already returns it). -/
theorem compute_error_of_not_valid (c : CSM α) (p : Vec α) (a e : α) (o : ComputeOpts α)
    (h : ¬ ValidInput c p a e o) : ∃ err, ∀ fuel, compute fuel c p a e o = .error err := by
  cases hv : validate c p a e o with
  | none => exact absurd ((validate_eq_none_iff c p a e o).mp hv) h
  | some err => exact ⟨err, fun fuel => by rw [compute_eq, hv]⟩

theorem compute_of_valid (fuel : Nat) (c : CSM α) (p : Vec α) (a e : α) (o : ComputeOpts α)
    (h : ValidInput c p a e o) :
    compute fuel c p a e o =
      match loopOf fuel c p a e o with
      | (s, by_) =>
        if by_ = .nonFinite then .error (.badParam "nonfinite")
        else .ok ⟨⟨c.major, s.t1⟩, s.iter, s.stats, s.checks.reverse, by_⟩ := by
  rw [compute_eq, (validate_eq_none_iff c p a e o).mpr h]

theorem compute_ok_of_loop (fuel : Nat) (c : CSM α) (p : Vec α) (a e : α) (o : ComputeOpts α)
    (hv : ValidInput c p a e o) (s : LoopState α) (by_ : EndedBy)
    (hl : loopOf fuel c p a e o = (s, by_)) (hnf : by_ ≠ .nonFinite) :
    compute fuel c p a e o = .ok ⟨⟨c.major, s.t1⟩, s.iter, s.stats, s.checks.reverse, by_⟩ := by
  rw [compute_of_valid fuel c p a e o hv, hl]
  simp [hnf]

theorem compute_ok_inv (fuel : Nat) (c : CSM α) (p : Vec α) (a e : α) (o : ComputeOpts α)
    (r : ComputeResult α) (h : compute fuel c p a e o = .ok r) :
    ValidInput c p a e o ∧ r.endedBy ≠ .nonFinite ∧
      ∃ s, loopOf fuel c p a e o = (s, r.endedBy) ∧
        r = ⟨⟨c.major, s.t1⟩, s.iter, s.stats, s.checks.reverse, r.endedBy⟩ := by
  by_cases hv : ValidInput c p a e o
  · refine ⟨hv, ?_⟩
    rw [compute_of_valid fuel c p a e o hv] at h
    cases hl : loopOf fuel c p a e o with
    | mk s by_ =>
      rw [hl] at h
      by_cases hnf : by_ = .nonFinite
      · simp [hnf] at h
      · simp only [hnf, if_false] at h
        cases h
        exact ⟨hnf, s, rfl, rfl⟩
  · obtain ⟨err, herr⟩ := compute_error_of_not_valid c p a e o hv
    rw [herr fuel] at h
    cases h

/-! ### the flat-tail verdict in closed form -/

section flat
variable (ct : List (Row α)) (ap : List (Entry α)) (q : α) (minI freq : Nat) (nl : Nat)

theorem statsBefore_first (t0 : List (Entry α)) :
    statsBefore ct ap q minI freq nl t0 minI = FlatTailStats.init := by
  unfold statsBefore
  rw [sched_eq_nil (le_refl minI)]
  rfl

theorem statsBefore_ranking (t0 : List (Entry α)) (k : Nat) (hk : isCheck minI freq k = true) :
    (statsBefore ct ap q minI freq nl t0 (k + 1)).ranking
      = some (rankOf (iterate ct ap q k t0) nl) := by
  rw [statsBefore_succ, if_pos hk]
  exact FlatTailStats.update_ranking ..

theorem statsBefore_next_check (hf : 1 ≤ freq) (t0 : List (Entry α)) (i : Nat) :
    statsBefore ct ap q minI freq nl t0 (minI + (i + 1) * freq)
      = statsBefore ct ap q minI freq nl t0 (minI + i * freq + 1) := by
  unfold statsBefore
  rw [sched_next_check hf]

/-- At the `i`-th scheduled check (`k = minI + i·freq`) the statistics have `length ≥ L` iff
    there were at least `L` earlier checks and the rankings at the last `L+1` checks
    `k, k − freq, …, k − L·freq` are identical. -/
theorem flat_length_iff (hf : 1 ≤ freq) (t0 : List (Entry α)) :
    ∀ (L i : Nat),
      L ≤ (statsBefore ct ap q minI freq nl t0 (minI + i * freq + 1)).length ↔
        L ≤ i ∧ ∀ j, j ≤ L →
          rankOf (iterate ct ap q (minI + (i - j) * freq) t0) nl
            = rankOf (iterate ct ap q (minI + i * freq) t0) nl := by
  intro L
  induction L with
  | zero =>
    intro i
    simp only [Nat.zero_le, true_and, true_iff]
    intro j hj
    have : j = 0 := by omega
    subst this; rfl
  | succ L ih =>
    intro i
    have hck : ∀ i', isCheck minI freq (minI + i' * freq) = true :=
      fun i' => isCheck_iff.mpr ⟨i', rfl⟩
    cases i with
    | zero =>
      simp only [Nat.zero_mul, Nat.add_zero]
      rw [statsBefore_succ, if_pos (by simpa using hck 0), statsBefore_first]
      -- the first check compares with no ranking: `length` is 0
      exact ⟨fun h => absurd h (Nat.not_succ_le_zero L), fun h => absurd h.1 (Nat.not_succ_le_zero L)⟩
    | succ i =>
      rw [statsBefore_succ, if_pos (hck (i + 1)), statsBefore_next_check _ _ _ _ _ _ hf]
      have hr := statsBefore_ranking ct ap q minI freq nl t0 (minI + i * freq) (hck i)
      unfold FlatTailStats.update
      rw [hr]
      by_cases heq : rankOf (iterate ct ap q (minI + i * freq) t0) nl
          = rankOf (iterate ct ap q (minI + (i + 1) * freq) t0) nl
      · rw [if_pos (by rw [heq])]
        simp only [Nat.add_le_add_iff_right]
        rw [ih i]
        constructor
        · rintro ⟨h1, h2⟩
          refine ⟨h1, ?_⟩
          intro j hj
          cases j with
          | zero => rfl
          | succ j =>
            have := h2 j (by omega)
            have e : i + 1 - (j + 1) = i - j := Nat.add_sub_add_right i 1 j
            rw [e, this, heq]
        · rintro ⟨h1, h2⟩
          refine ⟨h1, ?_⟩
          intro j hj
          have := h2 (j + 1) (by omega)
          have e : i + 1 - (j + 1) = i - j := Nat.add_sub_add_right i 1 j
          rw [e] at this
          rw [this, heq]
      · rw [if_neg (by intro h; exact heq (Option.some.inj h))]
        exact ⟨fun h => absurd h (Nat.not_succ_le_zero L),
          fun h => absurd (h.2 1 (Nat.succ_le_succ (Nat.zero_le L))) heq⟩

end flat

end EtVerif
