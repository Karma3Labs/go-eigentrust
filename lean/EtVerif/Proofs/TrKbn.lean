/-
  Refinement of the translated KBNSummer.Add / KBNSummer.Sum / Vector.Sum (Gen/Translated.lean,
  regenerated from /repo) to the hand-written model (`KBN.push`, `KBN.result`, `Vec.sum`).
  The worked example of the recipe in the header of Proofs/TrBridge.lean: `KBNSummer_Add_refines` (shape of the
  statement; straight-line body), `KBNSummer_Add_ok` (the form callers use), `Vector_Sum_loop` (`range` loop),
  `Vector_Sum_refines` (main theorem from the loop lemma and a callee).
-/
import EtVerif.Proofs.TrBridge
namespace EtVerif.Tr
open EtVerif EtVerif.GoSem EtVerif.Gen Scalar
variable {α : Type} [Scalar α]

def ofGK (g : GKBNSummer α) : KBN α := ⟨g.sum, g.compensation⟩
@[simp] theorem toGK_ofGK (g : GKBNSummer α) : toGK (ofGK g) = g := rfl
@[simp] theorem ofGK_toGK (k : KBN α) : ofGK (toGK k) = k := rfl

theorem KBNSummer_Add_refines (k : KBN α) (x : α) :
    (KBNSummer_Add (toGK k) x).map (fun r => r.1.s) = .ok (toGK (k.push x)) := by
  cases h : lt (abs k.sum) (abs x) <;>
  simp [KBNSummer_Add, KBNSummer_Add.body, Stm.run, go_run, toGK, KBN.push, Except.map, h]

theorem KBNSummer_Add_ok (g : GKBNSummer α) (x : α) :
    ∃ st, KBNSummer_Add g x = .ok (st, ()) ∧ st.s = toGK ((ofGK g).push x) := by
  have h := KBNSummer_Add_refines (ofGK g) x
  simp only [toGK_ofGK] at h
  cases hr : KBNSummer_Add g x with
  | error e => rw [hr] at h; simp [Except.map] at h
  | ok r => rw [hr] at h; simp [Except.map] at h; exact ⟨r.1, rfl, h⟩

theorem KBNSummer_Sum_refines (k : KBN α) :
    (KBNSummer_Sum (toGK k)).map (fun r => r.2) = .ok k.result := by
  simp [KBNSummer_Sum, KBNSummer_Sum.body, Stm.run, go_run, toGK, KBN.result, Except.map]

theorem KBNSummer_Sum_ok (g : GKBNSummer α) :
    ∃ st, KBNSummer_Sum g = .ok (st, (ofGK g).result) := by
  simp [KBNSummer_Sum, KBNSummer_Sum.body, Stm.run, go_run, ofGK, KBN.result]

theorem Vector_Sum_loop (es : List (GEntry α)) :
    ∀ (i : Int) (s : Vector_Sum.St α),
      ∃ s', Stm.range 1 Vector_Sum.loop1_bind (Vector_Sum.loop1_body (α := α)) i es s = .ok (s', .next) ∧
        s'.summer = toGK ((es.map (·.Value)).foldl KBN.push (ofGK s.summer)) := by
  induction es with
  | nil => intro i s; exact ⟨s, rfl, by simp⟩
  | cons e es ih =>
    intro i s
    obtain ⟨st, h1, h2⟩ := KBNSummer_Add_ok s.summer e.Value
    obtain ⟨s', h3, h4⟩ := ih (i + 1) { s with e := e, summer := st.s }
    refine ⟨s', ?_, ?_⟩
    · rw [range_cons_next (s1 := { s with e := e, summer := st.s })]
      · exact h3
      · simp [Vector_Sum.loop1_body, Vector_Sum.loop1_bind, go_run, h1]
    · simp [h4, h2]

theorem Vector_Sum_refines (v : Vec α) :
    (Vector_Sum (toGV v)).map (fun r => r.2) = .ok v.sum := by
  obtain ⟨s', h1, h2⟩ := Vector_Sum_loop (toGs v.entries) 0
    { v := toGV v, summer := GKBNSummer.zero, e := GEntry.zero }
  obtain ⟨st, hst⟩ := KBNSummer_Sum_ok s'.summer
  simp only [toGK_zero] at h1
  simp only [Vector_Sum, Vector_Sum.body, Stm.run, go_run, Stm.rangeOver, Vector_Sum.loop1_xs, toGK_zero,
    toGV_Entries, h1, hst, Except.map]
  simp [h2, Vec.sum, kbnSum, toGs, Function.comp_def, ofGK, toGK, KBN.init, GKBNSummer.zero]
end EtVerif.Tr
