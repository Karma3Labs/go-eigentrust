/-
  Lemmas about the model `mergeSpan` of Go's `mergeSpan` (matrix.go; called by `Vector.Merge` and
  `CSMatrix.Merge`): membership, sortedness and the dense value of a last-writer-wins merge of two
  spans; and `takeWhile (·.idx < d)` on a sorted span, the model of the `sort.Search`
  crop in `Vector.SetDim` and `CSMatrix.SetMinorDim`.
-/
import EtVerif.Proofs.Vec

namespace EtVerif
open Scalar

variable {K : Type} [Field K] [LinearOrder K]

set_option linter.unusedSectionVars false

namespace Mg

/-! ### generic facts about `Sorted`, `WF`, `denE` -/

theorem sorted_nil : Sorted ([] : List (Entry K)) := Sorted.nil

theorem wf_nil (d : Nat) : WF d ([] : List (Entry K)) := WF.nil d

theorem sorted_cons {a : Entry K} {s : List (Entry K)} :
    Sorted (a :: s) ↔ (∀ e ∈ s, a.idx < e.idx) ∧ Sorted s := List.pairwise_cons

theorem wf_mono {d d' : Nat} {s : List (Entry K)} (h : WF d s) (hd : d ≤ d') : WF d' s :=
  ⟨h.1, fun e he => Nat.lt_of_lt_of_le (h.2 e he) hd⟩

theorem denE_of_mem {s : List (Entry K)} (hs : Sorted s) {e : Entry K} (he : e ∈ s) :
    denE s e.idx = e.val := EtVerif.denE_of_mem hs he

theorem denE_of_not_mem {s : List (Entry K)} {i : Nat} (h : ¬ ∃ e ∈ s, e.idx = i) :
    denE s i = 0 :=
  denE_eq_zero_of_forall_ne (fun e he hi => h ⟨e, he, hi⟩)

theorem denE_of_ge_dim {d : Nat} {s : List (Entry K)} (h : WF d s) {i : Nat} (hi : d ≤ i) :
    denE s i = 0 :=
  denE_eq_zero_of_ge h.2 hi

theorem sorted_ext {s t : List (Entry K)} (hs : Sorted s) (ht : Sorted t)
    (h : ∀ e, e ∈ s ↔ e ∈ t) : s = t := by
  have nd : ∀ {l : List (Entry K)}, Sorted l → l.Nodup := by
    intro l hl
    refine List.Pairwise.imp ?_ hl
    intro a b hab heq
    subst heq; omega
  have hp : s.Perm t := (List.perm_ext_iff_of_nodup (nd hs) (nd ht)).mpr h
  exact List.Perm.eq_of_pairwise (le := fun a b : Entry K => a.idx < b.idx)
    (fun a b _ _ h1 h2 => by omega) hs ht hp

/-! ### mergeSpan -/

section scalar
variable {α : Type} [Scalar α]

theorem mem_mergeSpan {s1 s2 : List (Entry α)} {e : Entry α} (h : e ∈ mergeSpan s1 s2) :
    e ∈ s1 ∨ e ∈ s2 := by
  fun_induction mergeSpan s1 s2 with
  | case1 s1 => exact Or.inl h
  | case2 s2 _ => exact Or.inr h
  | case3 a s1 b s2 _ ih =>
    rcases List.mem_cons.mp h with rfl | h
    · simp
    · rcases ih h with h | h
      · exact Or.inl (List.mem_cons_of_mem _ h)
      · exact Or.inr h
  | case4 a s1 b s2 _ _ _ ih =>
    rcases List.mem_cons.mp h with rfl | h
    · simp
    · rcases ih h with h | h
      · exact Or.inl h
      · exact Or.inr (List.mem_cons_of_mem _ h)
  | case5 a s1 b s2 _ _ _ ih =>
    rcases ih h with h | h
    · exact Or.inl h
    · exact Or.inr (List.mem_cons_of_mem _ h)
  | case6 a s1 b s2 _ _ _ ih =>
    rcases List.mem_cons.mp h with rfl | h
    · simp
    · rcases ih h with h | h
      · exact Or.inl (List.mem_cons_of_mem _ h)
      · exact Or.inr (List.mem_cons_of_mem _ h)
  | case7 a s1 b s2 _ _ _ ih =>
    rcases ih h with h | h
    · exact Or.inl (List.mem_cons_of_mem _ h)
    · exact Or.inr (List.mem_cons_of_mem _ h)

end scalar

theorem sorted_mergeSpan {s1 s2 : List (Entry K)} (h1 : Sorted s1) (h2 : Sorted s2) :
    Sorted (mergeSpan s1 s2) := by
  fun_induction mergeSpan s1 s2 with
  | case1 s1 => exact h1
  | case2 s2 _ => exact h2
  | case3 a s1 b s2 hab ih =>
    refine sorted_cons.mpr ⟨?_, ih h1.tail h2⟩
    intro e he
    rcases mem_mergeSpan he with he | he
    · exact h1.head_lt e he
    · rcases List.mem_cons.mp he with rfl | he
      · exact hab
      · have := h2.head_lt e he; omega
  | case4 a s1 b s2 _ hba _ ih =>
    refine sorted_cons.mpr ⟨?_, ih h1 h2.tail⟩
    intro e he
    rcases mem_mergeSpan he with he | he
    · rcases List.mem_cons.mp he with rfl | he
      · exact hba
      · have := h1.head_lt e he; omega
    · exact h2.head_lt e he
  | case5 a s1 b s2 _ _ _ ih => exact ih h1 h2.tail
  | case6 a s1 b s2 _ _ _ ih =>
    refine sorted_cons.mpr ⟨?_, ih h1.tail h2.tail⟩
    intro e he
    rcases mem_mergeSpan he with he | he
    · have := h1.head_lt e he; omega
    · exact h2.head_lt e he
  | case7 a s1 b s2 _ _ _ ih => exact ih h1.tail h2.tail

theorem wf_mergeSpan {d : Nat} {s1 s2 : List (Entry K)} (h1 : WF d s1) (h2 : WF d s2) :
    WF d (mergeSpan s1 s2) :=
  ⟨sorted_mergeSpan h1.1 h2.1, fun e he => by
    rcases mem_mergeSpan he with he | he
    · exact h1.2 e he
    · exact h2.2 e he⟩

private theorem not_ex_cons {b : Entry K} {s : List (Entry K)} {i : Nat} (hb : b.idx ≠ i) :
    (∃ e ∈ b :: s, e.idx = i) ↔ ∃ e ∈ s, e.idx = i :=
  ⟨fun ⟨e, he, hi⟩ => (List.mem_cons.mp he).elim (fun h => absurd (h ▸ hi) hb) fun h => ⟨e, h, hi⟩,
    fun ⟨e, he, hi⟩ => ⟨e, List.mem_cons_of_mem _ he, hi⟩⟩

private theorem not_ex_of_head_eq {b : Entry K} {s : List (Entry K)} (h : Sorted (b :: s)) :
    ¬ ∃ e ∈ s, e.idx = b.idx := by
  rintro ⟨e, he, hi⟩
  have := h.head_lt e he; omega

private theorem not_ex_of_lt_head {b : Entry K} {s : List (Entry K)} {i : Nat}
    (h : Sorted (b :: s)) (hi : i < b.idx) : ¬ ∃ e ∈ b :: s, e.idx = i := by
  rintro ⟨e, he, hi'⟩
  rcases List.mem_cons.mp he with rfl | he
  · omega
  · have := h.head_lt e he; omega

/-- "the update wins where it stores an entry", peeled by one entry of the update -/
private theorem ite_ex_cons {b : Entry K} {s : List (Entry K)} (h : Sorted (b :: s)) (i : Nat)
    (x : K) :
    (if ∃ e ∈ b :: s, e.idx = i then denE (b :: s) i else x) =
      if b.idx = i then b.val else if ∃ e ∈ s, e.idx = i then denE s i else x := by
  by_cases hbi : b.idx = i
  · rw [if_pos ⟨b, List.mem_cons_self, hbi⟩, if_pos hbi, denE_cons, if_pos hbi,
      denE_tail_of_le_head h (Nat.le_of_eq hbi.symm), add_zero]
  · rw [if_neg hbi, denE_cons, if_neg hbi]
    simp only [not_ex_cons hbi]

/-- Last writer wins: the update `s2` decides the dense value wherever it stores an entry, a
    stored zero included (the Go loop drops such a zero, or keeps it once `s1` is exhausted; the
    dense value is `0` either way). -/
theorem den_mergeSpan {s1 s2 : List (Entry K)} (h1 : Sorted s1) (h2 : Sorted s2) (i : Nat) :
    denE (mergeSpan s1 s2) i = if ∃ e ∈ s2, e.idx = i then denE s2 i else denE s1 i := by
  fun_induction mergeSpan s1 s2 with
  | case1 s1 => simp
  | case2 s2 _ =>
    by_cases h : ∃ e ∈ s2, e.idx = i
    · rw [if_pos h]
    · rw [if_neg h, denE_of_not_mem h]; rfl
  | case3 a s1 b s2 hab ih =>
    rw [denE_cons a, ih h1.tail h2]
    by_cases hai : a.idx = i
    · have hn : ¬ ∃ e ∈ b :: s2, e.idx = i := not_ex_of_lt_head h2 (by omega)
      rw [if_pos hai, if_neg hn, if_neg hn, denE_cons a, if_pos hai]
    · rw [if_neg hai, denE_cons a, if_neg hai]
  | case4 a s1 b s2 _ hba _ ih =>
    rw [ite_ex_cons h2, denE_cons b, ih h1 h2.tail]
    by_cases hbi : b.idx = i
    · rw [if_pos hbi, if_pos hbi, if_neg (hbi ▸ not_ex_of_head_eq h2),
        denE_of_lt_head h1 (by omega), add_zero]
    · rw [if_neg hbi, if_neg hbi]
  | case5 a s1 b s2 _ hba hz ih =>
    have hz : b.val = 0 := by simpa using hz
    rw [ite_ex_cons h2, ih h1 h2.tail]
    by_cases hbi : b.idx = i
    · rw [if_pos hbi, if_neg (hbi ▸ not_ex_of_head_eq h2), denE_of_lt_head h1 (by omega), hz]
    · rw [if_neg hbi]
  | case6 a s1 b s2 hab hba _ ih =>
    rw [ite_ex_cons h2, denE_cons b, ih h1.tail h2.tail]
    by_cases hbi : b.idx = i
    · rw [if_pos hbi, if_pos hbi, if_neg (hbi ▸ not_ex_of_head_eq h2),
        denE_tail_of_le_head h1 (by omega), add_zero]
    · have hai : a.idx ≠ i := by omega
      rw [if_neg hbi, if_neg hbi, denE_cons a, if_neg hai]
  | case7 a s1 b s2 hab hba hz ih =>
    have hz : b.val = 0 := by simpa using hz
    rw [ite_ex_cons h2, ih h1.tail h2.tail]
    by_cases hbi : b.idx = i
    · rw [if_pos hbi, if_neg (hbi ▸ not_ex_of_head_eq h2), denE_tail_of_le_head h1 (by omega), hz]
    · have hai : a.idx ≠ i := by omega
      rw [if_neg hbi, denE_cons a, if_neg hai]

/-! ### takeWhile on a sorted span = crop -/

theorem takeWhile_of_all {d : Nat} {s : List (Entry K)} (h : ∀ e ∈ s, e.idx < d) :
    s.takeWhile (·.idx < d) = s := by
  induction s with
  | nil => rfl
  | cons a s ih =>
    have ha : a.idx < d := h a (by simp)
    simp [ha, ih (fun e he => h e (by simp [he]))]

theorem idx_lt_of_mem_takeWhile {d : Nat} {s : List (Entry K)} {e : Entry K}
    (he : e ∈ s.takeWhile (·.idx < d)) : e.idx < d := by
  induction s with
  | nil => simp at he
  | cons a s ih =>
    by_cases ha : a.idx < d
    · rw [List.takeWhile_cons_of_pos (by simpa using ha)] at he
      rcases List.mem_cons.mp he with rfl | he
      · exact ha
      · exact ih he
    · rw [List.takeWhile_cons_of_neg (by simpa using ha)] at he
      simp at he

theorem wf_takeWhile {d : Nat} {s : List (Entry K)} (h : Sorted s) :
    WF d (s.takeWhile (·.idx < d)) :=
  ⟨List.Pairwise.sublist (List.takeWhile_sublist _) h, fun _ he => idx_lt_of_mem_takeWhile he⟩

theorem den_takeWhile {d : Nat} {s : List (Entry K)} (h : Sorted s) (i : Nat) :
    denE (s.takeWhile (·.idx < d)) i = if i < d then denE s i else 0 := by
  induction s with
  | nil => simp
  | cons a s ih =>
    have ih := ih h.tail
    by_cases ha : a.idx < d
    · rw [List.takeWhile_cons_of_pos (by simpa using ha), denE_cons, ih, denE_cons]
      by_cases hai : a.idx = i
      · have : i < d := by omega
        simp [hai, this]
      · simp only [if_neg hai]
    · rw [List.takeWhile_cons_of_neg (by simpa using ha)]
      by_cases hi : i < d
      · rw [if_pos hi, denE_of_lt_head h (by omega)]; rfl
      · rw [if_neg hi]; rfl

end Mg

end EtVerif
