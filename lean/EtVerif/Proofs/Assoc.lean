/-
  Association lists keyed by strings, as both servers keep their objects: a key is looked up with
  `find? (·.1 == id)`, set by consing onto the list filtered of that key, erased by the filter.
  `Oapi.Store.get?/set/erase` and `Grpc.lookup/store/erase` unfold to these terms, so the lemmas
  are stated on plain lists and apply to both.
-/
import Mathlib.Data.List.Find

namespace EtVerif.Assoc

variable {β : Type}

/-- looking up `id'` after erasing `id` -/
theorem find_filter (l : List (String × β)) (id id' : String) :
    ((l.filter (·.1 != id)).find? (·.1 == id')).map (·.2) =
      if id' = id then none else (l.find? (·.1 == id')).map (·.2) := by
  rw [List.find?_filter]
  split
  · rename_i h
    rw [Option.map_eq_none_iff, List.find?_eq_none]
    intro x _
    simp [h]
  · rename_i h
    congr 1
    refine List.find?_congr fun a _ => ?_
    by_cases ha : a.1 = id' <;> simp [ha, h]

/-- looking up `id'` after setting `id` to `b` -/
theorem find_cons_filter (l : List (String × β)) (id id' : String) (b : β) :
    (((id, b) :: l.filter (·.1 != id)).find? (·.1 == id')).map (·.2) =
      if id' = id then some b else (l.find? (·.1 == id')).map (·.2) := by
  by_cases h : id' = id
  · rw [if_pos h, List.find?_cons_of_pos (by simp [h])]
    rfl
  · rw [if_neg h, List.find?_cons_of_neg (by simpa using fun h' => h h'.symm)]
    exact (find_filter l id id').trans (if_neg h)

theorem mem_of_find {l : List (String × β)} {id : String} {b : β}
    (h : (l.find? (·.1 == id)).map (·.2) = some b) : (id, b) ∈ l := by
  obtain ⟨⟨a, b'⟩, hf, rfl⟩ := Option.map_eq_some_iff.mp h
  have ha : (a == id) = true := List.find?_some (p := fun x : String × β => x.1 == id) hf
  obtain rfl : a = id := beq_iff_eq.mp ha
  exact List.mem_of_find?_eq_some hf

/-- setting a key adds that pair and nothing else -/
theorem mem_cons_filter {l : List (String × β)} {id : String} {b : β} {p : String × β}
    (h : p ∈ (id, b) :: l.filter (·.1 != id)) : p = (id, b) ∨ p ∈ l :=
  (List.mem_cons.mp h).imp_right fun h => (List.mem_filter.mp h).1

end EtVerif.Assoc
