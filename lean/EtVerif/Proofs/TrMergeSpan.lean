/-
  Refinement of the translated `mergeSpan` (Gen/Translated.lean, index based two-pointer merge
  with the `more1`/`more2` flags recomputed by the inlined closure) to the model's `mergeSpan`.
-/
import EtVerif.Proofs.TrBridge
namespace EtVerif.Tr
open EtVerif EtVerif.GoSem EtVerif.Gen Scalar
variable {α : Type} [Scalar α]

theorem mergeSpan_nil_right (l : List (Entry α)) : EtVerif.mergeSpan l [] = l := by
  rw [EtVerif.mergeSpan]

theorem mergeSpan_nil_left (l : List (Entry α)) : EtVerif.mergeSpan [] l = l := by
  cases l <;> simp [EtVerif.mergeSpan]

/-- the loop state determined by the two cursors (flags as the closure computes them). -/
def msSt (a0 b0 : List (Entry α)) (acc : List (GEntry α)) (k1 k2 : Nat) (x1 x2 : Int) :
    Gen.mergeSpan.St α :=
  { s1 := toGs a0, s2 := toGs b0, s := acc, i1 := (k1 : Int), i2 := (k2 : Int),
    more1 := decide (k1 < a0.length), more2 := decide (k2 < b0.length), index1 := x1, index2 := x2 }

/-- one iteration = body, then the post statement (which recomputes the flags). The last conjunct: what was
    appended to `acc` is what the model's merge of the remaining spans emits first. -/
theorem mergeSpan_step (fuel : Nat) (a0 b0 : List (Entry α)) (k1 k2 : Nat) (acc : List (GEntry α))
    (x1 x2 : Int) (h1 : k1 ≤ a0.length) (h2 : k2 ≤ b0.length) (hne : k1 < a0.length ∨ k2 < b0.length) :
    ∃ k1' k2' acc' x1' x2',
      Stm.seq (Gen.mergeSpan.loop2_body fuel) (Gen.mergeSpan.loop2_post fuel) (msSt a0 b0 acc k1 k2 x1 x2) =
        .ok (msSt a0 b0 acc' k1' k2' x1' x2', .next) ∧
      k1' ≤ a0.length ∧ k2' ≤ b0.length ∧ k1 + k2 < k1' + k2' ∧
      acc' ++ toGs (EtVerif.mergeSpan (a0.drop k1') (b0.drop k2')) =
        acc ++ toGs (EtVerif.mergeSpan (a0.drop k1) (b0.drop k2)) := by
  have hi1 : ((k1 : Int) + 1 < (a0.length : Int)) = (k1 + 1 < a0.length) := by
    simp only [eq_iff_iff]
    omega
  have hi2 : ((k2 : Int) + 1 < (b0.length : Int)) = (k2 + 1 < b0.length) := by
    simp only [eq_iff_iff]
    omega
  by_cases m2 : k2 < b0.length
  · have gb := goIdx_toGs b0 k2 m2
    by_cases m1 : k1 < a0.length
    · have ga := goIdx_toGs a0 k1 m1
      rw [List.drop_eq_getElem_cons m1, List.drop_eq_getElem_cons m2, EtVerif.mergeSpan]
      by_cases c1 : a0[k1].idx < b0[k2].idx
      · refine ⟨k1 + 1, k2, acc ++ [toG a0[k1]], a0[k1].idx, b0[k2].idx, ?_, m1, h2, by omega, ?_⟩
        · simp [Gen.mergeSpan.loop2_body, Gen.mergeSpan.loop2_post, go_run, msSt, m1, m2, ga, gb, c1, hi1]
        · rw [List.drop_eq_getElem_cons m2]
          simp [c1]
      · by_cases c2 : b0[k2].idx < a0[k1].idx
        · -- the update's entry comes first: taken unless zero
          cases hz : Scalar.eq b0[k2].val (Scalar.zero : α)
          · refine ⟨k1, k2 + 1, acc ++ [toG b0[k2]], a0[k1].idx, b0[k2].idx, ?_, h1, m2, by omega, ?_⟩
            · simp [Gen.mergeSpan.loop2_body, Gen.mergeSpan.loop2_post, go_run, msSt, m1, m2, ga, gb, c1, c2,
                hz, hi2]
            · rw [List.drop_eq_getElem_cons m1]
              simp [c1, c2, isZero, hz]
          · refine ⟨k1, k2 + 1, acc, a0[k1].idx, b0[k2].idx, ?_, h1, m2, by omega, ?_⟩
            · simp [Gen.mergeSpan.loop2_body, Gen.mergeSpan.loop2_post, go_run, msSt, m1, m2, ga, gb, c1, c2,
                hz, hi2]
            · rw [List.drop_eq_getElem_cons m1]
              simp [c1, c2, isZero, hz]
        · -- equal indices: the update's entry wins, a zero deletes
          cases hz : Scalar.eq b0[k2].val (Scalar.zero : α)
          · refine ⟨k1 + 1, k2 + 1, acc ++ [toG b0[k2]], a0[k1].idx, b0[k2].idx, ?_, m1, m2, by omega, ?_⟩
            · simp [Gen.mergeSpan.loop2_body, Gen.mergeSpan.loop2_post, go_run, msSt, m1, m2, ga, gb, c1, c2,
                hz, hi1, hi2]
            · simp [c1, c2, isZero, hz]
          · refine ⟨k1 + 1, k2 + 1, acc, a0[k1].idx, b0[k2].idx, ?_, m1, m2, by omega, ?_⟩
            · simp [Gen.mergeSpan.loop2_body, Gen.mergeSpan.loop2_post, go_run, msSt, m1, m2, ga, gb, c1, c2,
                hz, hi1, hi2]
            · simp [c1, c2, isZero, hz]
    · -- only the update has entries left: copied as they are (zeros included)
      refine ⟨k1, k2 + 1, acc ++ [toG b0[k2]], x1, x2, ?_, h1, m2, by omega, ?_⟩
      · simp [Gen.mergeSpan.loop2_body, Gen.mergeSpan.loop2_post, go_run, msSt, m1, m2, gb, hi2]
      · rw [List.drop_eq_getElem_cons m2, List.drop_eq_nil_of_le (Nat.not_lt.mp m1), mergeSpan_nil_left,
          mergeSpan_nil_left]
        simp only [List.append_assoc, List.cons_append, List.nil_append, toGs_cons]
  · have m1 : k1 < a0.length := hne.resolve_right m2
    have ga := goIdx_toGs a0 k1 m1
    refine ⟨k1 + 1, k2, acc ++ [toG a0[k1]], x1, x2, ?_, m1, h2, by omega, ?_⟩
    · simp [Gen.mergeSpan.loop2_body, Gen.mergeSpan.loop2_post, go_run, msSt, m1, m2, ga, hi1]
    · rw [List.drop_eq_getElem_cons m1, List.drop_eq_nil_of_le (Nat.not_lt.mp m2), mergeSpan_nil_right,
        mergeSpan_nil_right]
      simp only [List.append_assoc, List.cons_append, List.nil_append, toGs_cons]

theorem mergeSpan_loop (fuel : Nat) (a0 b0 : List (Entry α)) (n : Nat) (acc : List (GEntry α)) (x1 x2 : Int)
    (hn : a0.length + b0.length ≤ n) :
    ∃ s', Stm.loop 2 (Gen.mergeSpan.loop2_cond fuel) (Gen.mergeSpan.loop2_body fuel)
            (Gen.mergeSpan.loop2_post fuel) n (msSt a0 b0 acc 0 0 x1 x2) = .ok (s', .next) ∧
      s'.s = acc ++ toGs (EtVerif.mergeSpan a0 b0) := by
  obtain ⟨s', _, hl, ⟨k1, k2, acc', y1, y2, rfl, f1, f2, f3, _⟩, hc⟩ := loop_inv (l := 2)
    (cond := Gen.mergeSpan.loop2_cond fuel) (body := Gen.mergeSpan.loop2_body fuel)
    (post := Gen.mergeSpan.loop2_post fuel)
    (fun m t => ∃ k1 k2 acc' y1 y2, t = msSt a0 b0 acc' k1 k2 y1 y2 ∧ k1 ≤ a0.length ∧ k2 ≤ b0.length ∧
      acc' ++ toGs (EtVerif.mergeSpan (a0.drop k1) (b0.drop k2)) = acc ++ toGs (EtVerif.mergeSpan a0 b0) ∧
      a0.length + b0.length ≤ m + k1 + k2)
    (fun m t ⟨k1, k2, acc', y1, y2, ht, f1, f2, f3, f4⟩ => by
      subst ht
      have hcond : Gen.mergeSpan.loop2_cond fuel (msSt a0 b0 acc' k1 k2 y1 y2) =
          .ok (decide (k1 < a0.length ∨ k2 < b0.length)) := by
        simp [Gen.mergeSpan.loop2_cond, msSt, pure, Except.pure]
      rw [hcond]
      by_cases hne : k1 < a0.length ∨ k2 < b0.length
      · obtain ⟨k1', k2', acc'', z1, z2, g0, g1, g2, g3, g4⟩ :=
          mergeSpan_step fuel a0 b0 k1 k2 acc' y1 y2 f1 f2 hne
        cases m with
        | zero => omega
        | succ m =>
          exact Or.inr ⟨_, m, by rw [decide_eq_true hne], g0,
            ⟨k1', k2', acc'', z1, z2, rfl, g1, g2, g4.trans f3, by omega⟩, Nat.lt_succ_self m⟩
      · exact Or.inl (by rw [decide_eq_false hne]))
    n n (msSt a0 b0 acc 0 0 x1 x2) ⟨0, 0, acc, x1, x2, rfl, Nat.zero_le _, Nat.zero_le _, rfl, hn⟩ (Nat.le_refl n)
  refine ⟨_, hl, ?_⟩
  have hcond : Gen.mergeSpan.loop2_cond fuel (msSt a0 b0 acc' k1 k2 y1 y2) =
      .ok (decide (k1 < a0.length ∨ k2 < b0.length)) := by
    simp [Gen.mergeSpan.loop2_cond, msSt, pure, Except.pure]
  rw [hcond] at hc
  have hne := of_decide_eq_false (Except.ok.inj hc)
  rw [List.drop_eq_nil_of_le (Nat.not_lt.mp fun h => hne (Or.inl h)),
    List.drop_eq_nil_of_le (Nat.not_lt.mp fun h => hne (Or.inr h)), mergeSpan_nil_right, toGs_nil,
    List.append_nil] at f3
  exact f3

/-- Go `mergeSpan` computes exactly the model's `mergeSpan`, for every pair of entry lists (sorted or not)
    and every fuel ≥ the total number of entries. -/
theorem mergeSpan_refines (fuel : Nat) (s1 s2 : List (Entry α)) (hf : s1.length + s2.length ≤ fuel) :
    (Gen.mergeSpan fuel (toGs s1) (toGs s2)).map (fun r => r.2) = .ok (toGs (EtVerif.mergeSpan s1 s2)) := by
  cases s1 with
  | nil =>
    cases s2 with
    | nil =>
      simp [Gen.mergeSpan, Gen.mergeSpan.body, Stm.run, go_run, Except.map, mergeSpan_nil_right]
    | cons b l2 =>
      have hb : ¬ ((l2.length : Int) + 1 = 0) := by omega
      simp [Gen.mergeSpan, Gen.mergeSpan.body, Stm.run, go_run, Except.map, mergeSpan_nil_left, hb]
  | cons a l1 =>
    cases s2 with
    | nil =>
      have ha : ¬ ((l1.length : Int) + 1 = 0) := by omega
      simp [Gen.mergeSpan, Gen.mergeSpan.body, Stm.run, go_run, Except.map, mergeSpan_nil_right, ha]
    | cons b l2 =>
      have ha : ¬ ((l1.length : Int) + 1 = 0) := by omega
      have hb : ¬ ((l2.length : Int) + 1 = 0) := by omega
      obtain ⟨s', h1, h2⟩ := mergeSpan_loop fuel (a :: l1) (b :: l2) fuel [] 0 0 hf
      simp [msSt] at h1 h2
      simp [Gen.mergeSpan, Gen.mergeSpan.body, Stm.run, go_run, Except.map, ha, hb, h1, h2]
end EtVerif.Tr
