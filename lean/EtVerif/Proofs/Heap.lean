/-
  An explicit heap model for property C14 ("a compute that references stored local trust leaves
  every stored matrix exactly as it was").

  The pure model (Model/*.lean) treats every slice as a value, so it cannot express that an
  in-place mutation of the working matrix would also change the STORED matrix if the two shared
  memory.  Here entry slices live in a heap of cells; a matrix is a table of row references; the
  Go mutations (`Canonicalize`: `entries[i].Value /= s`; `ExtractDistrust`: `trustRow[i-k] = entry`;
  `SetRowVector`: `m.Entries[i] = vector.Entries`; `SetMajorDim`/`SetMinorDim`: reslicing) are
  modelled as heap writes / reference updates.

  * `Heap α`      — `cells[a]` is the backing array of entry-slice address `a`.
  * `RowRef`      — `nil` or the slice `cells[addr][0:len]`.
  * `MatRef`      — dimensions + row table (+ the hidden capacity of the row table, as in
                    `CSM.hidden`).  The outer `[][]Entry` table is by-value in this model; what a
                    copy shares is chosen by `CopyMode` (`deep`: fresh cell per row, as
                    `deepcopy.Copy` in loadStoredTrustMatrix; `shallow`: same row references).
  * `value h m`   — the `CSM α` denoted.

  Core + a few Mathlib list lemmas (which is why this model sits under Proofs/ and not with the
  Mathlib-free Model/ files); generic in `{α} [Scalar α]`.  The namespace `EtVerif.C14b` holds
  the heap model and its lemmas here and the property theorems of Props/C14b.lean.
-/
import EtVerif.Model.Basic
import Mathlib.Data.List.Basic
import Mathlib.Data.List.Nodup

namespace EtVerif.C14b
open EtVerif Scalar

/-! ## The heap and references into it -/

structure Heap (α : Type) where
  cells : List (List (Entry α))

/-- a Go `[]Entry` value: `nil`, or the slice `cells[addr][0:len]` -/
inductive RowRef where
  | nil
  | slice (addr len : Nat)
deriving Repr, DecidableEq, Inhabited

/-- a `sparse.CSMatrix` as the Go struct holds it: dimensions and the row table `Entries`
    (`rows` = `Entries[0:len]`, `hidden` = `Entries[len:cap]`). -/
structure MatRef where
  major : Nat
  minor : Nat
  rows : List RowRef
  hidden : List RowRef := []
deriving Repr, DecidableEq, Inhabited

/-- a `sparse.Vector`: dimension and its `Entries` slice -/
structure VecRef where
  dim : Nat
  row : RowRef
deriving Repr, DecidableEq, Inhabited

def RowRef.addr? : RowRef → Option Nat
  | .nil => none
  | .slice a _ => some a

def addrsOf (rs : List RowRef) : List Nat := rs.filterMap RowRef.addr?

def MatRef.addrs (m : MatRef) : List Nat := addrsOf (m.rows ++ m.hidden)

variable {α : Type}

/-- the content of cell `a` (`[]` when unallocated) -/
def Heap.cell (h : Heap α) (a : Nat) : List (Entry α) := (h.cells[a]?).getD []

/-- overwrite the whole backing array at `a` (no effect when `a` is unallocated) -/
def Heap.write (h : Heap α) (a : Nat) (c : List (Entry α)) : Heap α := ⟨h.cells.set a c⟩

def alloc (h : Heap α) (c : List (Entry α)) : Heap α × Nat := (⟨h.cells ++ [c]⟩, h.cells.length)

def deref (h : Heap α) : RowRef → List (Entry α)
  | .nil => []
  | .slice a l => (h.cell a).take l

def value (h : Heap α) (m : MatRef) : CSM α :=
  ⟨m.major, m.minor, m.rows.map (deref h), m.hidden.map (deref h)⟩

def vecValue (h : Heap α) (p : VecRef) : Vec α := ⟨p.dim, deref h p.row⟩

/-! ## Well-formedness -/

def RowRef.InRange (h : Heap α) (r : RowRef) : Prop := ∀ a ∈ r.addr?, a < h.cells.length

def RowsInRange (h : Heap α) (rs : List RowRef) : Prop := ∀ a ∈ addrsOf rs, a < h.cells.length

def MatRef.InRange (h : Heap α) (m : MatRef) : Prop := ∀ a ∈ m.addrs, a < h.cells.length

/-- distinct rows of the row table (visible or hidden: `SetMajorDim` can re-expose hidden rows)
    do not share a cell. -/
def MatRef.Sep (m : MatRef) : Prop := m.addrs.Nodup

instance (h : Heap α) (r : RowRef) : Decidable (r.InRange h) := by
  unfold RowRef.InRange; infer_instance
instance (h : Heap α) (rs : List RowRef) : Decidable (RowsInRange h rs) := by
  unfold RowsInRange; infer_instance
instance (h : Heap α) (m : MatRef) : Decidable (m.InRange h) := by
  unfold MatRef.InRange; infer_instance
instance (m : MatRef) : Decidable m.Sep := by
  unfold MatRef.Sep; infer_instance

/-! ## Framing: which cells an operation may have written -/

/-- `h'` arises from `h` by writing only cells whose address is in `S` and by allocating:
    every other cell that existed in `h` is unchanged. -/
def Frame (S : List Nat) (h h' : Heap α) : Prop :=
  h.cells.length ≤ h'.cells.length ∧
  ∀ a, a < h.cells.length → a ∉ S → h'.cells[a]? = h.cells[a]?

theorem Frame.refl (S : List Nat) (h : Heap α) : Frame S h h := ⟨Nat.le_refl _, fun _ _ _ => rfl⟩

theorem Frame.mono {S S' : List Nat} {h h' : Heap α} (f : Frame S h h') (hs : ∀ a ∈ S, a ∈ S') :
    Frame S' h h' :=
  ⟨f.1, fun a ha hn => f.2 a ha (fun hm => hn (hs a hm))⟩

/-- sequencing: the second operation may write what the first might, and whatever was allocated
    since `h` -/
theorem Frame.trans {S S' : List Nat} {h h' h'' : Heap α} (f : Frame S h h') (g : Frame S' h' h'')
    (hs : ∀ a ∈ S', a ∈ S ∨ h.cells.length ≤ a) : Frame S h h'' := by
  refine ⟨Nat.le_trans f.1 g.1, fun a ha hn => ?_⟩
  rw [g.2 a (Nat.lt_of_lt_of_le ha f.1) fun hm => (hs a hm).elim hn (Nat.not_le_of_lt ha),
    f.2 a ha hn]

theorem frame_write (h : Heap α) (a : Nat) (c : List (Entry α)) : Frame [a] h (h.write a c) :=
  ⟨Nat.le_of_eq List.length_set.symm,
    fun _ _ hn => List.getElem?_set_ne fun e => hn (List.mem_singleton.mpr e.symm)⟩

theorem frame_alloc (h : Heap α) (c : List (Entry α)) : Frame [] h (alloc h c).1 :=
  ⟨by simp [alloc], fun _ hb _ => List.getElem?_append_left hb⟩

@[simp] theorem write_length (h : Heap α) (a : Nat) (c : List (Entry α)) :
    (h.write a c).cells.length = h.cells.length := List.length_set

@[simp] theorem alloc_length (h : Heap α) (c : List (Entry α)) :
    (alloc h c).1.cells.length = h.cells.length + 1 := List.length_append

@[simp] theorem alloc_addr (h : Heap α) (c : List (Entry α)) : (alloc h c).2 = h.cells.length := rfl

theorem cell_write_self {h : Heap α} {a : Nat} (ha : a < h.cells.length) (c : List (Entry α)) :
    (h.write a c).cell a = c := by
  simp [Heap.cell, Heap.write, ha]

theorem cell_alloc_self (h : Heap α) (c : List (Entry α)) :
    (alloc h c).1.cell h.cells.length = c := by
  simp [Heap.cell, alloc]

theorem cell_of_not_lt {h : Heap α} {a : Nat} (ha : ¬ a < h.cells.length) : h.cell a = [] := by
  simp [Heap.cell, List.getElem?_eq_none (Nat.le_of_not_lt ha)]

theorem write_of_not_lt {h : Heap α} {a : Nat} (ha : ¬ a < h.cells.length) (c : List (Entry α)) :
    h.write a c = h := by
  simp [Heap.write, List.set_eq_of_length_le (Nat.le_of_not_lt ha)]

theorem mem_addrsOf {rs : List RowRef} {a : Nat} :
    a ∈ addrsOf rs ↔ ∃ r ∈ rs, r.addr? = some a := by
  simp [addrsOf, List.mem_filterMap]

theorem deref_congr {h h' : Heap α} {r : RowRef}
    (hc : ∀ a ∈ r.addr?, h'.cells[a]? = h.cells[a]?) : deref h' r = deref h r := by
  cases r with
  | nil => rfl
  | slice a l => simp only [deref, Heap.cell, hc a rfl]

theorem map_deref_congr {h h' : Heap α} {rs : List RowRef}
    (hc : ∀ a ∈ addrsOf rs, h'.cells[a]? = h.cells[a]?) : rs.map (deref h') = rs.map (deref h) :=
  List.map_congr_left fun r hr => deref_congr fun a ha => hc a (mem_addrsOf.mpr ⟨r, hr, ha⟩)

@[simp] theorem addrsOf_nil : addrsOf [] = [] := rfl
@[simp] theorem addrsOf_cons_nil (rs : List RowRef) : addrsOf (.nil :: rs) = addrsOf rs := rfl
@[simp] theorem addrsOf_cons_slice (a l : Nat) (rs : List RowRef) :
    addrsOf (.slice a l :: rs) = a :: addrsOf rs := rfl
@[simp] theorem addrsOf_append (rs rs' : List RowRef) :
    addrsOf (rs ++ rs') = addrsOf rs ++ addrsOf rs' := List.filterMap_append

theorem addrsOf_cons (r : RowRef) (rs : List RowRef) :
    addrsOf (r :: rs) = r.addr?.toList ++ addrsOf rs := by
  cases r <;> rfl

theorem mem_addrs {m : MatRef} {a : Nat} :
    a ∈ m.addrs ↔ a ∈ addrsOf m.rows ∨ a ∈ addrsOf m.hidden := by
  rw [MatRef.addrs, addrsOf_append, List.mem_append]

theorem addrsOf_rows_subset (m : MatRef) : ∀ a ∈ addrsOf m.rows, a ∈ m.addrs :=
  fun _ ha => mem_addrs.mpr (.inl ha)

theorem addrsOf_hidden_subset (m : MatRef) : ∀ a ∈ addrsOf m.hidden, a ∈ m.addrs :=
  fun _ ha => mem_addrs.mpr (.inr ha)

theorem value_of_cells_eq {h h' : Heap α} {m : MatRef}
    (hc : ∀ a ∈ m.addrs, h'.cells[a]? = h.cells[a]?) : value h' m = value h m := by
  simp only [value, CSM.mk.injEq, true_and]
  exact ⟨map_deref_congr fun a ha => hc a (addrsOf_rows_subset m a ha),
    map_deref_congr fun a ha => hc a (addrsOf_hidden_subset m a ha)⟩

/-- an address outside `S` that was allocated in `h`, or is allocated in neither heap, holds the
    same cell -/
theorem Frame.getElem?_eq {S : List Nat} {h h' : Heap α} (f : Frame S h h') {a : Nat} (hn : a ∉ S)
    (ha : a < h.cells.length ∨ h'.cells.length ≤ a) : h'.cells[a]? = h.cells[a]? := by
  rcases ha with ha | ha
  · exact f.2 a ha hn
  · rw [List.getElem?_eq_none ha, List.getElem?_eq_none (Nat.le_trans f.1 ha)]

theorem Frame.deref_eq {S : List Nat} {h h' : Heap α} (f : Frame S h h') {r : RowRef}
    (hn : ∀ a ∈ r.addr?, a ∉ S ∧ (a < h.cells.length ∨ h'.cells.length ≤ a)) :
    deref h' r = deref h r :=
  deref_congr fun a ha => f.getElem?_eq (hn a ha).1 (hn a ha).2

theorem Frame.map_deref_eq {S : List Nat} {h h' : Heap α} (f : Frame S h h') {rs : List RowRef}
    (hn : ∀ a ∈ addrsOf rs, a ∉ S ∧ (a < h.cells.length ∨ h'.cells.length ≤ a)) :
    rs.map (deref h') = rs.map (deref h) :=
  map_deref_congr fun a ha => f.getElem?_eq (hn a ha).1 (hn a ha).2

theorem value_frame {S : List Nat} {h h' : Heap α} (f : Frame S h h') {m : MatRef}
    (hin : m.InRange h) (hn : ∀ a ∈ m.addrs, a ∉ S) : value h' m = value h m :=
  value_of_cells_eq fun a ha => f.2 a (hin a ha) (hn a ha)

theorem map_vecValue_congr {h h' : Heap α} {p : Option VecRef}
    (hc : ∀ pv ∈ p, deref h' pv.row = deref h pv.row) : p.map (vecValue h') = p.map (vecValue h) := by
  cases p with
  | none => rfl
  | some pv => exact congrArg (fun es => some (Vec.mk pv.dim es)) (hc pv rfl)

theorem Frame.below {S : List Nat} {h h' : Heap α} (f : Frame S h h') {n : Nat}
    (hn : n ≤ h.cells.length) (hS : ∀ a ∈ S, n ≤ a) :
    ∀ a < n, h'.cells[a]? = h.cells[a]? :=
  fun a ha => f.2 a (Nat.lt_of_lt_of_le ha hn) (fun hm => Nat.not_le_of_lt ha (hS a hm))

theorem RowsInRange.mono {h h' : Heap α} {rs : List RowRef} (hr : RowsInRange h rs)
    (hl : h.cells.length ≤ h'.cells.length) : RowsInRange h' rs :=
  fun a ha => Nat.lt_of_lt_of_le (hr a ha) hl

theorem RowRef.InRange.mono {h h' : Heap α} {r : RowRef} (hr : r.InRange h)
    (hl : h.cells.length ≤ h'.cells.length) : r.InRange h' :=
  fun a ha => Nat.lt_of_lt_of_le (hr a ha) hl

/-! ## Loops over a row table

  `deepcopy.Copy`, `CanonicalizeLocalTrust` and `ExtractDistrust` all run one operation per row and
  thread the heap through.  What such a loop guarantees follows from what one iteration does. -/

section loop
variable {β : Type} (step : Heap α → RowRef → Heap α × β) (sel : β → RowRef)

/-- `for i, row := range rows { … }`: `step` on each row in turn, one result per row -/
def mapRowsH : Heap α → List RowRef → Heap α × List β
  | h, [] => (h, [])
  | h, r :: rs =>
    let x := step h r
    let y := mapRowsH x.1 rs
    (y.1, x.2 :: y.2)

theorem mapRowsH_length (h : Heap α) (rs : List RowRef) :
    (mapRowsH step h rs).2.length = rs.length := by
  induction rs generalizing h with
  | nil => rfl
  | cons r rs ih => exact congrArg Nat.succ (ih _)

theorem mapRowsH_append (h : Heap α) (rs rs' : List RowRef) :
    mapRowsH step h (rs ++ rs') =
      ((mapRowsH step (mapRowsH step h rs).1 rs').1,
        (mapRowsH step h rs).2 ++ (mapRowsH step (mapRowsH step h rs).1 rs').2) := by
  induction rs generalizing h with
  | nil => rfl
  | cons r rs ih => simp only [List.cons_append, mapRowsH, ih]

theorem mapRowsH_rel {Q : Heap α → Heap α → Prop} (refl : ∀ h, Q h h)
    (trans : ∀ h h' h'', Q h h' → Q h' h'' → Q h h'') {rs : List RowRef}
    (hs : ∀ h, ∀ r ∈ rs, Q h (step h r).1) (h : Heap α) : Q h (mapRowsH step h rs).1 := by
  induction rs generalizing h with
  | nil => exact refl h
  | cons r rs ih =>
    exact trans _ _ _ (hs h r List.mem_cons_self)
      (ih (fun h r hr => hs h r (List.mem_cons_of_mem _ hr)) _)

theorem mapRowsH_frame {S : List Nat} {rs : List RowRef}
    (hs : ∀ h, ∀ r ∈ rs, Frame S h (step h r).1) (h : Heap α) :
    Frame S h (mapRowsH step h rs).1 :=
  mapRowsH_rel step (Frame.refl S) (fun _ _ _ f g => f.trans g fun _ ha => Or.inl ha) hs h

/-- iterations whose selected result lives in a cell they allocated themselves: the results'
    cells are new and pairwise distinct -/
theorem mapRowsH_fresh
    (hs : ∀ h r, h.cells.length ≤ (step h r).1.cells.length ∧
      ∀ a ∈ (sel (step h r).2).addr?, h.cells.length ≤ a ∧ a < (step h r).1.cells.length)
    (h : Heap α) (rs : List RowRef) :
    h.cells.length ≤ (mapRowsH step h rs).1.cells.length ∧
    (∀ a ∈ addrsOf ((mapRowsH step h rs).2.map sel),
      h.cells.length ≤ a ∧ a < (mapRowsH step h rs).1.cells.length) ∧
    (addrsOf ((mapRowsH step h rs).2.map sel)).Nodup := by
  induction rs generalizing h with
  | nil => exact ⟨Nat.le_refl _, nofun, List.nodup_nil⟩
  | cons r rs ih =>
    obtain ⟨l1, a1⟩ := hs h r
    obtain ⟨l2, a2, n2⟩ := ih (step h r).1
    simp only [mapRowsH, List.map_cons, addrsOf_cons, List.mem_append, Option.mem_toList]
    refine ⟨Nat.le_trans l1 l2, ?_, List.Nodup.append (Option.toList_nodup _) n2 ?_⟩
    · rintro a (ha | ha)
      · exact ⟨(a1 a ha).1, Nat.lt_of_lt_of_le (a1 a ha).2 l2⟩
      · exact ⟨Nat.le_trans l1 (a2 a ha).1, (a2 a ha).2⟩
    · exact fun a ha hb => Nat.not_le_of_lt (a1 a (Option.mem_toList.mp ha)).2 (a2 a hb).1

theorem mapRowsH_addrs_sublist (hs : ∀ h r, ∀ a ∈ (sel (step h r).2).addr?, a ∈ r.addr?)
    (h : Heap α) (rs : List RowRef) :
    (addrsOf ((mapRowsH step h rs).2.map sel)).Sublist (addrsOf rs) := by
  induction rs generalizing h with
  | nil => exact List.Sublist.refl _
  | cons r rs ih =>
    simp only [mapRowsH, List.map_cons, addrsOf_cons]
    refine List.Sublist.append ?_ (ih _)
    cases ha : (sel (step h r).2).addr? with
    | none => exact List.nil_sublist _
    | some a => exact (hs h r a ha).symm ▸ List.Sublist.refl _

theorem mapRowsH_addrs_mem {E : Nat → Prop}
    (hs : ∀ h r, ∀ a ∈ (sel (step h r).2).addr?, a ∈ r.addr? ∨ E a) (h : Heap α) (rs : List RowRef) :
    ∀ a ∈ addrsOf ((mapRowsH step h rs).2.map sel), a ∈ addrsOf rs ∨ E a := by
  induction rs generalizing h with
  | nil => exact nofun
  | cons r rs ih =>
    simp only [mapRowsH, List.map_cons, addrsOf_cons, List.mem_append, Option.mem_toList]
    rintro a (ha | ha)
    · exact (hs h r a ha).imp_left Or.inl
    · exact (ih _ a ha).imp_left Or.inr

/-- What `mapRowsH_deref` asks of the iteration on row `r` in heap `h`: it writes at most the cell
    of `r`; the selected result denotes `g` of what `r` denoted, and lives in the cell of `r`, in a
    cell of kind `E`, or in a cell the iteration allocated.  `g` may read the heap, but nothing
    that the iteration changes. -/
structure RowStep (g : Heap α → List (Entry α) → List (Entry α)) (E : Nat → Prop) (h : Heap α)
    (r : RowRef) : Prop where
  frame : Frame r.addr?.toList h (step h r).1
  val : deref (step h r).1 (sel (step h r).2) = g h (deref h r)
  stable : g (step h r).1 = g h
  addr : ∀ a ∈ (sel (step h r).2).addr?,
    a ∈ r.addr? ∨ E a ∨ (h.cells.length ≤ a ∧ a < (step h r).1.cells.length)

theorem mem_addrsOf_of_mem {r : RowRef} {rs : List RowRef} (hr : r ∈ rs) :
    ∀ a ∈ r.addr?.toList, a ∈ addrsOf rs :=
  fun _ ha => mem_addrsOf.mpr ⟨r, hr, Option.mem_toList.mp ha⟩

/-- Refinement of an in-place loop.  If the rows do not alias each other, no row's cell is of
    kind `E`, and no cell of a row or of kind `E` gets allocated only during the loop (it exists
    before, or not even afterwards), then the results denote `g` of what the rows denoted: when row
    `i` is reached its cell is still as it was, and its result is not touched afterwards. -/
theorem mapRowsH_deref {g : Heap α → List (Entry α) → List (Entry α)} {E : Nat → Prop}
    {rs : List RowRef} (hs : ∀ h, ∀ r ∈ rs, RowStep step sel g E h r) (hnd : (addrsOf rs).Nodup)
    (hE : ∀ a, E a → a ∉ addrsOf rs) (h : Heap α)
    (hold : ∀ a, a ∈ addrsOf rs ∨ E a →
      a < h.cells.length ∨ (mapRowsH step h rs).1.cells.length ≤ a) :
    ((mapRowsH step h rs).2.map sel).map (deref (mapRowsH step h rs).1) =
      (rs.map (deref h)).map (g h) := by
  induction rs generalizing h with
  | nil => rfl
  | cons r rs ih =>
    have s := hs h r List.mem_cons_self
    have hs' : ∀ h, ∀ r ∈ rs, RowStep step sel g E h r :=
      fun h r hr => hs h r (List.mem_cons_of_mem _ hr)
    have f2 : Frame (addrsOf rs) (step h r).1 (mapRowsH step (step h r).1 rs).1 :=
      mapRowsH_frame step (fun h r hr => (hs' h r hr).frame.mono (mem_addrsOf_of_mem hr)) _
    have l1 := s.frame.1
    have l2 := f2.1
    simp only [mapRowsH, addrsOf_cons, List.nodup_append, List.mem_append, Option.mem_toList]
      at hnd hE hold
    have hr : ∀ a ∈ r.addr?, a ∉ addrsOf rs := fun a ha hb => hnd.2.2 a ha a hb rfl
    simp only [mapRowsH, List.map_cons, List.cons.injEq]
    constructor
    · rw [← s.val]
      refine f2.deref_eq fun a ha => ?_
      rcases s.addr a ha with h1 | h1 | h1
      · exact ⟨hr a h1, (hold a (.inl (.inl h1))).imp_left (Nat.lt_of_lt_of_le · l1)⟩
      · exact ⟨fun hb => hE a h1 (.inr hb), (hold a (.inr h1)).imp_left (Nat.lt_of_lt_of_le · l1)⟩
      · -- a cell allocated by this iteration (`h1`) is not a later row's: those exist in `h`
        -- already or not even after the loop (`hold`), whose heap is no shorter (`l2`)
        exact ⟨fun hb => (hold a (.inl (.inr hb))).elim (Nat.not_lt_of_le h1.1)
          (Nat.not_le_of_lt (Nat.lt_of_lt_of_le h1.2 l2)), .inl h1.2⟩
    · rw [ih hs' hnd.2.1 (fun a ha hb => hE a ha (.inr hb)) _
        (fun a ha => (hold a (ha.imp_left .inr)).imp_left (Nat.lt_of_lt_of_le · l1)), s.stable,
        s.frame.map_deref_eq fun a ha => ⟨fun hb => hr a (Option.mem_toList.mp hb) ha,
          (hold a (.inl (.inr ha))).imp_right (Nat.le_trans l2)⟩]

end loop

/-! ## Copies -/

/-- deep copy of one row: a fresh cell holding the denoted entries (nil stays nil) -/
def deepCopyRow (h : Heap α) : RowRef → Heap α × RowRef
  | .nil => (h, .nil)
  | .slice a l => ((alloc h (deref h (.slice a l))).1, .slice h.cells.length l)

def deepCopyRows : Heap α → List RowRef → Heap α × List RowRef
  | h, [] => (h, [])
  | h, r :: rs =>
    let x := deepCopyRow h r
    let y := deepCopyRows x.1 rs
    (y.1, x.2 :: y.2)

/-- `deepcopy.Copy(c0)` (openapi.go loadStoredTrustMatrix): fresh row table, fresh cell per
    non-nil row, contents copied.  (mohae/deepcopy makes the new table with the old capacity and
    copies `len` elements, so the copy's hidden rows are nil; here hidden rows are copied like
    visible ones, which coincides under the repaired `SetMajorDim` — hidden rows are nil — and
    otherwise only gives the copy more to re-expose: all of it in fresh cells.) -/
def deepCopy (h : Heap α) (m : MatRef) : Heap α × MatRef :=
  let x := deepCopyRows h m.rows
  let y := deepCopyRows x.1 m.hidden
  (y.1, { m with rows := x.2, hidden := y.2 })

/-- a struct copy / shallow row-table copy: the same row references -/
def shallowCopy (h : Heap α) (m : MatRef) : Heap α × MatRef := (h, m)

inductive CopyMode where
  | deep
  | shallow
deriving Repr, DecidableEq

def copyMat (mode : CopyMode) (h : Heap α) (m : MatRef) : Heap α × MatRef :=
  match mode with
  | .deep => deepCopy h m
  | .shallow => shallowCopy h m


theorem deepCopyRows_eq (h : Heap α) (rs : List RowRef) :
    deepCopyRows h rs = mapRowsH deepCopyRow h rs := by
  induction rs generalizing h with
  | nil => rfl
  | cons r rs ih => simp only [deepCopyRows, mapRowsH, ih]

/-- one row copied; `x` = (heap, copy) -/
structure CopyRowSpec (h : Heap α) (r : RowRef) (x : Heap α × RowRef) : Prop where
  frame : Frame [] h x.1
  fresh : ∀ a ∈ x.2.addr?, h.cells.length ≤ a ∧ a < x.1.cells.length
  val : deref x.1 x.2 = deref h r

theorem deepCopyRow_spec (h : Heap α) (r : RowRef) : CopyRowSpec h r (deepCopyRow h r) := by
  cases r with
  | nil => exact ⟨Frame.refl _ _, nofun, rfl⟩
  | slice a l =>
    refine ⟨frame_alloc _ _, fun b hb => ?_, ?_⟩
    · cases hb
      exact ⟨Nat.le_refl _, (alloc_length h _).symm ▸ Nat.lt_succ_self _⟩
    · show ((alloc h _).1.cell h.cells.length).take l = _
      rw [cell_alloc_self]
      simp only [deref, List.take_take, Nat.min_self]

theorem deepCopyRows_frame (h : Heap α) (rs : List RowRef) :
    Frame [] h (mapRowsH deepCopyRow h rs).1 :=
  mapRowsH_frame deepCopyRow (fun h r _ => (deepCopyRow_spec h r).frame) h

/-- the copies are new cells and nothing is ever written, so neither later rows nor earlier
    copies change while the loop goes on -/
theorem deepCopyRows_val (h : Heap α) (rs : List RowRef) (hin : RowsInRange h rs) :
    (mapRowsH deepCopyRow h rs).2.map (deref (mapRowsH deepCopyRow h rs).1) = rs.map (deref h) := by
  induction rs generalizing h with
  | nil => rfl
  | cons r rs ih =>
    have s := deepCopyRow_spec h r
    have hin2 : RowsInRange h rs := fun a ha => hin a (addrsOf_cons r rs ▸ List.mem_append_right _ ha)
    simp only [mapRowsH, List.map_cons, List.cons.injEq]
    constructor
    · rw [← s.val]
      exact (deepCopyRows_frame _ rs).deref_eq fun a ha =>
        ⟨List.not_mem_nil, .inl (s.fresh a ha).2⟩
    · rw [ih _ (hin2.mono s.frame.1)]
      exact s.frame.map_deref_eq fun a ha => ⟨List.not_mem_nil, .inl (hin2 a ha)⟩

/-- `deepCopy` is one loop over the whole row table, visible rows first -/
theorem deepCopy_eq (h : Heap α) (m : MatRef) :
    ((deepCopy h m).1, (deepCopy h m).2.rows ++ (deepCopy h m).2.hidden) =
      mapRowsH deepCopyRow h (m.rows ++ m.hidden) := by
  simp only [deepCopy, deepCopyRows_eq, mapRowsH_append]

theorem deepCopy_dims (h : Heap α) (m : MatRef) :
    (deepCopy h m).2.major = m.major ∧ (deepCopy h m).2.minor = m.minor ∧
    (deepCopy h m).2.rows.length = m.rows.length :=
  ⟨rfl, rfl, (congrArg (·.2.length) (deepCopyRows_eq h m.rows)).trans (mapRowsH_length _ h m.rows)⟩

/-- what `deepCopy` guarantees; `x` = (heap, copy) -/
structure CopySpec (h : Heap α) (m : MatRef) (x : Heap α × MatRef) : Prop where
  frame : Frame [] h x.1
  fresh : ∀ a ∈ x.2.addrs, h.cells.length ≤ a ∧ a < x.1.cells.length
  nodup : x.2.addrs.Nodup
  val : m.InRange h → value x.1 x.2 = value h m

theorem deepCopy_spec (h : Heap α) (m : MatRef) : CopySpec h m (deepCopy h m) := by
  have f := deepCopyRows_frame h (m.rows ++ m.hidden)
  have fresh := mapRowsH_fresh deepCopyRow id
    (fun h r => ⟨(deepCopyRow_spec h r).frame.1, (deepCopyRow_spec h r).fresh⟩) h (m.rows ++ m.hidden)
  have v := deepCopyRows_val h (m.rows ++ m.hidden)
  rw [← deepCopy_eq] at f fresh v
  rw [List.map_id] at fresh
  refine ⟨f, fresh.2.1, fresh.2.2, fun hin => ?_⟩
  replace v := v hin
  rw [List.map_append, List.map_append] at v
  obtain ⟨v1, v2⟩ := List.append_inj v
    ((List.length_map _).trans ((deepCopy_dims h m).2.2.trans (List.length_map _).symm))
  exact congrArg₂ (CSM.mk m.major m.minor) v1 v2

/-! ## SetDim: reslicing of the row table and of the rows; never writes a cell -/

/-- CSMatrix.SetMajorDim (sparse/matrix.go) on the row table, as repaired like `CSM.setMajorDim`:
    shrinking clears the dropped tail. -/
def setMajorDimH (m : MatRef) (dim : Nat) : MatRef :=
  let len := m.rows.length
  let cap := len + m.hidden.length
  if cap < dim then
    { m with major := dim, rows := m.rows ++ List.replicate (dim - len) .nil, hidden := [] }
  else
    let all := m.rows ++ m.hidden
    { m with major := dim, rows := all.take dim,
             hidden := (all.drop dim).zipIdx.map fun (r, i) => if dim + i < len then .nil else r }

/-- `entries[:end]` with `end = sort.Search(…Index >= dim)`: same cell, shorter slice. -/
def shorten (h : Heap α) (dim : Nat) : RowRef → RowRef
  | .nil => .nil
  | .slice a l => .slice a ((deref h (.slice a l)).takeWhile (·.idx < dim)).length

/-- CSMatrix.SetMinorDim (sparse/matrix.go): reads the cells, reslices the rows. -/
def setMinorDimH (h : Heap α) (m : MatRef) (dim : Nat) : MatRef :=
  if dim < m.minor then { m with minor := dim, rows := m.rows.map (shorten h dim) }
  else { m with minor := dim }

def setDimRef (h : Heap α) (m : MatRef) (rows cols : Nat) : MatRef :=
  setMinorDimH h (setMajorDimH m rows) cols

/-- CSRMatrix.SetDim: the heap is returned unchanged. -/
def setDimH (h : Heap α) (m : MatRef) (rows cols : Nat) : Heap α × MatRef :=
  (h, setDimRef h m rows cols)


theorem deref_shorten (h : Heap α) (dim : Nat) (r : RowRef) :
    deref h (shorten h dim r) = (deref h r).takeWhile (·.idx < dim) := by
  cases r with
  | nil => rfl
  | slice a l =>
    have h1 : ((h.cell a).take l).takeWhile (·.idx < dim) <+: h.cell a :=
      (List.takeWhile_prefix _).trans (List.take_prefix _ _)
    exact (List.prefix_iff_eq_take.mp h1).symm

theorem value_setMajorDimH (h : Heap α) (m : MatRef) (dim : Nat) :
    value h (setMajorDimH m dim) = (value h m).setMajorDim dim := by
  unfold setMajorDimH CSM.setMajorDim
  simp only [value, List.length_map]
  by_cases hc : m.rows.length + m.hidden.length < dim
  · simp only [hc, ↓reduceIte, List.map_append, List.map_replicate, deref, List.map_nil]
  · simp only [hc, ↓reduceIte, CSM.mk.injEq, true_and, ← List.map_append, List.map_take,
      List.map_map]
    rw [← List.map_drop, List.zipIdx_map, List.map_map]
    apply List.map_congr_left
    rintro ⟨r, i⟩ _
    simp only [Function.comp, Prod.map, id]
    split <;> rfl

theorem value_setMinorDimH (h : Heap α) (m : MatRef) (dim : Nat) :
    value h (setMinorDimH h m dim) = (value h m).setMinorDim dim := by
  unfold setMinorDimH CSM.setMinorDim
  by_cases hc : dim < m.minor
  · simp only [value, hc, ↓reduceIte, CSM.mk.injEq, true_and, and_true, List.map_map]
    exact List.map_congr_left fun r _ => deref_shorten h dim r
  · simp only [value, hc, ↓reduceIte]

theorem value_setDimRef (h : Heap α) (m : MatRef) (rows cols : Nat) :
    value h (setDimRef h m rows cols) = (value h m).setDim rows cols := by
  rw [setDimRef, CSM.setDim, value_setMinorDimH, value_setMajorDimH]

theorem addrsOf_map_sublist {γ : Type} {f g : γ → RowRef} (hf : ∀ x, f x = .nil ∨ f x = g x)
    (l : List γ) : (addrsOf (l.map f)).Sublist (addrsOf (l.map g)) := by
  induction l with
  | nil => exact List.Sublist.refl _
  | cons x l ih =>
    simp only [List.map_cons, addrsOf_cons]
    refine List.Sublist.append ?_ ih
    rcases hf x with e | e
    · rw [e]
      exact List.nil_sublist _
    · rw [e]

theorem addrs_setMajorDimH (m : MatRef) (dim : Nat) :
    (setMajorDimH m dim).addrs.Sublist m.addrs := by
  unfold setMajorDimH MatRef.addrs
  by_cases hc : m.rows.length + m.hidden.length < dim
  · simp only [hc, ↓reduceIte]
    rw [List.append_nil, addrsOf_append, addrsOf_append,
      show addrsOf (List.replicate (dim - m.rows.length) RowRef.nil) = [] from
        List.filterMap_replicate_of_none rfl, List.append_nil]
    exact List.sublist_append_left _ _
  · simp only [hc, ↓reduceIte]
    rw [addrsOf_append]
    conv => rhs; rw [← List.take_append_drop dim (m.rows ++ m.hidden), addrsOf_append]
    refine (List.Sublist.refl _).append ?_
    conv => rhs; rw [← List.zipIdx_map_fst 0 (List.drop dim (m.rows ++ m.hidden))]
    exact addrsOf_map_sublist (fun x => by split <;> simp) _

theorem addrs_setMinorDimH (h : Heap α) (m : MatRef) (dim : Nat) :
    (setMinorDimH h m dim).addrs = m.addrs := by
  unfold setMinorDimH MatRef.addrs
  split
  · simp only [addrsOf, List.filterMap_append, List.filterMap_map]
    exact congrArg (· ++ _) (List.filterMap_congr fun r _ => by cases r <;> rfl)
  · rfl

theorem addrs_setDimRef (h : Heap α) (m : MatRef) (rows cols : Nat) :
    (setDimRef h m rows cols).addrs.Sublist m.addrs := by
  unfold setDimRef
  rw [addrs_setMinorDimH]
  exact addrs_setMajorDimH m rows

theorem rows_length_setMajorDimH (m : MatRef) (dim : Nat) :
    (setMajorDimH m dim).rows.length = (setMajorDimH m dim).major := by
  unfold setMajorDimH
  by_cases hc : m.rows.length + m.hidden.length < dim
  · simp only [hc, ↓reduceIte, List.length_append, List.length_replicate]
    exact Nat.add_sub_cancel' (Nat.le_of_lt (Nat.lt_of_le_of_lt (Nat.le_add_right _ _) hc))
  · simp only [hc, ↓reduceIte, List.length_take, List.length_append]
    exact Nat.min_eq_left (Nat.le_of_not_lt hc)

theorem rows_length_setDimRef (h : Heap α) (m : MatRef) (rows cols : Nat) :
    (setDimRef h m rows cols).rows.length = (setDimRef h m rows cols).major := by
  have := rows_length_setMajorDimH m rows
  unfold setDimRef setMinorDimH
  split
  · simpa only [List.length_map] using this
  · exact this

/-! ## Canonicalize / CanonicalizeLocalTrust: in-place division, row substitution by aliasing -/

section canon
variable [Scalar α]

def overwriteFront (c : List (Entry α)) (l : Nat) (es' : List (Entry α)) : List (Entry α) :=
  es' ++ c.drop l

/-- Canonicalize (basic/eigentrust.go) on a slice: `entries[i].Value /= s` WRITES THE CELL, so every
    reference to that address sees the division.  Zero sum: error, nothing written. -/
def canonicalizeRowInPlace (h : Heap α) (r : RowRef) : Except SErr (Heap α) :=
  let es := deref h r
  let s := kbnSum (es.map (·.val))
  if isZero s then .error .zeroSum
  else match r with
    | .nil => .ok h
    | .slice a l =>
      .ok (h.write a (overwriteFront (h.cell a) l (es.map fun e => ⟨e.idx, div e.val s⟩)))

/-- one iteration of the loop of CanonicalizeLocalTrust (basic/localtrust.go) on the row reference
    `r`: canonicalise in place; on zero sum with a pre-trust vector the row reference is REPLACED
    by the pre-trust vector's own slice (`SetRowVector(i, preTrust)`: aliasing). -/
def canonRowH (p : Option VecRef) (h : Heap α) (r : RowRef) : Heap α × RowRef :=
  match canonicalizeRowInPlace h r with
  | .ok h' => (h', r)
  | .error _ => match p with
    | some pv => (h, pv.row)
    | none => (h, r)

/-- one iteration of the Go loop, as written: read `Entries[i]` from the CURRENT table,
    canonicalise in place, possibly `Entries[i] = preTrust.Entries`. -/
def canonStepH (p : Option VecRef) (st : Heap α × List RowRef) (i : Nat) : Heap α × List RowRef :=
  let x := canonRowH p st.1 (st.2.getD i .nil)
  (x.1, st.2.set i x.2)

/-- `for i := 0; i < n; i++ { … }` over the current table -/
def canonLoopH (p : Option VecRef) (h : Heap α) (rows : List RowRef) (n : Nat) :
    Heap α × List RowRef :=
  (List.range n).foldl (canonStepH p) (h, rows)

/-- `preTrust != nil && n != preTrust.Dim` -/
def preTrustDimBad (m : MatRef) (p : Option VecRef) : Bool :=
  match p with
  | some pv => decide (m.major ≠ pv.dim)
  | none => false

/-- CanonicalizeLocalTrust (basic/localtrust.go).  Errors are raised before anything is written. -/
def canonicalizeLocalTrustH (h : Heap α) (m : MatRef) (p : Option VecRef) :
    Except SErr (Heap α × MatRef) :=
  if m.major ≠ m.minor then .error .dimMismatch
  else if preTrustDimBad m p then .error .dimMismatch
  else
    let x := canonLoopH p h m.rows m.major
    .ok (x.1, { m with rows := x.2 })


omit [Scalar α] in
/-- rewriting the front of a cell in place: the slice `[0:n]` then denotes the new entries, if
    there are as many of them as the old slice `[0:n]` had -/
theorem deref_write_front (h : Heap α) (a n : Nat) (es : List (Entry α))
    (hl : es.length = min n (h.cell a).length) :
    deref (h.write a (overwriteFront (h.cell a) n es)) (.slice a n) = es := by
  by_cases ha : a < h.cells.length
  · rw [deref, cell_write_self ha, overwriteFront]
    by_cases hn : n ≤ (h.cell a).length
    · exact List.take_left' (hl.trans (Nat.min_eq_left hn))
    · rw [List.drop_eq_nil_of_le (Nat.le_of_not_le hn), List.append_nil]
      exact List.take_of_length_le (hl ▸ Nat.min_le_left _ _)
  · rw [write_of_not_lt ha, deref]
    rw [cell_of_not_lt ha] at hl ⊢
    rw [List.take_nil]
    exact (List.eq_nil_of_length_eq_zero (hl.trans (Nat.min_zero n))).symm

theorem canonicalize_length {es es' : List (Entry α)} (he : canonicalize es = .ok es') :
    es'.length = es.length := by
  unfold canonicalize at he
  by_cases hz : isZero (kbnSum (es.map (·.val))) = true
  · simp only [hz, ↓reduceIte, reduceCtorEq] at he
  · simp only [hz, Bool.false_eq_true, ↓reduceIte, Except.ok.injEq] at he
    rw [← he, List.length_map]

theorem canonicalizeRowInPlace_eq (h : Heap α) (r : RowRef) :
    canonicalizeRowInPlace h r = (canonicalize (deref h r)).map fun es' =>
      match r with
      | .nil => h
      | .slice a l => h.write a (overwriteFront (h.cell a) l es') := by
  unfold canonicalizeRowInPlace canonicalize
  by_cases hz : isZero (kbnSum ((deref h r).map (·.val))) = true
  · simp only [hz, ↓reduceIte, Except.map]
  · simp only [hz, Bool.false_eq_true, ↓reduceIte, Except.map]
    cases r <;> rfl

/-- one row of CanonicalizeLocalTrust; `x` = (heap, resulting row reference) -/
structure CanonRowSpec (p : Option VecRef) (h : Heap α) (r : RowRef) (x : Heap α × RowRef) :
    Prop where
  frame : Frame r.addr?.toList h x.1
  noAlloc : x.1.cells.length = h.cells.length
  val : deref x.1 x.2 = canonRow (p.map (vecValue h)) (deref h r)
  addr : ∀ a ∈ x.2.addr?, a ∈ r.addr? ∨ ∃ pv ∈ p, a ∈ pv.row.addr?

theorem canonRowH_spec (p : Option VecRef) (h : Heap α) (r : RowRef) :
    CanonRowSpec p h r (canonRowH p h r) := by
  have hv := canonRow.eq_def (p.map (vecValue h)) (deref h r)
  unfold canonRowH
  rw [canonicalizeRowInPlace_eq]
  cases hc : canonicalize (deref h r) with
  | error e =>
    rw [hc] at hv
    cases p with
    | none => exact ⟨Frame.refl _ _, rfl, hv.symm, fun a ha => .inl ha⟩
    | some pv => exact ⟨Frame.refl _ _, rfl, hv.symm, fun a ha => .inr ⟨pv, rfl, ha⟩⟩
  | ok es' =>
    rw [hc] at hv
    have hl := canonicalize_length hc
    cases r with
    | nil =>
      exact ⟨Frame.refl _ _, rfl, (List.eq_nil_of_length_eq_zero hl).symm.trans hv.symm,
        fun a ha => .inl ha⟩
    | slice a l =>
      exact ⟨frame_write h a _, write_length h a _,
        (deref_write_front h a l es' (hl.trans List.length_take)).trans hv.symm,
        fun a ha => .inl ha⟩

theorem canonRowH_nil (p : Option VecRef) (h : Heap α) : (canonRowH p h .nil).1 = h := by
  unfold canonRowH
  rw [canonicalizeRowInPlace_eq]
  cases canonicalize (deref h .nil) with
  | error e => cases p <;> rfl
  | ok es => rfl

theorem canonRowsH_frame (p : Option VecRef) (h : Heap α) (rs : List RowRef) :
    Frame (addrsOf rs) h (mapRowsH (canonRowH p) h rs).1 ∧
    (mapRowsH (canonRowH p) h rs).1.cells.length = h.cells.length :=
  mapRowsH_rel (canonRowH p) (Q := fun h h' => Frame (addrsOf rs) h h' ∧ h'.cells.length = h.cells.length)
    (fun h => ⟨Frame.refl _ h, rfl⟩)
    (fun _ _ _ f g => ⟨f.1.trans g.1 fun _ ha => .inl ha, g.2.trans f.2⟩)
    (fun h r hr => ⟨(canonRowH_spec p h r).frame.mono (mem_addrsOf_of_mem hr),
      (canonRowH_spec p h r).noAlloc⟩) h

/-- The Go loop (indexing the CURRENT table, which it also overwrites) with an arbitrary bound
    `n`: each of the first `n` rows is visited once and canonicalised BEFORE a possible
    substitution, so the loop is the structural recursion; iterations beyond the end of the table
    do nothing (Go would panic there). -/
theorem canonLoopH_eq_take (p : Option VecRef) (h : Heap α) (rows : List RowRef) (n : Nat) :
    canonLoopH p h rows n =
      ((mapRowsH (canonRowH p) h (rows.take n)).1,
        (mapRowsH (canonRowH p) h (rows.take n)).2 ++ rows.drop n) := by
  induction n with
  | zero => rfl
  | succ n ih =>
    have hl := mapRowsH_length (canonRowH p) h (rows.take n)
    rw [canonLoopH, List.range_succ, List.foldl_append, ← canonLoopH, ih, List.foldl_cons,
      List.foldl_nil, canonStepH, List.getD_eq_getElem?_getD]
    by_cases hn : n < rows.length
    · -- iteration `n` finds `rows[n]` untouched behind the `n` results
      rw [List.length_take_of_le (Nat.le_of_lt hn)] at hl
      rw [List.take_succ_eq_append_getElem hn, mapRowsH_append, List.drop_eq_getElem_cons hn,
        List.getElem?_append_right (Nat.le_of_eq hl), List.set_append_right _ _ (Nat.le_of_eq hl),
        hl, Nat.sub_self]
      simp only [List.getElem?_cons_zero, Option.getD_some, List.set_cons_zero, mapRowsH,
        List.append_assoc, List.singleton_append]
    · have hn := Nat.le_of_not_lt hn
      rw [List.take_of_length_le hn, List.take_of_length_le (Nat.le_succ_of_le hn),
        List.drop_eq_nil_of_le hn, List.drop_eq_nil_of_le (Nat.le_succ_of_le hn), List.append_nil]
      rw [List.take_of_length_le hn] at hl
      rw [List.getElem?_eq_none (hl ▸ hn), Option.getD_none, canonRowH_nil,
        List.set_eq_of_length_le (hl ▸ hn)]

omit [Scalar α] in
theorem addrsOf_take_subset (rs : List RowRef) (n : Nat) : ∀ a ∈ addrsOf (rs.take n), a ∈ addrsOf rs :=
  fun _ ha => ((List.take_sublist n rs).filterMap _).subset ha

/-- What a successful `canonicalizeLocalTrustH h m p = .ok x` guarantees: it writes only cells of
    the rows of `m` and allocates nothing; the new rows point to old rows' cells or to the
    pre-trust vector's. -/
structure CanonOK (h : Heap α) (m : MatRef) (p : Option VecRef) (x : Heap α × MatRef) : Prop where
  frame : Frame (addrsOf m.rows) h x.1
  noAlloc : x.1.cells.length = h.cells.length
  rowAddrs : ∀ a ∈ addrsOf x.2.rows, a ∈ addrsOf m.rows ∨ ∃ pv ∈ p, a ∈ pv.row.addr?
  hidden : x.2.hidden = m.hidden

/-- … whatever the pre-trust vector, the dimensions, or aliasing among the rows -/
theorem canonicalizeLocalTrustH_ok (h : Heap α) (m : MatRef) (p : Option VecRef)
    (x : Heap α × MatRef) (hx : canonicalizeLocalTrustH h m p = .ok x) : CanonOK h m p x := by
  obtain ⟨f, l⟩ := canonRowsH_frame p h (m.rows.take m.major)
  have refs := mapRowsH_addrs_mem (canonRowH p) id (fun h r => (canonRowH_spec p h r).addr) h
    (m.rows.take m.major)
  rw [List.map_id] at refs
  unfold canonicalizeLocalTrustH at hx
  split at hx
  · cases hx
  · split at hx
    · cases hx
    · cases hx
      rw [canonLoopH_eq_take]
      refine ⟨f.mono (addrsOf_take_subset _ _), l, fun a ha => ?_, rfl⟩
      rcases List.mem_append.mp (addrsOf_append _ _ ▸ ha) with ha | ha
      · exact (refs a ha).imp_left (addrsOf_take_subset _ _ a)
      · exact .inl (((List.drop_sublist m.major m.rows).filterMap _).subset ha)

/-- refinement: `canonicalizeLocalTrustH` denotes `canonicalizeLocalTrust`, provided the row table
    has `major` rows, the rows do not alias each other (nor hidden rows), and no row's cell is the
    pre-trust vector's cell. -/
theorem canonicalizeLocalTrustH_refines (h : Heap α) (m : MatRef) (p : Option VecRef)
    (hlen : m.rows.length = m.major) (hsep : m.Sep)
    (hp : ∀ pv ∈ p, ∀ a ∈ pv.row.addr?, a ∉ addrsOf m.rows) :
    (canonicalizeLocalTrustH h m p).map (fun x => value x.1 x.2) =
      canonicalizeLocalTrust (value h m) (p.map (vecValue h)) := by
  unfold MatRef.Sep MatRef.addrs at hsep
  rw [addrsOf_append, List.nodup_append] at hsep
  obtain ⟨f, l⟩ := canonRowsH_frame p h m.rows
  have hs : ∀ h, ∀ r ∈ m.rows, RowStep (canonRowH p) id
      (fun h : Heap α => canonRow (p.map (vecValue h))) (fun a => ∃ pv ∈ p, a ∈ pv.row.addr?) h r :=
    fun h r hr => by
      have s := canonRowH_spec p h r
      refine ⟨s.frame, s.val, congrArg (canonRow (α := α))
        (map_vecValue_congr fun pv hpv => s.frame.deref_eq fun a ha => ?_),
        fun a ha => (s.addr a ha).imp_right .inl⟩
      -- the pre-trust vector's cell is not the row's, and nothing is allocated
      exact ⟨fun hb => hp pv hpv a ha (mem_addrsOf_of_mem hr a hb), s.noAlloc ▸ Nat.lt_or_ge a _⟩
  have rows := mapRowsH_deref (canonRowH p) id hs hsep.1
    (fun a he => he.elim fun pv hpv => hp pv hpv.1 a hpv.2) h (fun a _ => l ▸ Nat.lt_or_ge a _)
  rw [List.map_id] at rows
  have key : value (mapRowsH (canonRowH p) h m.rows).1
        { m with rows := (mapRowsH (canonRowH p) h m.rows).2 } =
      { value h m with rows := (value h m).rows.map (canonRow (p.map (vecValue h))) } :=
    congrArg₂ (CSM.mk m.major m.minor) rows
      (f.map_deref_eq fun a ha => ⟨fun hb => hsep.2.2 a hb a ha rfl, l ▸ Nat.lt_or_ge a _⟩)
  unfold canonicalizeLocalTrustH canonicalizeLocalTrust CSM.dim
  rw [← hlen, canonLoopH_eq_take, List.take_length, List.drop_length, List.append_nil, hlen]
  by_cases h1 : m.major ≠ m.minor
  · rw [if_pos h1, if_pos (show (value h m).major ≠ (value h m).minor from h1)]
    rfl
  · rw [if_neg h1, if_neg (show ¬(value h m).major ≠ (value h m).minor from h1)]
    cases p with
    | none => exact congrArg Except.ok key
    | some pv =>
      dsimp only [preTrustDimBad, Option.map_some, vecValue, value] at key ⊢
      by_cases h2 : decide (m.major ≠ pv.dim) = true
      · simp only [h2, ↓reduceIte]
        rfl
      · simp only [h2]
        exact congrArg Except.ok key

end canon

/-! ## ExtractDistrust: in-place compaction of the trust row, fresh distrust rows -/

section distrust
variable [Scalar α]

/-- one iteration of the loop of ExtractDistrust (basic/localtrust.go).  The kept entries are
    moved to the front of the SAME cell (`trustRow[i-len(distrustRow)] = entry`; a write at
    position `≤ i` after position `i` was read, so reads see the original content and the cell
    ends as `kept ++ cell[len kept:]`), the reference is shortened (`nil` when empty); the
    distrust entries are appended to a nil slice, i.e. live in a fresh cell (`nil` when none). -/
def extractRowH (h : Heap α) (r : RowRef) : Heap α × RowRef × RowRef :=
  let parts := splitRow (deref h r)
  let k := parts.1.length
  let h1 := match r with
    | .nil => h
    | .slice a _ => h.write a (overwriteFront (h.cell a) k parts.1)
  let r' := match r with
    | .nil => RowRef.nil
    | .slice a _ => if k = 0 then .nil else .slice a k
  if parts.2.length = 0 then (h1, r', .nil)
  else ((alloc h1 parts.2).1, r', .slice h1.cells.length parts.2.length)

def extractRowsH : Heap α → List RowRef → Heap α × List RowRef × List RowRef
  | h, [] => (h, [], [])
  | h, r :: rs =>
    let x := extractRowH h r
    let y := extractRowsH x.1 rs
    (y.1, x.2.1 :: y.2.1, x.2.2 :: y.2.2)

/-- ExtractDistrust (basic/localtrust.go): (heap, local trust afterwards, distrust).
    The dimension error is raised before anything is written. -/
def extractDistrustH (h : Heap α) (m : MatRef) : Except SErr (Heap α × MatRef × MatRef) :=
  if m.major ≠ m.minor then .error .dimMismatch
  else
    let x := extractRowsH h m.rows
    .ok (x.1, { m with rows := x.2.1 }, ⟨m.major, m.major, x.2.2, []⟩)

/-- one row of ExtractDistrust with result `x` = (heap, kept row, distrust row): the row's cell
    is the only one written; the kept entries stay in it, the distrust entries go to a cell of
    their own -/
structure ExtractRowSpec (h : Heap α) (r : RowRef) (x : Heap α × RowRef × RowRef) : Prop where
  frame : Frame r.addr?.toList h x.1
  kept : deref x.1 x.2.1 = (splitRow (deref h r)).1
  dis : deref x.1 x.2.2 = (splitRow (deref h r)).2
  keptAddr : ∀ a ∈ x.2.1.addr?, a ∈ r.addr?
  fresh : ∀ a ∈ x.2.2.addr?, h.cells.length ≤ a ∧ a < x.1.cells.length

theorem extractRowH_spec (h : Heap α) (r : RowRef) : ExtractRowSpec h r (extractRowH h r) := by
  -- the in-place half: heap `h1` and kept reference `r'`, which is in range (a slice beyond the
  -- heap denotes nothing, so nothing is kept of it)
  obtain ⟨h1, r', e, f1, l1, v1, a1⟩ : ∃ h1 r',
      extractRowH h r = (if (splitRow (deref h r)).2.length = 0 then (h1, r', RowRef.nil)
        else ((alloc h1 (splitRow (deref h r)).2).1, r',
          .slice h1.cells.length (splitRow (deref h r)).2.length)) ∧
      Frame r.addr?.toList h h1 ∧ h1.cells.length = h.cells.length ∧
      deref h1 r' = (splitRow (deref h r)).1 ∧
      ∀ a ∈ r'.addr?, a ∈ r.addr? ∧ a < h.cells.length := by
    cases r with
    | nil => exact ⟨h, .nil, rfl, Frame.refl _ _, rfl, rfl, nofun⟩
    | slice a l =>
      refine ⟨_, _, rfl, frame_write h a _, write_length h a _, ?_, ?_⟩
      · dsimp only
        split
        · exact (List.eq_nil_of_length_eq_zero ‹_›).symm
        · exact deref_write_front h a _ _ (Nat.min_eq_left
            (Nat.le_trans (List.length_filter_le _ _) (List.length_take_le' _ _))).symm
      · dsimp only
        split
        · exact nofun
        · intro b hb
          cases hb
          refine ⟨rfl, Nat.lt_of_not_le fun hn => ‹¬_› ?_⟩
          rw [deref, cell_of_not_lt (Nat.not_lt_of_le hn), List.take_nil]
          rfl
  rw [e]
  by_cases hd : (splitRow (deref h r)).2.length = 0
  · rw [if_pos hd]
    exact ⟨f1, v1, (List.eq_nil_of_length_eq_zero hd).symm, fun a ha => (a1 a ha).1, nofun⟩
  · rw [if_neg hd]
    refine ⟨f1.trans (frame_alloc h1 _) nofun, ?_, ?_, fun a ha => (a1 a ha).1, fun b hb => ?_⟩
    · rw [← v1]
      exact (frame_alloc h1 _).deref_eq fun b hb => ⟨List.not_mem_nil, .inl (l1 ▸ (a1 b hb).2)⟩
    · rw [deref, cell_alloc_self, List.take_length]
    · cases hb
      exact ⟨Nat.le_of_eq l1.symm, alloc_length h1 _ ▸ Nat.lt_succ_self _⟩

theorem extractRowsH_eq (h : Heap α) (rs : List RowRef) :
    extractRowsH h rs = ((mapRowsH extractRowH h rs).1,
      (mapRowsH extractRowH h rs).2.map (·.1), (mapRowsH extractRowH h rs).2.map (·.2)) := by
  induction rs generalizing h with
  | nil => rfl
  | cons r rs ih => simp only [extractRowsH, mapRowsH, ih, List.map_cons]

structure ExtractSpec (h h' : Heap α) (rs c d : List RowRef) : Prop where
  frame : Frame (addrsOf rs) h h'
  keptAddrs : (addrsOf c).Sublist (addrsOf rs)
  fresh : ∀ a ∈ addrsOf d, h.cells.length ≤ a ∧ a < h'.cells.length
  nodup : (addrsOf d).Nodup
  lengths : c.length = rs.length ∧ d.length = rs.length
  val : (addrsOf rs).Nodup → RowsInRange h rs →
    c.map (deref h') = (rs.map (deref h)).map (fun r => (splitRow r).1) ∧
    d.map (deref h') = (rs.map (deref h)).map (fun r => (splitRow r).2)


theorem extractRowsH_spec (h : Heap α) (rs : List RowRef) :
    ExtractSpec h (extractRowsH h rs).1 rs (extractRowsH h rs).2.1 (extractRowsH h rs).2.2 := by
  rw [extractRowsH_eq]
  have fresh := mapRowsH_fresh extractRowH (·.2)
    (fun h r => ⟨(extractRowH_spec h r).frame.1, (extractRowH_spec h r).fresh⟩) h rs
  refine ⟨mapRowsH_frame extractRowH
      (fun h r hr => (extractRowH_spec h r).frame.mono (mem_addrsOf_of_mem hr)) h,
    mapRowsH_addrs_sublist extractRowH (·.1) (fun h r => (extractRowH_spec h r).keptAddr) h rs,
    fresh.2.1, fresh.2.2,
    ⟨(List.length_map _).trans (mapRowsH_length _ h rs),
      (List.length_map _).trans (mapRowsH_length _ h rs)⟩,
    fun hnd hin => ⟨?_, ?_⟩⟩
  · exact mapRowsH_deref extractRowH (·.1) (g := fun _ es => (splitRow es).1)
      (fun h r _ => ⟨(extractRowH_spec h r).frame, (extractRowH_spec h r).kept, rfl,
        fun a ha => .inl ((extractRowH_spec h r).keptAddr a ha)⟩)
      hnd (fun _ => False.elim) h fun a ha => .inl (hin a (ha.resolve_right id))
  · exact mapRowsH_deref extractRowH (·.2) (g := fun _ es => (splitRow es).2)
      (fun h r _ => ⟨(extractRowH_spec h r).frame, (extractRowH_spec h r).dis, rfl,
        fun a ha => .inr (.inr ((extractRowH_spec h r).fresh a ha))⟩)
      hnd (fun _ => False.elim) h fun a ha => .inl (hin a (ha.resolve_right id))

/-- What a successful `extractDistrustH h m = .ok x` guarantees, `x` = (heap, local trust
    afterwards, distrust): only cells of the rows of `m` are written and everything else touched
    is freshly allocated; the kept rows stay in (a sub-list of) the old cells; the distrust rows
    are fresh and pairwise distinct; dimensions and row counts are those of `m`. -/
structure ExtractOK (h : Heap α) (m : MatRef) (x : Heap α × MatRef × MatRef) : Prop where
  frame : Frame (addrsOf m.rows) h x.1
  keptAddrs : (addrsOf x.2.1.rows).Sublist (addrsOf m.rows)
  keptHidden : x.2.1.hidden = m.hidden
  fresh : ∀ a ∈ x.2.2.addrs, h.cells.length ≤ a ∧ a < x.1.cells.length
  nodup : x.2.2.addrs.Nodup
  keptLen : x.2.1.rows.length = m.rows.length
  keptMajor : x.2.1.major = m.major
  disLen : x.2.2.rows.length = m.rows.length
  disMajor : x.2.2.major = m.major

theorem extractDistrustH_ok (h : Heap α) (m : MatRef) (x : Heap α × MatRef × MatRef)
    (hx : extractDistrustH h m = .ok x) : ExtractOK h m x := by
  have s := extractRowsH_spec h m.rows
  unfold extractDistrustH at hx
  split at hx
  · cases hx
  · cases hx
    refine ⟨s.frame, s.keptAddrs, rfl, ?_, ?_, s.lengths.1, rfl, s.lengths.2, rfl⟩
    · simp only [MatRef.addrs, List.append_nil]
      exact s.fresh
    · simp only [MatRef.addrs, List.append_nil]
      exact s.nodup

/-- refinement: `extractDistrustH` denotes `extractDistrust`, provided the references are in range
    and distinct rows of the row table do not share a cell. -/
theorem extractDistrustH_refines (h : Heap α) (m : MatRef) (hin : m.InRange h) (hsep : m.Sep) :
    (extractDistrustH h m).map (fun x => (value x.1 x.2.1, value x.1 x.2.2)) =
      extractDistrust (value h m) := by
  unfold MatRef.Sep MatRef.addrs at hsep
  rw [addrsOf_append, List.nodup_append] at hsep
  have s := extractRowsH_spec h m.rows
  obtain ⟨e1, e2⟩ := s.val hsep.1 fun a ha => hin a (addrsOf_rows_subset m a ha)
  have e3 : m.hidden.map (deref (extractRowsH h m.rows).1) = m.hidden.map (deref h) :=
    s.frame.map_deref_eq fun a ha =>
      ⟨fun hb => hsep.2.2 a hb a ha rfl, .inl (hin a (addrsOf_hidden_subset m a ha))⟩
  unfold extractDistrustH extractDistrust CSM.dim
  by_cases h1 : m.major ≠ m.minor
  · rw [if_pos h1, if_pos (show (value h m).major ≠ (value h m).minor from h1)]
    rfl
  · rw [if_neg h1, if_neg (show ¬(value h m).major ≠ (value h m).minor from h1)]
    simp only [Except.map, value, List.map_map, List.map_nil, e3] at e1 e2 ⊢
    rw [e1, e2]
    rfl

end distrust


/-! ## The working pipeline of `compute` (pkg/basic/server/oapi/openapi.go) -/

section pipeline
variable [Scalar α]

/-- alignment: `c.SetDim(d, d)` for each dimension the request forces (pre-trust, initial trust) -/
def alignH (h : Heap α) (m : MatRef) (dims : List Nat) : MatRef :=
  dims.foldl (fun m d => setDimRef h m d d) m

/-- What `compute` does to its working matrix before calling `basic.Compute`: alignment,
    `ExtractDistrust(c)`, `CanonicalizeLocalTrust(c, p)`, `CanonicalizeLocalTrust(discounts, nil)`.
    The heap is returned also when a step fails (the Go code returns early; what it wrote stays). -/
def pipelineH (h : Heap α) (m : MatRef) (dims : List Nat) (p : Option VecRef) :
    Heap α × Except SErr (MatRef × MatRef) :=
  match extractDistrustH h (alignH h m dims) with
  | .error e => (h, .error e)
  | .ok x =>
    match canonicalizeLocalTrustH x.1 x.2.1 p with
    | .error e => (x.1, .error e)
    | .ok y =>
      match canonicalizeLocalTrustH y.1 x.2.2 none with
      | .error e => (y.1, .error e)
      | .ok z => (z.1, .ok (y.2, z.2))

/-- the same steps in the pure model (as in `Oapi.prepare`) -/
def pipelinePure (c : CSM α) (dims : List Nat) (p : Option (Vec α)) : Except SErr (CSM α × CSM α) :=
  match extractDistrust (dims.foldl (fun c d => c.setDim d d) c) with
  | .error e => .error e
  | .ok x =>
    match canonicalizeLocalTrust x.1 p with
    | .error e => .error e
    | .ok c4 =>
      match canonicalizeLocalTrust x.2 none with
      | .error e => .error e
      | .ok d4 => .ok (c4, d4)


omit [Scalar α] in
theorem alignH_spec (h : Heap α) (m : MatRef) (dims : List Nat) :
    (alignH h m dims).addrs.Sublist m.addrs ∧
    value h (alignH h m dims) = dims.foldl (fun c d => c.setDim d d) (value h m) ∧
    (m.rows.length = m.major → (alignH h m dims).rows.length = (alignH h m dims).major) := by
  induction dims generalizing m with
  | nil => exact ⟨List.Sublist.refl _, rfl, id⟩
  | cons d dims ih =>
    obtain ⟨i1, i2, i3⟩ := ih (setDimRef h m d d)
    simp only [alignH, List.foldl_cons] at i1 i2 i3 ⊢
    exact ⟨i1.trans (addrs_setDimRef h m d d), value_setDimRef h m d d ▸ i2,
      fun _ => i3 (rows_length_setDimRef h m d d)⟩

/-- The pipeline writes only cells of its working matrix and cells it allocated itself: every
    cell that existed before and does not belong to the working matrix is unchanged — for every
    alignment, every pre-trust reference (even one aliasing other memory), and whether or not the
    pipeline fails half-way. -/
theorem pipelineH_frame (h : Heap α) (m : MatRef) (dims : List Nat) (p : Option VecRef) :
    Frame m.addrs h (pipelineH h m dims p).1 := by
  have hm : ∀ a ∈ addrsOf (alignH h m dims).rows, a ∈ m.addrs := fun a ha =>
    (alignH_spec h m dims).1.subset (addrsOf_rows_subset _ a ha)
  unfold pipelineH
  cases hE : extractDistrustH h (alignH h m dims) with
  | error e => exact Frame.refl _ _
  | ok x =>
    have s1 := extractDistrustH_ok h _ x hE
    dsimp only
    cases hC : canonicalizeLocalTrustH x.1 x.2.1 p with
    | error e => exact s1.frame.mono hm
    | ok y =>
      have f2 := (s1.frame.mono hm).trans (canonicalizeLocalTrustH_ok _ _ _ y hC).frame
        fun a ha => .inl (hm a (s1.keptAddrs.subset ha))
      dsimp only
      cases hD : canonicalizeLocalTrustH y.1 x.2.2 none with
      | error e => exact f2
      | ok z =>
        -- the discounts live in cells allocated by the extraction
        exact f2.trans (canonicalizeLocalTrustH_ok _ _ _ z hD).frame
          fun a ha => .inr (s1.fresh a (addrsOf_rows_subset _ a ha)).1

/-- refinement of the whole pipeline: on a working matrix whose rows are in range and do not share
    cells (what `deepCopy` delivers) and a pre-trust vector living in a cell of its own, the heap
    pipeline denotes the pure pipeline — so every theorem about the pure model carries over. -/
theorem pipelineH_refines (h : Heap α) (m : MatRef) (dims : List Nat) (p : Option VecRef)
    (hlen : m.rows.length = m.major) (hin : m.InRange h) (hsep : m.Sep)
    (hp : ∀ pv ∈ p, pv.row.InRange h ∧ ∀ a ∈ pv.row.addr?, a ∉ m.addrs) :
    (pipelineH h m dims p).2.map
        (fun cd => (value (pipelineH h m dims p).1 cd.1, value (pipelineH h m dims p).1 cd.2)) =
      pipelinePure (value h m) dims (p.map (vecValue h)) := by
  obtain ⟨al, av, alen⟩ := alignH_spec h m dims
  have r1 := extractDistrustH_refines h _ (fun a ha => hin a (al.subset ha)) (al.nodup hsep)
  rw [av] at r1
  unfold pipelineH pipelinePure
  generalize hE : extractDistrustH h (alignH h m dims) = e1 at r1 ⊢
  rw [← r1]
  cases e1 with
  | error e => rfl
  | ok x =>
    have s1 := extractDistrustH_ok h _ x hE
    -- after the extraction the local trust still lives in cells of `m`, the discounts in new ones
    have c_addrs : x.2.1.addrs.Sublist (alignH h m dims).addrs := by
      unfold MatRef.addrs
      rw [addrsOf_append, addrsOf_append, s1.keptHidden]
      exact s1.keptAddrs.append (List.Sublist.refl _)
    have c_in : ∀ a ∈ x.2.1.addrs, a ∈ m.addrs := fun a ha => al.subset (c_addrs.subset ha)
    have pval : p.map (vecValue x.1) = p.map (vecValue h) :=
      map_vecValue_congr fun pv hpv => s1.frame.deref_eq fun a ha =>
        ⟨fun hb => (hp pv hpv).2 a ha (al.subset (addrsOf_rows_subset _ a hb)),
          .inl ((hp pv hpv).1 a ha)⟩
    have r2 := canonicalizeLocalTrustH_refines x.1 x.2.1 p (s1.keptLen.trans ((alen hlen).trans s1.keptMajor.symm))
      (c_addrs.nodup (al.nodup hsep))
      (fun pv hpv a ha hb => (hp pv hpv).2 a ha (c_in a (addrsOf_rows_subset _ a hb)))
    rw [pval] at r2
    dsimp only [Except.map]
    generalize hC : canonicalizeLocalTrustH x.1 x.2.1 p = e2 at r2 ⊢
    rw [← r2]
    cases e2 with
    | error e => rfl
    | ok y =>
      have s2 := canonicalizeLocalTrustH_ok _ _ _ y hC
      -- canonicalising the local trust does not touch the discounts, and vice versa
      have dval : value y.1 x.2.2 = value x.1 x.2.2 :=
        value_of_cells_eq fun a ha => s2.frame.getElem?_eq
          (fun hb => Nat.not_le_of_lt (hin a (c_in a (addrsOf_rows_subset _ a hb))) (s1.fresh a ha).1)
          (s2.noAlloc ▸ Nat.lt_or_ge a _)
      have r3 := canonicalizeLocalTrustH_refines y.1 x.2.2 none (s1.disLen.trans ((alen hlen).trans s1.disMajor.symm))
        s1.nodup nofun
      rw [dval, Option.map_none] at r3
      dsimp only [Except.map]
      generalize hD : canonicalizeLocalTrustH y.1 x.2.2 none = e3 at r3 ⊢
      rw [← r3]
      cases e3 with
      | error e => rfl
      | ok z =>
        have s3 := canonicalizeLocalTrustH_ok _ _ _ z hD
        have cval : value z.1 y.2 = value y.1 y.2 :=
          value_of_cells_eq fun a ha => s3.frame.getElem?_eq (fun hb => by
            have hge := (s1.fresh a (addrsOf_rows_subset _ a hb)).1
            refine Nat.not_le_of_lt ?_ hge
            rcases mem_addrs.mp ha with ha | ha
            · rcases s2.rowAddrs a ha with h1 | ⟨pv, hpv, h1⟩
              · exact hin a (c_in a (addrsOf_rows_subset _ a h1))
              · exact (hp pv hpv).1 a h1
            · exact hin a (c_in a (addrsOf_hidden_subset _ a (s2.hidden ▸ ha))))
            (s3.noAlloc ▸ Nat.lt_or_ge a _)
        exact congrArg (fun c => Except.ok (c, value z.1 z.2)) cval

end pipeline

end EtVerif.C14b

