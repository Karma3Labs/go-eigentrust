/-
  Refinement of the translated Go `iterationBound` (internal/playground/engine.go) to the hand model
  `pgIterBound` (Model/Frontends.lean), for any `Scalar`.  Core-only.
-/
import EtVerif.Proofs.TrBridge
import EtVerif.Model.Frontends

namespace EtVerif.Tr
open EtVerif EtVerif.GoSem EtVerif.Gen Scalar
open EtVerif.Fe (pgIterBound pgIterBoundAux)

variable {α : Type} [Scalar α]

theorem pgIterBoundAux_bounds (w e : α) : ∀ (f : Nat) (x : α) (n : Nat), n ≤ 65536 →
    n ≤ pgIterBoundAux w e f x n ∧ pgIterBoundAux w e f x n ≤ 65536 := by
  intro f
  induction f with
  | zero => intro x n hn; simp [pgIterBoundAux, hn]
  | succ f ih =>
    intro x n hn
    simp only [pgIterBoundAux]
    split
    · rename_i h
      have hlt : n < 65536 := by
        simp only [Bool.and_eq_true, decide_eq_true_eq] at h
        exact h.2
      obtain ⟨h1, h2⟩ := ih (mul x w) (n + 1) (by omega)
      exact ⟨by omega, h2⟩
    · exact ⟨Nat.le_refl _, hn⟩

/-- Go: `x > e && n < 1<<16` (translated as `lt e x`). -/
theorem iterationBound_cond (gf n : Nat) (st : iterationBound.St α) (hn : st.n = (n : Int)) :
    iterationBound.loop1_cond gf st = .ok (lt st.e st.x && decide (n < 65536)) := by
  have h16 : ((1 : Int) * (2 : Int) ^ 16) = 65536 := by decide
  have hiff : decide (st.n < ((1 : Int) * (2 : Int) ^ 16)) = decide (n < 65536) := by
    rw [h16, hn]
    exact decide_eq_decide.mpr (by omega)
  simp only [iterationBound.loop1_cond, pure, Except.pure, hiff]

/-- `fuel` is the Go loop's fuel, `mf` the model's; once both cover the remaining `65536 - n` iterations neither
    is ever exhausted (`n < 65536` fails first), so the two counts agree. -/
theorem iterationBound_loop (gf : Nat) : ∀ (fuel mf n : Nat) (st : iterationBound.St α),
    st.n = (n : Int) → 65536 - n ≤ fuel → 65536 - n ≤ mf →
    ∃ st', Stm.loop 1 (iterationBound.loop1_cond gf) (iterationBound.loop1_body gf)
              (iterationBound.loop1_post gf) fuel st = .ok (st', (.next : Ctl Int)) ∧
      st'.n = ((pgIterBoundAux (sub one st.a) st.e mf st.x n : Nat) : Int) := by
  intro fuel
  induction fuel with
  | zero =>
    intro mf n st hn hf hm
    have hcond : (lt st.e st.x && decide (n < 65536)) = false := by
      rw [decide_eq_false (by omega), Bool.and_false]
    refine ⟨st, loop_exit ((iterationBound_cond gf n st hn).trans (congrArg _ hcond)), ?_⟩
    cases mf <;> simp only [pgIterBoundAux, hcond, hn, Bool.false_eq_true, if_false]
  | succ fuel ih =>
    intro mf n st hn hf hm
    cases hcond : (lt st.e st.x && decide (n < 65536)) with
    | false =>
      refine ⟨st, loop_exit ((iterationBound_cond gf n st hn).trans (congrArg _ hcond)), ?_⟩
      cases mf <;> simp only [pgIterBoundAux, hcond, hn, Bool.false_eq_true, if_false]
    | true =>
      have hlt : n < 65536 := by
        simp only [Bool.and_eq_true, decide_eq_true_eq] at hcond
        exact hcond.2
      rw [loop_step (s1 := { st with n := st.n + 1 })
        (s2 := { st with n := st.n + 1, x := mul st.x (sub one st.a) })
        ((iterationBound_cond gf n st hn).trans (congrArg _ hcond)) rfl rfl]
      cases mf with
      | zero => omega
      | succ mf =>
        obtain ⟨st', h1, h2⟩ := ih mf (n + 1)
          { st with n := st.n + 1, x := mul st.x (sub one st.a) }
          (by show st.n + 1 = ((n + 1 : Nat) : Int); omega) (by omega) (by omega)
        refine ⟨st', h1, ?_⟩
        rw [h2]
        simp only [pgIterBoundAux, hcond, if_true]

/-- `65534` is the smallest fuel that works for every input: the loop starts at `n = 2` and stops at `65536`. -/
theorem iterationBound_run (fuel : Nat) (a e : α) (hf : 65534 ≤ fuel) :
    ∃ st, Gen.iterationBound fuel a e = .ok (st, ((pgIterBound a e : Nat) : Int)) := by
  obtain ⟨st', h1, h2⟩ := iterationBound_loop (α := α) fuel fuel 65536 2
    { a := a, e := e, n := (2 : Int), x := (Scalar.ofNat 2 : α) } rfl (by omega) (by omega)
  refine ⟨st', ?_⟩
  simp only [Gen.iterationBound, iterationBound.body, Stm.run, Stm.seq, Stm.set, Stm.ret,
    pure, Except.pure, h1, h2, pgIterBound]

/-- Go `iterationBound` = the model's `pgIterBound`; in particular it terminates. -/
theorem iterationBound_refines (fuel : Nat) (a e : α) (hf : 65534 ≤ fuel) :
    (Gen.iterationBound fuel a e).map (fun r => r.2) = .ok ((pgIterBound a e : Nat) : Int) := by
  obtain ⟨st, h⟩ := iterationBound_run fuel a e hf
  rw [h]; rfl

/-- the count is between 2 and 65536 whatever the floats do (NaN, 0, 1, negative alpha …): `α` is any `Scalar`. -/
theorem iterationBound_range (fuel : Nat) (a e : α) (hf : 65534 ≤ fuel) :
    ∃ st n, Gen.iterationBound fuel a e = .ok (st, n) ∧ 2 ≤ n ∧ n ≤ 65536 := by
  obtain ⟨st, h⟩ := iterationBound_run fuel a e hf
  obtain ⟨h1, h2⟩ := pgIterBoundAux_bounds (sub one a) e 65536 (ofNat 2 : α) 2 (by omega)
  refine ⟨st, _, h, ?_, ?_⟩
  · simp only [pgIterBound]; omega
  · simp only [pgIterBound]; omega

end EtVerif.Tr
