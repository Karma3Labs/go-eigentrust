/-
  Lemmas about the front-ends (Model/Frontends.lean, Model/Oapi.lean, Model/Grpc.lean) for an
  arbitrary `Scalar α`, so also for `Float`: nothing here needs arithmetic laws, only the shape of
  the data.  Used by C15 (no panic, refusals), C19 (CLI, CSV readers) and C20 (playground).
  In file order:

  * generic list facts: `mapM` in `Option`, membership along `Forall₂`, running maxima, a
    two-level `if`;
  * first-appearance order and the CLI name table (`faFrom`, `getPeerIndex`, `indexAll`);
  * the CLI CSV loaders: what a successful load implies (`cliLoadMatrix_spec`,
    `cliLoadVector_spec`), the request built from the three files, the exact inline sizes, and
    which files are accepted (`loadM_go_isSome`, `loadV_go_isSome`);
  * the library CSV readers (`readPeerNames`, `parsePeerId`, `readLocalTrust`, `readTrustVector`);
  * panic guards `ColsIn` / `Guarded` / `VecIn`, kept by `NewCSRMatrix`, resizing, merging,
    canonicalisation and distrust extraction (`guarded_pipeline`);
  * OpenAPI: inline loaders, the store invariant `OStoreInv`, the stages of `prepare`
    (Proofs/OapiStages.lean) keep the guards, the CSV bodies of `file:` references;
  * the result of `compute` / `discountTrustVector` has its indices in range;
  * gRPC: parsing and `Update`, the state invariant `GInv`, `BasicCompute` in stages (`bcPrep`,
    `bcOpts`, `bcWrite`, `basicCompute_eq`), which keeps `GInv` and leaves the state alone when
    it refuses;
  * the playground: the stages of `calculate`, the dimension rule `alignDims`, the sorted table.

  Two kinds of well-formedness occur in the development.  `Guarded` / `VecIn` / `ColsIn` (here)
  speak of stored indices only, make sense for any `Scalar`, and are what excludes the panics of
  C15.  `WFM` / `WF` (Proofs/Matrix.lean, Proofs/Vec.lean) need an ordered field and give a matrix
  or vector its dense denotation.  The bridge is `C15.guarded_of_wfm`: a `WFM` matrix whose hidden
  rows are clean is `Guarded`.

  `BasicCompute` is staged twice: here (`FeL.bcPrep`, …) over any `Scalar`, for the guard
  theorems of C15, and in Proofs/GrpcLemmas.lean (`GrpcL.bcPrep`, …) over an ordered field, for
  C16 and C17.  These are different constants: a lemma about one does not apply to the other.
-/
import EtVerif.Model.Frontends
import EtVerif.Proofs.OapiStages
import EtVerif.Proofs.Assoc
import EtVerif.Model.Grpc
import EtVerif.Proofs.Loop
import EtVerif.Proofs.Vec
import EtVerif.Proofs.Matrix
import EtVerif.Proofs.Distrust
import Mathlib.Data.List.Basic
import Mathlib.Data.List.Forall2
import Mathlib.Data.List.TakeWhile

namespace EtVerif.FeL
open EtVerif EtVerif.Fe Scalar

variable {α : Type} [Scalar α]

set_option linter.unusedSectionVars false

/-! ### generic list facts -/

theorem mapM_eq_some_iff {β γ : Type} (f : β → Option γ) (l : List β) (l' : List γ) :
    l.mapM f = some l' ↔ List.Forall₂ (fun a b => f a = some b) l l' := by
  induction l generalizing l' with
  | nil => exact ⟨fun h => Option.some.inj h ▸ .nil, fun h => by cases h; rfl⟩
  | cons a l ih =>
    rw [List.mapM_cons]
    constructor
    · intro h
      obtain ⟨b, hb, h⟩ := Option.bind_eq_some_iff.mp h
      obtain ⟨bs, hbs, h⟩ := Option.bind_eq_some_iff.mp h
      cases h
      exact .cons hb ((ih _).mp hbs)
    · rintro (_ | ⟨hb, hbs⟩)
      rw [hb, (ih _).mpr hbs]
      rfl

theorem mapM_eq_none_iff {β γ : Type} (f : β → Option γ) (l : List β) :
    l.mapM f = none ↔ ∃ a ∈ l, f a = none := by
  induction l with
  | nil => exact ⟨fun h => (by cases h), fun ⟨_, h, _⟩ => (by cases h)⟩
  | cons a l ih =>
    rw [List.mapM_cons]
    cases ha : f a with
    | none => exact ⟨fun _ => ⟨a, List.mem_cons_self, ha⟩, fun _ => rfl⟩
    | some b =>
      cases hl : l.mapM f with
      | none =>
        obtain ⟨x, hx, hx'⟩ := ih.mp hl
        exact ⟨fun _ => ⟨x, List.mem_cons_of_mem _ hx, hx'⟩, fun _ => rfl⟩
      | some bs =>
        refine ⟨fun h => (by cases h), ?_⟩
        rintro ⟨x, hx, hx'⟩
        rcases List.mem_cons.mp hx with rfl | hx
        · rw [ha] at hx'; cases hx'
        · have := ih.mpr ⟨x, hx, hx'⟩
          rw [hl] at this; cases this

theorem forall₂_mem_left {β γ : Type} {R : β → γ → Prop} {l : List β} {l' : List γ}
    (h : List.Forall₂ R l l') {a : β} (ha : a ∈ l) : ∃ b ∈ l', R a b := by
  induction h with
  | nil => cases ha
  | cons hab _ ih =>
    rcases List.mem_cons.mp ha with rfl | ha
    · exact ⟨_, by simp, hab⟩
    · obtain ⟨b, hb, hr⟩ := ih ha
      exact ⟨b, by simp [hb], hr⟩

theorem forall₂_mem_right {β γ : Type} {R : β → γ → Prop} {l : List β} {l' : List γ}
    (h : List.Forall₂ R l l') {b : γ} (hb : b ∈ l') : ∃ a ∈ l, R a b := by
  induction h with
  | nil => cases hb
  | cons hab _ ih =>
    rcases List.mem_cons.mp hb with rfl | hb
    · exact ⟨_, by simp, hab⟩
    · obtain ⟨a, ha, hr⟩ := ih hb
      exact ⟨a, by simp [ha], hr⟩

theorem eq_nil_or_singleton {β : Type} : ∀ {l : List β}, l.length ≤ 1 → l = [] ∨ ∃ a, l = [a]
  | [], _ => Or.inl rfl
  | [a], _ => Or.inr ⟨a, rfl⟩
  | _ :: _ :: _, h => absurd (Nat.le_of_succ_le_succ h) (Nat.not_succ_le_zero _)

/-- for the two-level `if` of the front-ends' alignment steps -/
theorem ite_ite_ind {β : Type} (P : β → Prop) {c1 c2 : Prop} [Decidable c1] [Decidable c2]
    {a b c : β} (ha : P a) (hb : P b) (hc : P c) : P (if c1 then a else if c2 then b else c) := by
  split
  · exact ha
  · split
    · exact hb
    · exact hc

/-- a key found in an association list (`Oapi.Store.get?`, `Grpc.lookup`) comes from a member -/
theorem find?_map_mem {β : Type} {l : List (String × β)} {id : String} {b : β}
    (h : (l.find? (·.1 == id)).map (·.2) = some b) : ∃ p ∈ l, p.2 = b :=
  ⟨_, Assoc.mem_of_find h, rfl⟩

/-- over a `LinearOrder`: used at `Nat` (library readers) and at `Int` (inline sizes) -/
theorem foldl_max_ge_init {γ δ : Type} [LinearOrder δ] (f : γ → δ) (l : List γ) (a : δ) :
    a ≤ l.foldl (fun d e => max d (f e)) a := by
  induction l generalizing a with
  | nil => exact le_refl _
  | cons x l ih => exact le_trans (le_max_left _ _) (ih _)

theorem foldl_max_ge_mem {γ δ : Type} [LinearOrder δ] (f : γ → δ) (l : List γ) (a : δ) {x : γ}
    (hx : x ∈ l) : f x ≤ l.foldl (fun d e => max d (f e)) a := by
  induction l generalizing a with
  | nil => cases hx
  | cons y l ih =>
    rcases List.mem_cons.mp hx with rfl | hx
    · exact le_trans (le_max_right _ _) (foldl_max_ge_init f l _)
    · exact ih _ hx

theorem foldl_max_attained {γ δ : Type} [LinearOrder δ] (f : γ → δ) (l : List γ) (a : δ) :
    l.foldl (fun d e => max d (f e)) a = a ∨ ∃ x ∈ l, l.foldl (fun d e => max d (f e)) a = f x := by
  induction l generalizing a with
  | nil => left; rfl
  | cons y l ih =>
    rcases ih (max a (f y)) with h | ⟨x, hx, h⟩
    · rw [List.foldl_cons, h]
      rcases le_total a (f y) with h1 | h1
      · right; exact ⟨y, List.mem_cons_self, max_eq_right h1⟩
      · left; exact max_eq_left h1
    · right; exact ⟨x, List.mem_cons_of_mem _ hx, h⟩

theorem lt_of_max_succ_le {a b n : Nat} (h : max (a + 1) (b + 1) ≤ n) : a < n ∧ b < n :=
  ⟨Nat.lt_of_lt_of_le (Nat.lt_succ_self a) (Nat.le_trans (Nat.le_max_left _ _) h),
    Nat.lt_of_lt_of_le (Nat.lt_succ_self b) (Nat.le_trans (Nat.le_max_right _ _) h)⟩

theorem eq_of_max_succ_eq {a b n : Nat} (h : n = max (a + 1) (b + 1)) : a + 1 = n ∨ b + 1 = n := by
  rcases Nat.le_total (a + 1) (b + 1) with h1 | h1
  · exact Or.inr (h.trans (Nat.max_eq_right h1)).symm
  · exact Or.inl (h.trans (Nat.max_eq_left h1)).symm

/-! ### first-appearance order and the CLI name table -/

/-- what `getPeerIndex` in name mode does to the CLI name table -/
def faStep (acc : List String) (n : String) : List String := if n ∈ acc then acc else acc ++ [n]

def faFrom (tbl : List String) (names : List String) : List String := names.foldl faStep tbl

def firstAppearance (names : List String) : List String := faFrom [] names

@[simp] theorem faFrom_nil (tbl : List String) : faFrom tbl [] = tbl := rfl
@[simp] theorem faFrom_cons (tbl : List String) (n : String) (ns : List String) :
    faFrom tbl (n :: ns) = faFrom (faStep tbl n) ns := rfl

theorem faFrom_append (tbl a b : List String) : faFrom tbl (a ++ b) = faFrom (faFrom tbl a) b := by
  unfold faFrom; rw [List.foldl_append]

theorem faStep_prefix (acc : List String) (n : String) : acc <+: faStep acc n := by
  unfold faStep; split
  · exact List.prefix_refl _
  · exact List.prefix_append _ _

theorem mem_faStep {acc : List String} {n x : String} : x ∈ faStep acc n ↔ x ∈ acc ∨ x = n := by
  unfold faStep; split
  · rename_i h
    constructor
    · exact Or.inl
    · rintro (h' | rfl)
      · exact h'
      · exact h
  · simp

theorem faStep_nodup {acc : List String} (h : acc.Nodup) (n : String) : (faStep acc n).Nodup := by
  unfold faStep; split
  · exact h
  · rename_i hn
    rw [List.nodup_append]
    refine ⟨h, List.nodup_singleton _, ?_⟩
    intro a ha b hb
    rw [List.mem_singleton] at hb
    subst hb
    rintro rfl
    exact hn ha

theorem faFrom_prefix (tbl names : List String) : tbl <+: faFrom tbl names := by
  induction names generalizing tbl with
  | nil => exact List.prefix_refl _
  | cons n ns ih => exact (faStep_prefix tbl n).trans (ih _)

theorem mem_faFrom {tbl names : List String} {x : String} :
    x ∈ faFrom tbl names ↔ x ∈ tbl ∨ x ∈ names := by
  induction names generalizing tbl with
  | nil => simp
  | cons n ns ih =>
    rw [faFrom_cons, ih, mem_faStep, List.mem_cons]
    constructor
    · rintro ((h | h) | h)
      · exact Or.inl h
      · exact Or.inr (Or.inl h)
      · exact Or.inr (Or.inr h)
    · rintro (h | h | h)
      · exact Or.inl (Or.inl h)
      · exact Or.inl (Or.inr h)
      · exact Or.inr h

theorem faFrom_nodup {tbl : List String} (h : tbl.Nodup) (names : List String) :
    (faFrom tbl names).Nodup := by
  induction names generalizing tbl with
  | nil => exact h
  | cons n ns ih => exact ih (faStep_nodup h n)

theorem faFrom_of_nodup (acc l : List String) (h : (acc ++ l).Nodup) : faFrom acc l = acc ++ l := by
  induction l generalizing acc with
  | nil => simp
  | cons x l ih =>
    have hx : x ∉ acc := by
      intro hx
      rw [List.nodup_append] at h
      exact h.2.2 x hx x (by simp) rfl
    have : faStep acc x = acc ++ [x] := by unfold faStep; rw [if_neg hx]
    rw [faFrom_cons, this, ih _ (by simpa using h)]
    simp

theorem faFrom_eq_firstAppearance {tbl : List String} (h : tbl.Nodup) (names : List String) :
    faFrom tbl names = firstAppearance (tbl ++ names) := by
  unfold firstAppearance
  rw [faFrom_append, faFrom_of_nodup [] tbl (by simpa using h)]
  simp

theorem firstAppearance_nodup (l : List String) : (firstAppearance l).Nodup :=
  faFrom_nodup List.nodup_nil l

theorem mem_firstAppearance {l : List String} {x : String} : x ∈ firstAppearance l ↔ x ∈ l := by
  unfold firstAppearance; rw [mem_faFrom]; simp

theorem firstAppearance_append_singleton (l : List String) (x : String) :
    firstAppearance (l ++ [x]) = faStep (firstAppearance l) x := by
  unfold firstAppearance; rw [faFrom_append]; rfl

theorem firstAppearance_ordered (l : List String) :
    (firstAppearance l).Pairwise (fun a b => l.idxOf a < l.idxOf b) := by
  induction l using List.reverseRecOn with
  | nil => exact List.Pairwise.nil
  | append_singleton l x ih =>
    rw [firstAppearance_append_singleton]
    have hmono : (firstAppearance l).Pairwise
        (fun a b => (l ++ [x]).idxOf a < (l ++ [x]).idxOf b) := by
      refine List.Pairwise.imp_of_mem ?_ ih
      intro a b ha hb hab
      rw [List.idxOf_append_of_mem (mem_firstAppearance.mp ha),
        List.idxOf_append_of_mem (mem_firstAppearance.mp hb)]
      exact hab
    unfold faStep
    split
    · exact hmono
    · rename_i hx
      rw [List.pairwise_append]
      refine ⟨hmono, List.pairwise_singleton _ _, ?_⟩
      intro a ha b hb
      rw [List.mem_singleton] at hb
      subst hb
      have hbl : b ∉ l := fun h => hx (mem_firstAppearance.mpr h)
      have hal := mem_firstAppearance.mp ha
      rw [List.idxOf_append_of_mem hal, List.idxOf_append_of_notMem hbl]
      have := List.idxOf_lt_length_of_mem hal
      simp
      omega

theorem idxOf_of_prefix {l1 l2 : List String} (hp : l1 <+: l2) {a : String} (ha : a ∈ l1) :
    l2.idxOf a = l1.idxOf a := by
  obtain ⟨t, rfl⟩ := hp
  exact List.idxOf_append_of_mem ha

theorem getElem?_of_prefix {l1 l2 : List String} (hp : l1 <+: l2) {i : Nat} (hi : i < l1.length) :
    l2[i]? = l1[i]? := by
  obtain ⟨t, rfl⟩ := hp
  rw [List.getElem?_append_left hi]

theorem getPeerIndex_name (tbl : NameTable) (f : Fe.Field α) :
    getPeerIndex false tbl f =
      some ((((faStep tbl f.raw).idxOf f.raw : Nat) : Int), faStep tbl f.raw) := by
  unfold getPeerIndex faStep
  simp only [Bool.false_eq_true, if_false]
  by_cases h : f.raw ∈ tbl
  · rw [if_pos (List.idxOf_lt_length_iff.mpr h), if_pos h]
  · rw [if_neg (fun hh => h (List.idxOf_lt_length_iff.mp hh)), if_neg h,
      List.idxOf_append_of_notMem h]
    simp

theorem getPeerIndex_raw (tbl : NameTable) (f : Fe.Field α) :
    getPeerIndex true tbl f = f.parseInt0.map fun i => (i, tbl) := by
  unfold getPeerIndex; simp

/-- `getPeerIndex` over a sequence of fields, threading the table -/
def indexAll (raw : Bool) : NameTable → List (Fe.Field α) → Option (List Int × NameTable)
  | tbl, [] => some ([], tbl)
  | tbl, f :: fs =>
    match getPeerIndex raw tbl f with
    | none => none
    | some (i, tbl1) =>
      match indexAll raw tbl1 fs with
      | none => none
      | some (is, t) => some (i :: is, t)

theorem indexAll_name (tbl : NameTable) (fs : List (Fe.Field α)) :
    indexAll false tbl fs =
      some (fs.map (fun f => (((faFrom tbl (fs.map (·.raw))).idxOf f.raw : Nat) : Int)),
        faFrom tbl (fs.map (·.raw))) := by
  induction fs generalizing tbl with
  | nil => rfl
  | cons f fs ih =>
    rw [indexAll, getPeerIndex_name]
    simp only
    rw [ih]
    simp only [List.map_cons, faFrom_cons, Option.some.injEq, Prod.mk.injEq, List.cons.injEq,
      and_true, Int.natCast_inj]
    exact (idxOf_of_prefix (faFrom_prefix _ _) (mem_faStep.mpr (Or.inr rfl))).symm

/-! ### the CLI CSV loaders -/

def dataRecs (hasHeader : Bool) (recs : List (Record α)) : List (Record α) :=
  if hasHeader then recs.drop 1 else recs

def tblAfter (raw : Bool) (tbl : NameTable) (names : List String) : NameTable :=
  if raw then tbl else faFrom tbl names

/-- names looked up by a local-trust file: `from`, `to` of each data record, in order -/
def mNames (recs : List (Record α)) : List String :=
  recs.flatMap fun r => (r.take 2).map (·.raw)

/-- names looked up by a trust-vector file: the first field of each data record -/
def vNames (recs : List (Record α)) : List String :=
  recs.flatMap fun r => (r.take 1).map (·.raw)

/-- `i` is the index the CLI uses for field `f` (relative to the final name table `tbl`):
    raw mode — the `ParseInt(s,0,0)` value, which must be non-negative;
    name mode — the position of the name in the table. -/
def IdxOf (raw : Bool) (tbl : NameTable) (f : Fe.Field α) (i : Int) : Prop :=
  if raw then f.parseInt0 = some i ∧ 0 ≤ i
  else f.raw ∈ tbl ∧ i = ((tbl.idxOf f.raw : Nat) : Int)

/-- record `r` of a local-trust CSV yields the inline entry `e` -/
def MRel (raw : Bool) (tbl : NameTable) (r : Record α) (e : Int × Int × α) : Prop :=
  ∃ f0 f1 rest, r = f0 :: f1 :: rest ∧ IdxOf raw tbl f0 e.1 ∧ IdxOf raw tbl f1 e.2.1 ∧
    ((rest = [] ∧ e.2.2 = one) ∨ ∃ f2, rest = [f2] ∧ f2.float = some e.2.2)

/-- record `r` of a trust-vector CSV yields the inline entry `e` -/
def VRel (raw : Bool) (tbl : NameTable) (r : Record α) (e : Int × α) : Prop :=
  ∃ f0 rest, r = f0 :: rest ∧ IdxOf raw tbl f0 e.1 ∧ lt e.2 zero = false ∧
    ((rest = [] ∧ e.2 = one) ∨ ∃ f1, rest = [f1] ∧ f1.float = some e.2)

theorem tblAfter_prefix (raw : Bool) (tbl : NameTable) (names : List String) :
    tbl <+: tblAfter raw tbl names := by
  unfold tblAfter; split
  · exact List.prefix_refl _
  · exact faFrom_prefix _ _

theorem tblAfter_nil (raw : Bool) (tbl : NameTable) : tblAfter raw tbl [] = tbl := by
  unfold tblAfter; split <;> rfl

theorem tblAfter_append (raw : Bool) (tbl : NameTable) (a b : List String) :
    tblAfter raw tbl (a ++ b) = tblAfter raw (tblAfter raw tbl a) b := by
  unfold tblAfter; cases raw
  · simp [faFrom_append]
  · simp

theorem IdxOf.mono {raw : Bool} {t1 t2 : NameTable} {f : Fe.Field α} {i : Int}
    (h : IdxOf raw t1 f i) (hp : t1 <+: t2) : IdxOf raw t2 f i := by
  unfold IdxOf at h ⊢
  cases raw
  · simp only [Bool.false_eq_true, if_false] at h ⊢
    exact ⟨hp.subset h.1, by rw [idxOf_of_prefix hp h.1]; exact h.2⟩
  · exact h

theorem getPeerIndex_spec {raw : Bool} {tbl tbl1 : NameTable} {f : Fe.Field α} {i : Int}
    (h : getPeerIndex raw tbl f = some (i, tbl1)) (hi : ¬ i < 0) :
    tbl1 = tblAfter raw tbl [f.raw] ∧ IdxOf raw tbl1 f i := by
  cases raw
  · rw [getPeerIndex_name] at h
    simp only [Option.some.injEq, Prod.mk.injEq] at h
    obtain ⟨h1, h2⟩ := h
    subst h2
    refine ⟨rfl, ?_⟩
    unfold IdxOf
    simp only [Bool.false_eq_true, if_false]
    exact ⟨mem_faStep.mpr (Or.inr rfl), h1.symm⟩
  · rw [getPeerIndex_raw] at h
    cases hp : f.parseInt0 with
    | none => rw [hp] at h; cases h
    | some j =>
      rw [hp] at h
      simp only [Option.map_some, Option.some.injEq, Prod.mk.injEq] at h
      obtain ⟨h1, h2⟩ := h
      subst h1 h2
      refine ⟨rfl, ?_⟩
      unfold IdxOf
      simp only [if_true]
      exact ⟨hp, Int.not_lt.mp hi⟩

theorem dataRecs_cons_true (r : Record α) (rs : List (Record α)) : dataRecs true (r :: rs) = rs := rfl
theorem dataRecs_false (rs : List (Record α)) : dataRecs false rs = rs := rfl

theorem mNames_cons2 (f0 f1 : Fe.Field α) (rest : Record α) (rs : List (Record α)) :
    mNames ((f0 :: f1 :: rest) :: rs) = [f0.raw] ++ ([f1.raw] ++ mNames rs) := by
  simp [mNames]

theorem vNames_cons1 (f0 : Fe.Field α) (rest : Record α) (rs : List (Record α)) :
    vNames ((f0 :: rest) :: rs) = [f0.raw] ++ vNames rs := by
  simp [vNames]

theorem loadM_go_spec (raw : Bool) (recs : List (Record α)) (skip : Bool) (tbl : NameTable)
    (size : Int) (acc : List (Int × Int × α)) (m : Oapi.IMatrix α) (tbl' : NameTable)
    (h : cliLoadMatrix.go raw recs skip tbl size acc = some (m, tbl')) :
    (∀ r ∈ recs, 2 ≤ r.length ∧ r.length ≤ 3) ∧
    tbl' = tblAfter raw tbl (mNames (dataRecs skip recs)) ∧
    ∃ es, List.Forall₂ (MRel raw tbl') (dataRecs skip recs) es ∧ m.entries = acc.reverse ++ es ∧
      m.size = es.foldl (fun s e => max s (max (e.1 + 1) (e.2.1 + 1))) size ∧ m.size ≠ 0 := by
  induction recs generalizing skip tbl size acc with
  | nil =>
    unfold cliLoadMatrix.go at h
    split at h
    · cases h
    · rename_i hs
      simp only [Option.some.injEq, Prod.mk.injEq] at h
      obtain ⟨h1, h2⟩ := h
      subst h1 h2
      refine ⟨fun _ hr => (by cases hr), ?_, [], ?_, (List.append_nil _).symm, rfl, hs⟩
      · cases skip <;> exact (tblAfter_nil _ _).symm
      · cases skip <;> exact List.Forall₂.nil
  | cons r rs ih =>
    unfold cliLoadMatrix.go at h
    by_cases hbad : (r.length < 2 || r.length > 3) = true
    · rw [if_pos hbad] at h; cases h
    rw [if_neg hbad] at h
    have hlen' : 2 ≤ r.length ∧ r.length ≤ 3 := by
      simp only [Bool.or_eq_true, decide_eq_true_eq, not_or] at hbad; omega
    cases skip with
    | true =>
      rw [if_pos rfl] at h
      obtain ⟨a, b, c⟩ := ih false tbl size acc h
      exact ⟨List.forall_mem_cons.mpr ⟨hlen', a⟩, b, c⟩
    | false =>
      rw [if_neg Bool.false_ne_true] at h
      split at h
      · rename_i f0 f1 rest
        split at h
        · cases h
        rename_i from_ tbl1 hg0
        by_cases hneg0 : from_ < 0
        · rw [if_pos hneg0] at h; cases h
        rw [if_neg hneg0] at h
        split at h
        · cases h
        rename_i to_ tbl2 hg1
        by_cases hneg1 : to_ < 0
        · rw [if_pos hneg1] at h; cases h
        rw [if_neg hneg1] at h
        have key : ∃ v, ((rest = [] ∧ v = one) ∨ ∃ f2, rest = [f2] ∧ f2.float = some v) ∧
            cliLoadMatrix.go raw rs false tbl2 (max size (max (from_ + 1) (to_ + 1)))
              ((from_, to_, v) :: acc) = some (m, tbl') := by
          rcases eq_nil_or_singleton (Nat.le_of_add_le_add_right
            (show rest.length + 2 ≤ 1 + 2 from hlen'.2)) with rfl | ⟨f2, rfl⟩
          · exact ⟨one, Or.inl ⟨rfl, rfl⟩, h⟩
          · simp only at h
            cases hf : f2.float with
            | none => rw [hf] at h; cases h
            | some v => rw [hf] at h; exact ⟨v, Or.inr ⟨f2, rfl, hf⟩, h⟩
        obtain ⟨v, hv, h⟩ := key
        obtain ⟨a, b, es, c1, c2, c3, c4⟩ := ih false tbl2 _ _ h
        obtain ⟨e0, i0⟩ := getPeerIndex_spec hg0 hneg0
        obtain ⟨e1, i1⟩ := getPeerIndex_spec hg1 hneg1
        rw [dataRecs_false] at b c1
        have hp2 : tbl2 <+: tbl' := b ▸ tblAfter_prefix _ _ _
        have hp1 : tbl1 <+: tbl' := (e1 ▸ tblAfter_prefix _ _ _).trans hp2
        refine ⟨List.forall_mem_cons.mpr ⟨hlen', a⟩, ?_, (from_, to_, v) :: es,
          List.Forall₂.cons ⟨f0, f1, rest, rfl, i0.mono hp1, i1.mono hp2, hv⟩ c1, ?_, c3, c4⟩
        · rw [dataRecs_false, mNames_cons2, tblAfter_append, tblAfter_append, ← e0, ← e1]
          exact b
        · rw [c2]; simp
      · cases h

theorem loadV_go_spec (raw : Bool) (recs : List (Record α)) (skip : Bool) (tbl : NameTable)
    (size : Int) (acc : List (Int × α)) (m : Oapi.IVector α) (tbl' : NameTable)
    (h : cliLoadVector.go raw recs skip tbl size acc = some (m, tbl')) :
    (∀ r ∈ recs, 1 ≤ r.length ∧ r.length ≤ 2) ∧
    tbl' = tblAfter raw tbl (vNames (dataRecs skip recs)) ∧
    ∃ es, List.Forall₂ (VRel raw tbl') (dataRecs skip recs) es ∧ m.entries = acc.reverse ++ es ∧
      m.size = es.foldl (fun s e => max s (e.1 + 1)) size ∧ m.size ≠ 0 := by
  induction recs generalizing skip tbl size acc with
  | nil =>
    unfold cliLoadVector.go at h
    split at h
    · cases h
    · rename_i hs
      simp only [Option.some.injEq, Prod.mk.injEq] at h
      obtain ⟨h1, h2⟩ := h
      subst h1 h2
      refine ⟨fun _ hr => (by cases hr), ?_, [], ?_, (List.append_nil _).symm, rfl, hs⟩
      · cases skip <;> exact (tblAfter_nil _ _).symm
      · cases skip <;> exact List.Forall₂.nil
  | cons r rs ih =>
    unfold cliLoadVector.go at h
    by_cases hbad : (r.length < 1 || r.length > 2) = true
    · rw [if_pos hbad] at h; cases h
    rw [if_neg hbad] at h
    have hlen' : 1 ≤ r.length ∧ r.length ≤ 2 := by
      simp only [Bool.or_eq_true, decide_eq_true_eq, not_or] at hbad; omega
    cases skip with
    | true =>
      rw [if_pos rfl] at h
      obtain ⟨a, b, c⟩ := ih false tbl size acc h
      exact ⟨List.forall_mem_cons.mpr ⟨hlen', a⟩, b, c⟩
    | false =>
      rw [if_neg Bool.false_ne_true] at h
      split at h
      · rename_i f0 rest
        split at h
        · cases h
        rename_i from_ tbl1 hg0
        by_cases hneg0 : from_ < 0
        · rw [if_pos hneg0] at h; cases h
        rw [if_neg hneg0] at h
        have key : ∃ v, ((rest = [] ∧ v = one) ∨ ∃ f1, rest = [f1] ∧ f1.float = some v) ∧
            (if lt v zero then none else cliLoadVector.go raw rs false tbl1 (max size (from_ + 1))
              ((from_, v) :: acc)) = some (m, tbl') := by
          rcases eq_nil_or_singleton (Nat.le_of_add_le_add_right
            (show rest.length + 1 ≤ 1 + 1 from hlen'.2)) with rfl | ⟨f1, rfl⟩
          · exact ⟨one, Or.inl ⟨rfl, rfl⟩, h⟩
          · simp only at h
            cases hf : f1.float with
            | none => rw [hf] at h; cases h
            | some v => rw [hf] at h; exact ⟨v, Or.inr ⟨f1, rfl, hf⟩, h⟩
        obtain ⟨v, hv, h⟩ := key
        cases hlt : lt v zero with
        | true => rw [hlt, if_pos rfl] at h; cases h
        | false =>
          rw [hlt, if_neg Bool.false_ne_true] at h
          obtain ⟨a, b, es, c1, c2, c3, c4⟩ := ih false tbl1 _ _ h
          obtain ⟨e0, i0⟩ := getPeerIndex_spec hg0 hneg0
          rw [dataRecs_false] at b c1
          have hp1 : tbl1 <+: tbl' := b ▸ tblAfter_prefix _ _ _
          refine ⟨List.forall_mem_cons.mpr ⟨hlen', a⟩, ?_, (from_, v) :: es,
            List.Forall₂.cons ⟨f0, rest, rfl, i0.mono hp1, hlt, hv⟩ c1, ?_, c3, c4⟩
          · rw [dataRecs_false, vNames_cons1, tblAfter_append, ← e0]
            exact b
          · rw [c2]; simp
      · cases h

theorem cliLoadMatrix_spec {raw hasHeader : Bool} {recs : List (Record α)} {tbl tbl' : NameTable}
    {m : Oapi.IMatrix α} (h : cliLoadMatrix raw hasHeader recs tbl = some (m, tbl')) :
    (∀ r ∈ recs, 2 ≤ r.length ∧ r.length ≤ 3) ∧
    tbl' = tblAfter raw tbl (mNames (dataRecs hasHeader recs)) ∧
    List.Forall₂ (MRel raw tbl') (dataRecs hasHeader recs) m.entries ∧
    m.size = m.entries.foldl (fun s e => max s (max (e.1 + 1) (e.2.1 + 1))) 0 ∧ m.size ≠ 0 := by
  obtain ⟨a, b, es, c1, c2, c3, c4⟩ := loadM_go_spec raw recs hasHeader tbl 0 [] m tbl' h
  simp only [List.reverse_nil, List.nil_append] at c2
  subst c2
  exact ⟨a, b, c1, c3, c4⟩

theorem cliLoadVector_spec {raw hasHeader : Bool} {recs : List (Record α)} {tbl tbl' : NameTable}
    {m : Oapi.IVector α} (h : cliLoadVector raw hasHeader recs tbl = some (m, tbl')) :
    (∀ r ∈ recs, 1 ≤ r.length ∧ r.length ≤ 2) ∧
    tbl' = tblAfter raw tbl (vNames (dataRecs hasHeader recs)) ∧
    List.Forall₂ (VRel raw tbl') (dataRecs hasHeader recs) m.entries ∧
    m.size = m.entries.foldl (fun s e => max s (e.1 + 1)) 0 ∧ m.size ≠ 0 := by
  obtain ⟨a, b, es, c1, c2, c3, c4⟩ := loadV_go_spec raw recs hasHeader tbl 0 [] m tbl' h
  simp only [List.reverse_nil, List.nil_append] at c2
  subst c2
  exact ⟨a, b, c1, c3, c4⟩

def loadOptV (raw hasHeader : Bool) (o : Option (List (Record α))) (tbl : NameTable) :
    Option (Option (Oapi.IVector α) × NameTable) :=
  match o with
  | none => some (none, tbl)
  | some recs => (cliLoadVector raw hasHeader recs tbl).map fun (v, t) => (some v, t)

theorem cliBuildRequest_eq (raw hasHeader : Bool) (lt : List (Record α))
    (pt it : Option (List (Record α))) :
    cliBuildRequest raw hasHeader lt pt it =
      match cliLoadMatrix raw hasHeader lt [] with
      | none => none
      | some (m, t1) =>
        match loadOptV raw hasHeader pt t1 with
        | none => none
        | some (pv, t2) =>
          match loadOptV raw hasHeader it t2 with
          | none => none
          | some (iv, t3) => some ⟨m, pv, iv, t3⟩ := by
  unfold cliBuildRequest loadOptV
  cases cliLoadMatrix raw hasHeader lt [] with
  | none => rfl
  | some x =>
    obtain ⟨m, t1⟩ := x
    cases pt <;> cases it <;> rfl

theorem cliBuildRequest_inv {raw hasHeader : Bool} {lt : List (Record α)}
    {pt it : Option (List (Record α))} {req : CliRequest α}
    (h : cliBuildRequest raw hasHeader lt pt it = some req) :
    ∃ t1 t2, cliLoadMatrix raw hasHeader lt [] = some (req.localTrust, t1) ∧
      loadOptV raw hasHeader pt t1 = some (req.preTrust, t2) ∧
      loadOptV raw hasHeader it t2 = some (req.initialTrust, req.peerIds) := by
  rw [cliBuildRequest_eq] at h
  split at h
  · cases h
  · rename_i m t1 h1
    split at h
    · cases h
    · rename_i pv t2 h2
      split at h
      · cases h
      · rename_i iv t3 h3
        cases h
        exact ⟨t1, t2, h1, h2, h3⟩

theorem loadOptV_spec {raw hasHeader : Bool} {o : Option (List (Record α))} {tbl tbl' : NameTable}
    {ov : Option (Oapi.IVector α)} (h : loadOptV raw hasHeader o tbl = some (ov, tbl')) :
    (o = none ∧ ov = none ∧ tbl' = tbl) ∨
    ∃ recs v, o = some recs ∧ ov = some v ∧ cliLoadVector raw hasHeader recs tbl = some (v, tbl') := by
  cases o with
  | none => cases h; exact Or.inl ⟨rfl, rfl, rfl⟩
  | some recs =>
    obtain ⟨⟨v, t⟩, hl, hx⟩ := Option.map_eq_some_iff.mp h
    cases hx
    exact Or.inr ⟨recs, v, rfl, rfl, hl⟩

def optVNames (hasHeader : Bool) (o : Option (List (Record α))) : List String :=
  match o with
  | none => []
  | some recs => vNames (dataRecs hasHeader recs)

theorem loadOptV_tbl {raw hasHeader : Bool} {o : Option (List (Record α))} {tbl tbl' : NameTable}
    {ov : Option (Oapi.IVector α)} (h : loadOptV raw hasHeader o tbl = some (ov, tbl')) :
    tbl' = tblAfter raw tbl (optVNames hasHeader o) := by
  rcases loadOptV_spec h with ⟨rfl, _, rfl⟩ | ⟨recs, v, rfl, _, hl⟩
  · exact (tblAfter_nil _ _).symm
  · exact (cliLoadVector_spec hl).2.1

/-! #### exact sizes of the inline references built by the CLI -/

/-- the inline size is the highest index used + 1 (so every index is in range and the bound is
    attained) -/
def MSizeExact (m : Oapi.IMatrix α) : Prop :=
  (∀ e ∈ m.entries, e.1 < m.size ∧ e.2.1 < m.size) ∧
    ∃ e ∈ m.entries, e.1 + 1 = m.size ∨ e.2.1 + 1 = m.size

def VSizeExact (v : Oapi.IVector α) : Prop :=
  (∀ e ∈ v.entries, e.1 < v.size) ∧ ∃ e ∈ v.entries, e.1 + 1 = v.size

theorem mSizeExact_of_fold {m : Oapi.IMatrix α}
    (h : m.size = m.entries.foldl (fun s e => max s (max (e.1 + 1) (e.2.1 + 1))) 0)
    (h0 : m.size ≠ 0) : MSizeExact m := by
  constructor
  · intro e he
    have := foldl_max_ge_mem (fun e : Int × Int × α => max (e.1 + 1) (e.2.1 + 1)) m.entries 0 he
    rw [← h] at this
    exact ⟨Int.lt_of_lt_of_le (Int.lt_succ _) (Int.le_trans (Int.le_max_left _ _) this),
      Int.lt_of_lt_of_le (Int.lt_succ _) (Int.le_trans (Int.le_max_right _ _) this)⟩
  · rcases foldl_max_attained (fun e : Int × Int × α => max (e.1 + 1) (e.2.1 + 1)) m.entries 0
      with h1 | ⟨x, hx, h1⟩
    · rw [← h] at h1; exact absurd h1 h0
    · rw [← h] at h1
      refine ⟨x, hx, ?_⟩
      rcases Int.le_total (x.1 + 1) (x.2.1 + 1) with h2 | h2
      · exact Or.inr (h1.trans (Int.max_eq_right h2)).symm
      · exact Or.inl (h1.trans (Int.max_eq_left h2)).symm

theorem vSizeExact_of_fold {v : Oapi.IVector α}
    (h : v.size = v.entries.foldl (fun s e => max s (e.1 + 1)) 0) (h0 : v.size ≠ 0) :
    VSizeExact v := by
  constructor
  · intro e he
    have := foldl_max_ge_mem (fun e : Int × α => e.1 + 1) v.entries 0 he
    rw [← h] at this
    exact Int.lt_of_lt_of_le (Int.lt_succ _) this
  · rcases foldl_max_attained (fun e : Int × α => e.1 + 1) v.entries 0 with h1 | ⟨x, hx, h1⟩
    · rw [← h] at h1; exact absurd h1 h0
    · rw [← h] at h1
      exact ⟨x, hx, h1.symm⟩

/-- what the request says about an optional trust-vector file -/
def VecExact (raw hasHeader : Bool) (tbl : NameTable) (file : Option (List (Record α)))
    (sent : Option (Oapi.IVector α)) : Prop :=
  match file with
  | none => sent = none
  | some recs => ∃ v, sent = some v ∧
      List.Forall₂ (VRel raw tbl) (dataRecs hasHeader recs) v.entries ∧ VSizeExact v

theorem vecExact_of_load {raw hasHeader : Bool} {o : Option (List (Record α))}
    {tbl tbl' tblF : NameTable} {ov : Option (Oapi.IVector α)}
    (h : loadOptV raw hasHeader o tbl = some (ov, tbl')) (hp : tbl' <+: tblF) :
    VecExact raw hasHeader tblF o ov := by
  rcases loadOptV_spec h with ⟨rfl, rfl, _⟩ | ⟨recs, v, rfl, rfl, hl⟩
  · rfl
  · obtain ⟨_, _, hrel, hsz, h0⟩ := cliLoadVector_spec hl
    refine ⟨v, rfl, ?_, vSizeExact_of_fold hsz h0⟩
    refine List.Forall₂.imp ?_ hrel
    rintro r e ⟨f0, rest, hr, hi, hlt, hv⟩
    exact ⟨f0, rest, hr, hi.mono hp, hlt, hv⟩

theorem idxOf_raw_nonneg {tbl : NameTable} {f : Fe.Field α} {i : Int} (h : IdxOf true tbl f i) :
    f.parseInt0 = some i ∧ 0 ≤ i := by
  unfold IdxOf at h; simpa using h

/-! #### the CLI loaders accept every well-formed file -/

theorem getPeerIndex_isSome (raw : Bool) (tbl : NameTable) (f : Fe.Field α)
    (h : raw = true → ∃ i, f.parseInt0 = some i ∧ 0 ≤ i) :
    ∃ i tbl1, getPeerIndex raw tbl f = some (i, tbl1) ∧ ¬ i < 0 := by
  cases raw with
  | false =>
    rw [getPeerIndex_name]
    exact ⟨_, _, rfl, Int.not_lt.mpr (Int.natCast_nonneg _)⟩
  | true =>
    obtain ⟨i, hi, h0⟩ := h rfl
    rw [getPeerIndex_raw, hi]
    exact ⟨i, tbl, rfl, Int.not_lt.mpr h0⟩

/-- a data record the matrix loader accepts (given a field count of 2 or 3) -/
def GoodMRec (raw : Bool) (r : Record α) : Prop :=
  (∀ f0 f1 f2, r = [f0, f1, f2] → f2.float ≠ none) ∧
  (raw = true → ∀ f ∈ r.take 2, ∃ i, f.parseInt0 = some i ∧ 0 ≤ i)

/-- a data record the vector loader accepts (given a field count of 1 or 2) -/
def GoodVRec (raw : Bool) (r : Record α) : Prop :=
  (∀ f0 f1, r = [f0, f1] → ∃ v, f1.float = some v ∧ lt v zero = false) ∧
  (∀ f0, r = [f0] → lt (one : α) zero = false) ∧
  (raw = true → ∀ f ∈ r.take 1, ∃ i, f.parseInt0 = some i ∧ 0 ≤ i)

/-- a new entry with a non-negative index makes the running size non-zero -/
theorem max_ne_zero_of_not_neg {i : Int} (hi : ¬ i < 0) (s : Int) {a : Int} (ha : i + 1 ≤ a) :
    max s a ≠ 0 := by
  omega

theorem loadM_go_isSome (raw : Bool) (recs : List (Record α)) (skip : Bool) (tbl : NameTable)
    (size : Int) (acc : List (Int × Int × α))
    (hlen : ∀ r ∈ recs, 2 ≤ r.length ∧ r.length ≤ 3)
    (hgood : ∀ r ∈ dataRecs skip recs, GoodMRec raw r)
    (hne : size ≠ 0 ∨ dataRecs skip recs ≠ []) :
    ∃ x, cliLoadMatrix.go raw recs skip tbl size acc = some x := by
  induction recs generalizing skip tbl size acc with
  | nil =>
    unfold cliLoadMatrix.go
    have hs : size ≠ 0 := by
      rcases hne with h | h
      · exact h
      · cases skip <;> exact absurd rfl h
    rw [if_neg hs]
    exact ⟨_, rfl⟩
  | cons r rs ih =>
    unfold cliLoadMatrix.go
    have hl := hlen r List.mem_cons_self
    have hlen' := fun x hx => hlen x (List.mem_cons_of_mem r hx)
    rw [if_neg (by simp only [Bool.or_eq_true, decide_eq_true_eq, not_or]; omega)]
    cases skip with
    | true =>
      rw [if_pos rfl]
      exact ih false tbl size acc hlen' hgood hne
    | false =>
      rw [if_neg Bool.false_ne_true]
      obtain ⟨f0, r1, rfl⟩ := List.exists_cons_of_length_pos (l := r)
        (Nat.lt_of_lt_of_le Nat.zero_lt_two hl.1)
      obtain ⟨f1, rest, rfl⟩ := List.exists_cons_of_length_pos (l := r1)
        (Nat.lt_of_succ_lt_succ hl.1)
      have hg := hgood (f0 :: f1 :: rest) List.mem_cons_self
      obtain ⟨i, tbl1, hi, hi0⟩ := getPeerIndex_isSome raw tbl f0
        (fun hr => hg.2 hr f0 List.mem_cons_self)
      obtain ⟨j, tbl2, hj, hj0⟩ := getPeerIndex_isSome raw tbl1 f1
        (fun hr => hg.2 hr f1 (List.mem_cons_of_mem f0 List.mem_cons_self))
      simp only [hi, hj, if_neg hi0, if_neg hj0]
      have hrec : ∀ v, ∃ x, cliLoadMatrix.go raw rs false tbl2 (max size (max (i + 1) (j + 1)))
          ((i, j, v) :: acc) = some x := fun v =>
        ih false tbl2 _ _ hlen' (fun x hx => hgood x (List.mem_cons_of_mem _ hx))
          (Or.inl (max_ne_zero_of_not_neg hi0 size (Int.le_max_left _ _)))
      rcases eq_nil_or_singleton
        (Nat.le_of_add_le_add_right (show rest.length + 2 ≤ 1 + 2 from hl.2)) with rfl | ⟨f2, rfl⟩
      · exact hrec one
      · cases hf : f2.float with
        | none => exact absurd hf (hg.1 f0 f1 f2 rfl)
        | some v => simp only [hf]; exact hrec v

theorem loadV_go_isSome (raw : Bool) (recs : List (Record α)) (skip : Bool) (tbl : NameTable)
    (size : Int) (acc : List (Int × α))
    (hlen : ∀ r ∈ recs, 1 ≤ r.length ∧ r.length ≤ 2)
    (hgood : ∀ r ∈ dataRecs skip recs, GoodVRec raw r)
    (hne : size ≠ 0 ∨ dataRecs skip recs ≠ []) :
    ∃ x, cliLoadVector.go raw recs skip tbl size acc = some x := by
  induction recs generalizing skip tbl size acc with
  | nil =>
    unfold cliLoadVector.go
    have hs : size ≠ 0 := by
      rcases hne with h | h
      · exact h
      · cases skip <;> exact absurd rfl h
    rw [if_neg hs]
    exact ⟨_, rfl⟩
  | cons r rs ih =>
    unfold cliLoadVector.go
    have hl := hlen r List.mem_cons_self
    have hlen' := fun x hx => hlen x (List.mem_cons_of_mem r hx)
    rw [if_neg (by simp only [Bool.or_eq_true, decide_eq_true_eq, not_or]; omega)]
    cases skip with
    | true =>
      rw [if_pos rfl]
      exact ih false tbl size acc hlen' hgood hne
    | false =>
      rw [if_neg Bool.false_ne_true]
      obtain ⟨f0, rest, rfl⟩ := List.exists_cons_of_length_pos (l := r) hl.1
      have hg := hgood (f0 :: rest) List.mem_cons_self
      obtain ⟨i, tbl1, hi, hi0⟩ := getPeerIndex_isSome raw tbl f0
        (fun hr => hg.2.2 hr f0 List.mem_cons_self)
      simp only [hi, if_neg hi0]
      have hrec : ∀ v, ∃ x, cliLoadVector.go raw rs false tbl1 (max size (i + 1))
          ((i, v) :: acc) = some x := fun v =>
        ih false tbl1 _ _ hlen' (fun x hx => hgood x (List.mem_cons_of_mem _ hx))
          (Or.inl (max_ne_zero_of_not_neg hi0 size (Int.le_refl _)))
      rcases eq_nil_or_singleton
        (Nat.le_of_add_le_add_right (show rest.length + 1 ≤ 1 + 1 from hl.2)) with rfl | ⟨f1, rfl⟩
      · simp only [hg.2.1 f0 rfl]
        exact hrec one
      · obtain ⟨v, hv, hlt⟩ := hg.1 f0 f1 rfl
        simp only [hv, hlt]
        exact hrec v

/-! ### the library CSV readers -/

def firstName : Record α → String
  | [] => ""
  | f :: _ => f.raw

/-- `ReadPeerNamesFromCsv` with an accumulator -/
theorem readPeerNames_acc (recs : List (Record α)) (acc : List String) (ns : List String) :
    readPeerNames recs acc = some ns ↔
      (∀ r ∈ recs, r ≠ []) ∧ ns = acc.reverse ++ recs.map firstName ∧
      (recs.map firstName).Nodup ∧ ∀ n ∈ recs.map firstName, n ∉ acc := by
  induction recs generalizing acc with
  | nil =>
    unfold readPeerNames
    simp only [Option.some.injEq, List.not_mem_nil, false_imp_iff, implies_true, List.map_nil,
      List.append_nil, List.nodup_nil, true_and, and_true]
    exact eq_comm
  | cons r rs ih =>
    unfold readPeerNames
    cases r with
    | nil =>
      constructor
      · intro h; cases h
      · intro h; exact absurd rfl (h.1 [] List.mem_cons_self)
    | cons f rest =>
      simp only [List.contains_eq_mem, decide_eq_true_eq]
      by_cases hf : f.raw ∈ acc
      · rw [if_pos hf]
        simp only [reduceCtorEq, false_iff, not_and]
        intro _ _ _ h
        exact h f.raw List.mem_cons_self hf
      · rw [if_neg hf, ih]
        have e1 : ((f :: rest) :: rs).map firstName = f.raw :: rs.map firstName := rfl
        have e2 : (f.raw :: acc).reverse ++ rs.map firstName =
            acc.reverse ++ (f.raw :: rs.map firstName) := by simp
        rw [e1, e2, List.nodup_cons]
        constructor
        · rintro ⟨h1, h2, h3, h4⟩
          refine ⟨?_, h2, ⟨?_, h3⟩, ?_⟩
          · intro r hr
            rcases List.mem_cons.mp hr with rfl | hr
            · simp
            · exact h1 r hr
          · intro hm
            exact h4 _ hm (by simp)
          · intro n hn
            rcases List.mem_cons.mp hn with rfl | hn
            · exact hf
            · intro hna
              exact h4 n hn (by simp [hna])
        · rintro ⟨h1, h2, ⟨h3, h3'⟩, h4⟩
          refine ⟨fun r hr => h1 r (by simp [hr]), h2, h3', ?_⟩
          intro n hn hna
          rcases List.mem_cons.mp hna with rfl | hna
          · exact h3 hn
          · exact h4 n (by simp [hn]) hna

theorem idxOf_le_of_getElem? {l : List String} {a : String} {j : Nat} (h : l[j]? = some a) :
    l.idxOf a ≤ j := by
  induction l generalizing j with
  | nil => simp at h
  | cons b l ih =>
    by_cases hb : b = a
    · rw [List.idxOf_cons_eq _ hb]; exact Nat.zero_le _
    · cases j with
      | zero =>
        simp only [List.getElem?_cons_zero, Option.some.injEq] at h
        exact absurd h hb
      | succ j =>
        rw [List.idxOf_cons_ne _ hb]
        exact Nat.succ_le_succ (ih (by rwa [List.getElem?_cons_succ] at h))

theorem parsePeerId_names (ns : List String) (f : Fe.Field α) (i : Nat) :
    parsePeerId (some ns) f = some i ↔
      i < ns.length ∧ ns[i]? = some f.raw ∧ ∀ j, j < i → ns[j]? ≠ some f.raw := by
  unfold parsePeerId
  simp only
  constructor
  · intro h
    split at h
    · rename_i hlt
      cases h
      have hmem := List.idxOf_lt_length_iff.mp hlt
      refine ⟨hlt, ?_, ?_⟩
      · rw [List.getElem?_eq_getElem hlt, List.getElem_idxOf]
      · exact fun j hj hj' => absurd (idxOf_le_of_getElem? hj') (Nat.not_le.mpr hj)
    · cases h
  · rintro ⟨h1, h2, h3⟩
    have hmem : f.raw ∈ ns := List.mem_of_getElem? h2
    have hlt := List.idxOf_lt_length_iff.mpr hmem
    rw [if_pos hlt]
    congr 1
    have hget : ns[List.idxOf f.raw ns]? = some f.raw := by
      rw [List.getElem?_eq_getElem hlt, List.getElem_idxOf]
    rcases Nat.lt_trichotomy (List.idxOf f.raw ns) i with hc | hc | hc
    · exact absurd hget (h3 _ hc)
    · exact hc
    · exact absurd (idxOf_le_of_getElem? h2) (Nat.not_le.mpr hc)

theorem parsePeerId_none (f : Fe.Field α) (i : Nat) :
    parsePeerId none f = some i ↔ ∃ z : Int, f.atoi = some z ∧ 0 ≤ z ∧ z.toNat = i := by
  unfold parsePeerId
  simp only
  cases f.atoi with
  | none => simp
  | some z =>
    simp only [Option.some.injEq, exists_eq_left']
    split
    · rename_i hz
      exact ⟨nofun, fun h => absurd h.1 (Int.not_le.mpr hz)⟩
    · rename_i hz
      rw [Option.some.injEq]
      exact ⟨fun h => ⟨Int.not_lt.mp hz, h⟩, And.right⟩

/-- the per-record parser of `ReadLocalTrustFromCsv` -/
def ltParse (names : Option (List String)) : Record α → Option (Coo α) := fun r =>
  match r with
  | f0 :: f1 :: rest =>
    match parsePeerId names f0, parsePeerId names f1 with
    | some i, some j =>
      match rest with
      | [] => some ⟨i, j, one⟩
      | f2 :: _ => f2.float.map fun v => ⟨i, j, v⟩
    | _, _ => none
  | _ => none

/-- the per-record parser of `ReadTrustVectorFromCsv` -/
def tvParse (names : Option (List String)) : Record α → Option (Entry α) := fun r =>
  match r with
  | f0 :: rest =>
    match parsePeerId names f0 with
    | some i =>
      match rest with
      | [] => some ⟨i, one⟩
      | f1 :: _ => f1.float.map fun v => ⟨i, v⟩
    | none => none
  | _ => none

/-- the dimension `ReadLocalTrustFromCsv` gives its matrix -/
def cooDim (coos : List (Coo α)) : Nat :=
  coos.foldl (fun d e => max d (max (e.row + 1) (e.col + 1))) 0

/-- the dimension `ReadTrustVectorFromCsv` gives its vector -/
def entDim (es : List (Entry α)) : Nat := es.foldl (fun d e => max d (e.idx + 1)) 0

theorem readLocalTrust_eq (names : Option (List String)) (recs : List (Record α)) :
    readLocalTrust names recs =
      (recs.mapM (ltParse names)).map fun coos =>
        CSM.newCSR (cooDim coos) (cooDim coos) coos false := by
  unfold readLocalTrust
  simp only
  change (match recs.mapM (ltParse names) with | none => none | some coos => _) = _
  cases recs.mapM (ltParse names) <;> rfl

theorem readTrustVector_eq (names : Option (List String)) (recs : List (Record α)) :
    readTrustVector names recs =
      (recs.mapM (tvParse names)).map fun es => Vec.new (entDim es) es := by
  unfold readTrustVector
  simp only
  change (match recs.mapM (tvParse names) with | none => none | some es => _) = _
  cases recs.mapM (tvParse names) <;> rfl

/-- record `r` of a local-trust CSV denotes the arc `c` (default level 1) -/
def ArcOf (names : Option (List String)) (r : Record α) (c : Coo α) : Prop :=
  ∃ f0 f1 rest, r = f0 :: f1 :: rest ∧ parsePeerId names f0 = some c.row ∧
    parsePeerId names f1 = some c.col ∧
    ((rest = [] ∧ c.val = one) ∨ ∃ f2 rest', rest = f2 :: rest' ∧ f2.float = some c.val)

/-- record `r` of a trust-vector CSV denotes the entry `e` (default level 1) -/
def EntOf (names : Option (List String)) (r : Record α) (e : Entry α) : Prop :=
  ∃ f0 rest, r = f0 :: rest ∧ parsePeerId names f0 = some e.idx ∧
    ((rest = [] ∧ e.val = one) ∨ ∃ f1 rest', rest = f1 :: rest' ∧ f1.float = some e.val)

theorem ltParse_eq_some_iff (names : Option (List String)) (r : Record α) (c : Coo α) :
    ltParse names r = some c ↔ ArcOf names r c := by
  obtain ⟨ci, cj, cv⟩ := c
  unfold ltParse ArcOf
  constructor
  · intro h
    split at h
    · rename_i f0 f1 rest
      split at h
      · rename_i i j h0 h1
        split at h
        · cases h
          exact ⟨f0, f1, [], rfl, h0, h1, Or.inl ⟨rfl, rfl⟩⟩
        · rename_i f2 rest'
          cases hf : f2.float with
          | none => rw [hf] at h; cases h
          | some v =>
            rw [hf] at h
            cases h
            exact ⟨f0, f1, f2 :: rest', rfl, h0, h1, Or.inr ⟨f2, rest', rfl, hf⟩⟩
      · cases h
    · cases h
  · rintro ⟨f0, f1, rest, rfl, h0, h1, h2⟩
    simp only at h0 h1 h2 ⊢
    rw [h0, h1]
    rcases h2 with ⟨rfl, rfl⟩ | ⟨f2, rest', rfl, hf⟩
    · rfl
    · simp only [hf]; rfl

theorem tvParse_eq_some_iff (names : Option (List String)) (r : Record α) (e : Entry α) :
    tvParse names r = some e ↔ EntOf names r e := by
  obtain ⟨ei, ev⟩ := e
  unfold tvParse EntOf
  constructor
  · intro h
    split at h
    · rename_i f0 rest
      split at h
      · rename_i i h0
        split at h
        · cases h
          exact ⟨f0, [], rfl, h0, Or.inl ⟨rfl, rfl⟩⟩
        · rename_i f1 rest'
          cases hf : f1.float with
          | none => rw [hf] at h; cases h
          | some v =>
            rw [hf] at h
            cases h
            exact ⟨f0, f1 :: rest', rfl, h0, Or.inr ⟨f1, rest', rfl, hf⟩⟩
      · cases h
    · cases h
  · rintro ⟨f0, rest, rfl, h0, h2⟩
    simp only at h0 h2 ⊢
    rw [h0]
    rcases h2 with ⟨rfl, rfl⟩ | ⟨f1, rest', rfl, hf⟩
    · rfl
    · simp only [hf]; rfl

theorem ltParse_eq_none_iff (names : Option (List String)) (r : Record α) :
    ltParse names r = none ↔
      r.length < 2 ∨ ∃ f0 f1 rest, r = f0 :: f1 :: rest ∧
        (parsePeerId names f0 = none ∨ parsePeerId names f1 = none ∨
          ∃ f2 rest', rest = f2 :: rest' ∧ f2.float = none) := by
  unfold ltParse
  cases r with
  | nil => exact ⟨fun _ => Or.inl Nat.zero_lt_two, fun _ => rfl⟩
  | cons f0 r1 =>
    cases r1 with
    | nil => exact ⟨fun _ => Or.inl Nat.one_lt_two, fun _ => rfl⟩
    | cons f1 rest =>
      simp only [List.length_cons, List.cons.injEq]
      have hl : ¬ (rest.length + 1 + 1 < 2) := Nat.not_lt.mpr (Nat.le_add_left 2 _)
      simp only [hl, false_or]
      cases h0 : parsePeerId names f0 with
      | none => simp only [true_iff]; exact ⟨f0, f1, rest, ⟨rfl, rfl, rfl⟩, Or.inl h0⟩
      | some i =>
        cases h1 : parsePeerId names f1 with
        | none => simp only [true_iff]; exact ⟨f0, f1, rest, ⟨rfl, rfl, rfl⟩, Or.inr (Or.inl h1)⟩
        | some j =>
          cases rest with
          | nil =>
            simp only [reduceCtorEq, false_iff]
            rintro ⟨g0, g1, rest, ⟨rfl, rfl, rfl⟩, h | h | ⟨_, _, h, _⟩⟩
            · rw [h0] at h; cases h
            · rw [h1] at h; cases h
            · cases h
          | cons f2 rest' =>
            simp only
            constructor
            · intro h
              refine ⟨f0, f1, f2 :: rest', ⟨rfl, rfl, rfl⟩, Or.inr (Or.inr ⟨f2, rest', rfl, ?_⟩)⟩
              cases hf : f2.float with
              | none => rfl
              | some v => rw [hf] at h; cases h
            · rintro ⟨g0, g1, rest, ⟨rfl, rfl, rfl⟩, h | h | ⟨g2, _, h, hf⟩⟩
              · rw [h0] at h; cases h
              · rw [h1] at h; cases h
              · cases h
                rw [hf]; rfl

theorem tvParse_eq_none_iff (names : Option (List String)) (r : Record α) :
    tvParse names r = none ↔
      r = [] ∨ ∃ f0 rest, r = f0 :: rest ∧
        (parsePeerId names f0 = none ∨ ∃ f1 rest', rest = f1 :: rest' ∧ f1.float = none) := by
  unfold tvParse
  cases r with
  | nil => exact ⟨fun _ => Or.inl rfl, fun _ => rfl⟩
  | cons f0 rest =>
    simp only [reduceCtorEq, List.cons.injEq, false_or]
    cases h0 : parsePeerId names f0 with
    | none => simp only [true_iff]; exact ⟨f0, rest, ⟨rfl, rfl⟩, Or.inl h0⟩
    | some i =>
      cases rest with
      | nil =>
        simp only [reduceCtorEq, false_iff]
        rintro ⟨g0, rest, ⟨rfl, rfl⟩, h | ⟨_, _, h, _⟩⟩
        · rw [h0] at h; cases h
        · cases h
      | cons f1 rest' =>
        simp only
        constructor
        · intro h
          refine ⟨f0, f1 :: rest', ⟨rfl, rfl⟩, Or.inr ⟨f1, rest', rfl, ?_⟩⟩
          cases hf : f1.float with
          | none => rfl
          | some v => rw [hf] at h; cases h
        · rintro ⟨g0, rest, ⟨rfl, rfl⟩, h | ⟨g1, _, h, hf⟩⟩
          · rw [h0] at h; cases h
          · cases h
            rw [hf]; rfl

theorem lt_cooDim {coos : List (Coo α)} {c : Coo α} (hc : c ∈ coos) :
    c.row < cooDim coos ∧ c.col < cooDim coos := by
  exact lt_of_max_succ_le (foldl_max_ge_mem (fun e : Coo α => max (e.row + 1) (e.col + 1)) coos 0 hc)

theorem cooDim_attained {coos : List (Coo α)} (h : coos ≠ []) :
    ∃ c ∈ coos, c.row + 1 = cooDim coos ∨ c.col + 1 = cooDim coos := by
  rcases foldl_max_attained (fun e : Coo α => max (e.row + 1) (e.col + 1)) coos 0 with h0 | ⟨x, hx, hx'⟩
  · cases coos with
    | nil => exact absurd rfl h
    | cons c cs =>
      have := foldl_max_ge_mem (fun e : Coo α => max (e.row + 1) (e.col + 1)) (c :: cs) 0
        (List.mem_cons_self)
      rw [h0] at this
      exact absurd (lt_of_max_succ_le this).1 (Nat.not_lt_zero _)
  · exact ⟨x, hx, eq_of_max_succ_eq hx'⟩

theorem lt_entDim {es : List (Entry α)} {e : Entry α} (he : e ∈ es) : e.idx < entDim es := by
  exact foldl_max_ge_mem (fun e : Entry α => e.idx + 1) es 0 he

theorem entDim_attained {es : List (Entry α)} (h : es ≠ []) :
    ∃ e ∈ es, e.idx + 1 = entDim es := by
  rcases foldl_max_attained (fun e : Entry α => e.idx + 1) es 0 with h0 | ⟨x, hx, hx'⟩
  · cases es with
    | nil => exact absurd rfl h
    | cons c cs =>
      have := foldl_max_ge_mem (fun e : Entry α => e.idx + 1) (c :: cs) 0 (List.mem_cons_self)
      rw [h0] at this
      exact absurd this (Nat.not_succ_le_zero _)
  · exact ⟨x, hx, hx'.symm⟩

theorem readLocalTrust_some {names : Option (List String)} {recs : List (Record α)} {m : CSM α}
    (h : readLocalTrust names recs = some m) :
    ∃ coos, List.Forall₂ (ArcOf names) recs coos ∧
      m = CSM.newCSR (cooDim coos) (cooDim coos) coos false := by
  rw [readLocalTrust_eq] at h
  obtain ⟨coos, hm, rfl⟩ := Option.map_eq_some_iff.mp h
  exact ⟨coos, List.Forall₂.imp (fun r c => (ltParse_eq_some_iff names r c).mp)
    ((mapM_eq_some_iff _ _ _).mp hm), rfl⟩

theorem readTrustVector_some {names : Option (List String)} {recs : List (Record α)} {v : Vec α}
    (h : readTrustVector names recs = some v) :
    ∃ es, List.Forall₂ (EntOf names) recs es ∧ v = Vec.new (entDim es) es := by
  rw [readTrustVector_eq] at h
  obtain ⟨es, hm, rfl⟩ := Option.map_eq_some_iff.mp h
  exact ⟨es, List.Forall₂.imp (fun r c => (tvParse_eq_some_iff names r c).mp)
    ((mapM_eq_some_iff _ _ _).mp hm), rfl⟩

/-! ### panic guards: stored column indices in range, for any `Scalar` -/

def ColsIn (n : Nat) (rows : List (Row α)) : Prop := ∀ r ∈ rows, ∀ e ∈ r, e.idx < n

/-- the precondition of `Transpose` (and of every later resize): stored column indices are
    below the minor dimension and the invisible part of the row table holds only nil rows -/
def Guarded (m : CSM α) : Prop := ColsIn m.minor m.rows ∧ ∀ r ∈ m.hidden, r = []

def VecIn (v : Vec α) : Prop := ∀ e ∈ v.entries, e.idx < v.dim

theorem colsInRange_iff (m : CSM α) : m.colsInRange = true ↔ ColsIn m.minor m.rows := by
  unfold CSM.colsInRange ColsIn
  simp only [List.all_eq_true, decide_eq_true_eq]

theorem Guarded.colsInRange {m : CSM α} (h : Guarded m) : m.colsInRange = true :=
  (colsInRange_iff m).mpr h.1

theorem ColsIn.mono {n n' : Nat} {rows : List (Row α)} (h : ColsIn n rows) (hn : n ≤ n') :
    ColsIn n' rows := fun r hr e he => Nat.lt_of_lt_of_le (h r hr e he) hn

theorem colsIn_nil (n : Nat) : ColsIn n ([] : List (Row α)) := fun _ hr => by cases hr

theorem guarded_empty : Guarded (CSM.empty : CSM α) :=
  ⟨colsIn_nil _, fun _ hr => by cases hr⟩

theorem mem_modify {β : Type} {l : List β} {i : Nat} {f : β → β} {x : β}
    (h : x ∈ l.modify i f) : x ∈ l ∨ ∃ y ∈ l, x = f y := by
  obtain ⟨j, hj⟩ := List.mem_iff_getElem?.mp h
  rw [List.getElem?_modify] at hj
  obtain ⟨a, ha, rfl⟩ := Option.map_eq_some_iff.mp hj
  have ham := List.mem_of_getElem? ha
  split
  · exact Or.inr ⟨a, ham, rfl⟩
  · exact Or.inl ham

theorem sortByIdx_perm (l : List (Entry α)) : (sortByIdx l).Perm l := Mx.sortByIdx_perm l

theorem mem_newCSR {rows cols : Nat} {es : List (Coo α)} {inc : Bool} {r : Row α} {x : Entry α}
    (hr : r ∈ (CSM.newCSR rows cols es inc).rows) (hx : x ∈ r) :
    ∃ c ∈ es, x = ⟨c.col, c.val⟩ := by
  unfold CSM.newCSR at hr
  simp only [List.mem_map] at hr
  obtain ⟨r0, hr0, rfl⟩ := hr
  have hx0 : x ∈ r0 := (sortByIdx_perm r0).mem_iff.mp hx
  have inv : ∀ (l : List (Coo α)) (t : List (Row α)),
      (∀ r ∈ t, ∀ x ∈ r, ∃ c ∈ es, x = ⟨c.col, c.val⟩) → (∀ c ∈ l, c ∈ es) →
      ∀ r ∈ l.foldl (bucketCoo inc) t, ∀ x ∈ r, ∃ c ∈ es, x = ⟨c.col, c.val⟩ := by
    intro l
    induction l with
    | nil => intro t ht _; exact ht
    | cons c l ih =>
      intro t ht hl
      rw [List.foldl_cons]
      apply ih
      · intro r hr x hx
        unfold bucketCoo at hr
        split at hr
        · exact ht r hr x hx
        · rcases mem_modify hr with hr | ⟨y, hy, rfl⟩
          · exact ht r hr x hx
          · rcases List.mem_append.mp hx with hx | hx
            · exact ht y hy x hx
            · rw [List.mem_singleton] at hx
              exact ⟨c, hl c (by simp), hx⟩
      · intro c' hc'; exact hl c' (by simp [hc'])
  refine inv es (List.replicate rows []) ?_ (fun c hc => hc) r0 hr0 x hx0
  intro r hr x hx
  rw [(List.mem_replicate.mp hr).2] at hx
  cases hx

theorem guarded_newCSR {rows cols : Nat} {es : List (Coo α)} {inc : Bool}
    (h : ∀ c ∈ es, c.col < cols) : Guarded (CSM.newCSR rows cols es inc) := by
  refine ⟨?_, fun r hr => by cases hr⟩
  intro r hr x hx
  obtain ⟨c, hc, rfl⟩ := mem_newCSR hr hx
  exact h c hc

theorem newCSR_major (rows cols : Nat) (es : List (Coo α)) (inc : Bool) :
    (CSM.newCSR rows cols es inc).major = rows := rfl
theorem newCSR_minor (rows cols : Nat) (es : List (Coo α)) (inc : Bool) :
    (CSM.newCSR rows cols es inc).minor = cols := rfl

/-! #### resizing -/

theorem guarded_setMajorDim {M : CSM α} (h : Guarded M) (d : Nat) : Guarded (M.setMajorDim d) := by
  obtain ⟨hc, hh⟩ := h
  unfold Guarded
  rw [Mx.setMajorDim_minor]
  unfold CSM.setMajorDim
  by_cases hcap : M.rows.length + M.hidden.length < d
  · simp only [if_pos hcap]
    refine ⟨?_, fun r hr => by cases hr⟩
    intro r hr x hx
    rcases List.mem_append.mp hr with hr | hr
    · exact hc r hr x hx
    · rw [(List.mem_replicate.mp hr).2] at hx; cases hx
  · simp only [if_neg hcap]
    refine ⟨?_, ?_⟩
    · intro r hr x hx
      rcases List.mem_append.mp (List.mem_of_mem_take hr) with hr | hr
      · exact hc r hr x hx
      · rw [hh r hr] at hx; cases hx
    · intro r hr
      simp only [List.mem_map] at hr
      obtain ⟨⟨y, k⟩, hy, rfl⟩ := hr
      simp only
      split
      · rfl
      · rename_i hlt
        have hy' := List.mk_mem_zipIdx_iff_getElem?.mp hy
        rw [List.getElem?_drop, List.getElem?_append, if_neg hlt] at hy'
        exact hh y (List.mem_iff_getElem?.mpr ⟨_, hy'⟩)

theorem guarded_setMinorDim {M : CSM α} (h : Guarded M) (d : Nat) : Guarded (M.setMinorDim d) := by
  obtain ⟨hc, hh⟩ := h
  unfold Guarded
  rw [Mx.setMinorDim_minor]
  unfold CSM.setMinorDim
  split
  · refine ⟨?_, hh⟩
    intro r hr x hx
    simp only [List.mem_map] at hr
    obtain ⟨r0, _, rfl⟩ := hr
    have := List.mem_takeWhile_imp hx
    simpa using this
  · rename_i hd
    exact ⟨hc.mono (Nat.not_lt.mp hd), hh⟩

theorem setDim_major (M : CSM α) (r c : Nat) : (M.setDim r c).major = r := by
  unfold CSM.setDim; rw [Mx.setMinorDim_major, Mx.setMajorDim_major]

theorem setDim_minor (M : CSM α) (r c : Nat) : (M.setDim r c).minor = c := by
  unfold CSM.setDim; rw [Mx.setMinorDim_minor]

theorem guarded_setDim {M : CSM α} (h : Guarded M) (r c : Nat) : Guarded (M.setDim r c) :=
  guarded_setMinorDim (guarded_setMajorDim h r) c

/-! #### merging -/

theorem colsIn_mergeRows {n : Nat} {t1 t2 : List (Row α)} (h1 : ColsIn n t1) (h2 : ColsIn n t2) :
    ColsIn n (mergeRows t1 t2) := by
  fun_induction mergeRows t1 t2 with
  | case1 r1 t1 r2 t2 ih =>
    intro r hr x hx
    rcases List.mem_cons.mp hr with rfl | hr
    · rcases Mg.mem_mergeSpan hx with hx | hx
      · exact h1 r1 (by simp) x hx
      · exact h2 r2 (by simp) x hx
    · exact ih (fun r hr => h1 r (by simp [hr])) (fun r hr => h2 r (by simp [hr])) r hr x hx
  | case2 t1 => exact h1
  | case3 t2 _ => exact colsIn_nil n

theorem merge_major (A B : CSM α) : (A.merge B).1.major = max A.major B.major :=
  Mx.merge_major A B

theorem guarded_merge {A B : CSM α} (hA : Guarded A) (hB : ColsIn B.minor B.rows) :
    Guarded (A.merge B).1 := by
  have h := guarded_setMinorDim (guarded_setMajorDim hA (max A.major B.major))
    (max A.minor B.minor)
  unfold Guarded at h ⊢
  rw [Mx.merge_minor]
  rw [Mx.setMinorDim_minor] at h
  unfold CSM.merge
  simp only
  exact ⟨colsIn_mergeRows h.1 (hB.mono (Nat.le_max_right _ _)), h.2⟩

/-! #### vectors -/

theorem vecIn_setDim {v : Vec α} (h : VecIn v) (d : Nat) : VecIn (v.setDim d) := by
  unfold Vec.setDim VecIn
  split
  · intro e he
    have := List.mem_takeWhile_imp he
    simpa using this
  · rename_i hd
    exact fun e he => Nat.lt_of_lt_of_le (h e he) (Nat.not_lt.mp hd)

theorem vec_setDim_dim (v : Vec α) (d : Nat) : (v.setDim d).dim = d :=
  (apply_ite Vec.dim _ _ _).trans (ite_self _)

theorem vec_pad {v : Vec α} {n : Nat} (h : v.dim ≤ n) :
    (if v.dim < n then v.setDim n else v).dim = n ∧
      (if v.dim < n then v.setDim n else v).entries = v.entries := by
  split
  · rw [vec_setDim_of_le v h]; exact ⟨rfl, rfl⟩
  · exact ⟨Nat.le_antisymm h (Nat.not_lt.mp ‹_›), rfl⟩

theorem vecIn_new {dim : Nat} {es : List (Entry α)} (h : ∀ e ∈ es, e.idx < dim) :
    VecIn (Vec.new dim es) := by
  intro e he
  exact h e ((sortByIdx_perm es).mem_iff.mp he)

theorem vecIn_merge {v v2 : Vec α} (h : VecIn v) (h2 : VecIn v2) : VecIn (v.merge v2).1 := by
  unfold Vec.merge
  simp only
  have h' := vecIn_setDim h (max v.dim v2.dim)
  intro e he
  simp only at he ⊢
  rw [vec_setDim_dim]
  rcases Mg.mem_mergeSpan he with he | he
  · have := h' e he; rw [vec_setDim_dim] at this; exact this
  · exact Nat.lt_of_lt_of_le (h2 e he) (Nat.le_max_right v.dim v2.dim)

/-! #### canonicalisation and distrust extraction -/

theorem canonicalize_idx {es es' : List (Entry α)} (h : canonicalize es = .ok es') {x : Entry α}
    (hx : x ∈ es') : ∃ y ∈ es, y.idx = x.idx := by
  unfold canonicalize at h
  simp only at h
  split at h
  · cases h
  · cases h
    simp only [List.mem_map] at hx
    obtain ⟨y, hy, rfl⟩ := hx
    exact ⟨y, hy, rfl⟩

theorem vecIn_canonTV {v : Vec α} (h : VecIn v) : VecIn (canonicalizeTrustVector v) := by
  unfold canonicalizeTrustVector
  split
  · rename_i es hes
    intro x hx
    obtain ⟨y, hy, hyx⟩ := canonicalize_idx hes hx
    exact hyx ▸ h y hy
  · intro x hx
    simp only [uniformEntries, List.mem_map, List.mem_range] at hx
    obtain ⟨i, hi, rfl⟩ := hx
    exact hi

theorem canonTV_dim (v : Vec α) : (canonicalizeTrustVector v).dim = v.dim := by
  unfold canonicalizeTrustVector; split <;> rfl

theorem mem_canonRow {p : Option (Vec α)} {r : Row α} {x : Entry α} (hx : x ∈ canonRow p r) :
    (∃ y ∈ r, y.idx = x.idx) ∨ ∃ pv, p = some pv ∧ x ∈ pv.entries := by
  unfold canonRow at hx
  split at hx
  · rename_i r' hr'
    exact Or.inl (canonicalize_idx hr' hx)
  · split at hx
    · exact Or.inr ⟨_, rfl, hx⟩
    · exact Or.inl ⟨x, hx, rfl⟩

/-- a substituted pre-trust row has its indices below the common dimension, which
    `CanonicalizeLocalTrust` checks -/
theorem guarded_canonLT {m m' : CSM α} {p : Option (Vec α)} (hm : Guarded m)
    (hp : ∀ pv, p = some pv → VecIn pv) (h : canonicalizeLocalTrust m p = .ok m') :
    Guarded m' ∧ m'.major = m.major ∧ m'.minor = m.minor ∧ m.major = m.minor ∧
      ∀ pv, p = some pv → pv.dim = m.major := by
  unfold canonicalizeLocalTrust CSM.dim at h
  split at h
  · cases h
  · rename_i n hn
    split at hn
    · cases hn
    · rename_i hsq
      have hsq : m.major = m.minor := by simpa using hsq
      cases hn
      have key : (∀ pv, p = some pv → pv.dim = m.major) ∧
          m' = { m with rows := m.rows.map (canonRow p) } := by
        cases p with
        | none =>
          simp only [Bool.false_eq_true, if_false, Except.ok.injEq] at h
          exact ⟨fun pv hpv => (by cases hpv), h.symm⟩
        | some pv =>
          simp only [ne_eq, decide_not, Bool.not_eq_eq_eq_not, Bool.not_true,
            decide_eq_false_iff_not, ite_not] at h
          split at h
          · rename_i hd
            cases h
            exact ⟨fun pv' hpv' => (by cases hpv'; exact hd.symm), rfl⟩
          · cases h
      obtain ⟨hpd, rfl⟩ := key
      refine ⟨⟨?_, hm.2⟩, rfl, rfl, hsq, hpd⟩
      intro r hr x hx
      simp only [List.mem_map] at hr
      obtain ⟨r0, hr0, rfl⟩ := hr
      simp only
      rcases mem_canonRow hx with ⟨y, hy, hyx⟩ | ⟨pv, hpv, hx⟩
      · exact hyx ▸ hm.1 r0 hr0 y hy
      · have := hp pv hpv x hx
        rw [hpd pv hpv, hsq] at this
        exact this

theorem guarded_extractDistrust {m c d : CSM α} (hm : Guarded m)
    (h : extractDistrust m = .ok (c, d)) :
    Guarded c ∧ Guarded d ∧ c.major = m.major ∧ c.minor = m.minor ∧ d.major = m.major ∧
      d.minor = m.major ∧ m.major = m.minor := by
  unfold extractDistrust CSM.dim at h
  split at h
  · cases h
  · rename_i n hn
    split at hn
    · cases hn
    · rename_i hsq
      have hsq : m.major = m.minor := by simpa using hsq
      cases hn
      simp only [Except.ok.injEq, Prod.mk.injEq] at h
      obtain ⟨rfl, rfl⟩ := h
      refine ⟨⟨?_, hm.2⟩, ⟨?_, fun r hr => by cases hr⟩, rfl, rfl, rfl, rfl, hsq⟩
      · intro r hr x hx
        simp only [List.map_map, List.mem_map, Function.comp] at hr
        obtain ⟨r0, hr0, rfl⟩ := hr
        simp only [splitRow, List.mem_filter] at hx
        exact hm.1 r0 hr0 x hx.1
      · intro r hr x hx
        simp only [List.map_map, List.mem_map, Function.comp] at hr
        obtain ⟨r0, hr0, rfl⟩ := hr
        simp only [splitRow, List.mem_map, List.mem_filter] at hx
        obtain ⟨y, ⟨hy, _⟩, rfl⟩ := hx
        exact hsq ▸ hm.1 r0 hr0 y hy

/-- distrust extraction and the two canonicalisations — the tail of every front-end's pipeline —
    keep the guards, and the discounts are as wide as the canonical local trust is high -/
theorem guarded_pipeline {m c d c' d' : CSM α} {p : Vec α} (hm : Guarded m) (hp : VecIn p)
    (hx : extractDistrust m = .ok (c, d))
    (h4 : canonicalizeLocalTrust c (some (canonicalizeTrustVector p)) = .ok c')
    (h5 : canonicalizeLocalTrust d none = .ok d') :
    Guarded c' ∧ Guarded d' ∧ VecIn (canonicalizeTrustVector p) ∧ d'.minor = c'.major := by
  obtain ⟨gc, gd, e1, _, _, e4, _⟩ := guarded_extractDistrust hm hx
  have vp := vecIn_canonTV hp
  obtain ⟨gc4, m1, _⟩ := guarded_canonLT gc (fun pv hpv => by cases hpv; exact vp) h4
  obtain ⟨gd4, _, n2, _⟩ := guarded_canonLT gd (fun pv hpv => by cases hpv) h5
  exact ⟨gc4, gd4, vp, by rw [n2, m1, e4, e1]⟩

/-! ### OpenAPI front-end -/

section oapi
open EtVerif.Oapi
open _root_.EtVerif.OapiL (loadOptVec alignPre alignInit guardA guardB)

/-- the coordinate entries `loadInlineTrustMatrix` hands to `NewCSRMatrix` -/
def cooOfI (m : IMatrix α) : List (Coo α) := m.entries.map fun (i, j, v) => ⟨i.toNat, j.toNat, v⟩

/-- the entries `loadInlineTrustVector` hands to `NewVector` -/
def entOfI (v : IVector α) : List (Entry α) := v.entries.map fun (i, x) => ⟨i.toNat, x⟩

theorem loadInlineMatrix_some {m : IMatrix α} {c : CSM α} (h : loadInlineMatrix m = some c) :
    0 < m.size ∧ c = CSM.newCSR m.size.toNat m.size.toNat (cooOfI m) false ∧
      ∀ e ∈ cooOfI m, e.row < m.size.toNat ∧ e.col < m.size.toNat := by
  unfold loadInlineMatrix at h
  by_cases hs : m.size ≤ 0
  · rw [if_pos hs] at h; cases h
  · rw [if_neg hs] at h
    split at h
    · rename_i hall
      cases h
      refine ⟨Int.not_le.mp hs, rfl, ?_⟩
      intro e he
      simp only [cooOfI, List.mem_map] at he
      obtain ⟨⟨i, j, v⟩, hm, rfl⟩ := he
      have := List.all_eq_true.mp hall _ hm
      simp only [Bool.and_eq_true, decide_eq_true_eq] at this
      simp only
      omega
    · cases h

theorem loadInlineMatrix_none {m : IMatrix α}
    (h : m.size ≤ 0 ∨ ∃ e ∈ m.entries, e.1 < 0 ∨ m.size ≤ e.1 ∨ e.2.1 < 0 ∨ m.size ≤ e.2.1) :
    loadInlineMatrix m = none := by
  unfold loadInlineMatrix
  split
  · rfl
  · rename_i hs
    rcases h with h | ⟨e, he, hbad⟩
    · exact absurd h hs
    · rw [if_neg]
      intro hall
      have := List.all_eq_true.mp hall e he
      obtain ⟨i, j, v⟩ := e
      simp only [Bool.and_eq_true, decide_eq_true_eq] at this
      simp only at hbad
      omega

theorem loadInlineVector_some {v : IVector α} {p : Vec α} (h : loadInlineVector v = some p) :
    0 < v.size ∧ p = Vec.new v.size.toNat (entOfI v) ∧ ∀ e ∈ entOfI v, e.idx < v.size.toNat := by
  unfold loadInlineVector at h
  by_cases hs : v.size ≤ 0
  · rw [if_pos hs] at h; cases h
  · rw [if_neg hs] at h
    split at h
    · rename_i hall
      cases h
      refine ⟨Int.not_le.mp hs, rfl, ?_⟩
      intro e he
      simp only [entOfI, List.mem_map] at he
      obtain ⟨⟨i, x⟩, hm, rfl⟩ := he
      have := List.all_eq_true.mp hall _ hm
      simp only [Bool.and_eq_true, decide_eq_true_eq] at this
      simp only
      omega
    · cases h

theorem loadInlineVector_none {v : IVector α}
    (h : v.size ≤ 0 ∨ ∃ e ∈ v.entries, e.1 < 0 ∨ v.size ≤ e.1 ∨ le e.2 zero = true) :
    loadInlineVector v = none := by
  unfold loadInlineVector
  split
  · rfl
  · rename_i hs
    rcases h with h | ⟨e, he, hbad⟩
    · exact absurd h hs
    · rw [if_neg]
      intro hall
      have := List.all_eq_true.mp hall e he
      obtain ⟨i, x⟩ := e
      simp only [Bool.and_eq_true, decide_eq_true_eq, Bool.not_eq_true'] at this
      simp only at hbad
      rcases hbad with hb | hb | hb
      · omega
      · omega
      · rw [this.2] at hb; cases hb

theorem guarded_loadInlineMatrix {m : IMatrix α} {c : CSM α} (h : loadInlineMatrix m = some c) :
    Guarded c := by
  obtain ⟨_, rfl, hr⟩ := loadInlineMatrix_some h
  exact guarded_newCSR (fun e he => (hr e he).2)

theorem vecIn_loadInlineVector {v : IVector α} {p : Vec α} (h : loadInlineVector v = some p) :
    VecIn p := by
  obtain ⟨_, rfl, hr⟩ := loadInlineVector_some h
  exact vecIn_new hr

/-- store invariant of the OpenAPI front-end: every stored matrix is guarded -/
def OStoreInv (s : Store α) : Prop := ∀ p ∈ s, Guarded p.2

theorem OStoreInv.get {s : Store α} (h : OStoreInv s) {id : String} {M : CSM α}
    (hg : s.get? id = some M) : Guarded M := by
  obtain ⟨p, hp, rfl⟩ := find?_map_mem hg
  exact h p hp

theorem OStoreInv.set {s : Store α} (h : OStoreInv s) (id : String) {M : CSM α} (hM : Guarded M) :
    OStoreInv (s.set id M) := by
  intro p hp
  rcases Assoc.mem_cons_filter hp with rfl | hp
  · exact hM
  · exact h p hp

theorem OStoreInv.erase {s : Store α} (h : OStoreInv s) (id : String) : OStoreInv (s.erase id) := by
  intro p hp
  exact h p (List.mem_filter.mp hp).1

theorem guarded_loadMatrix {s : Store α} (hs : OStoreInv s) {ref : MatrixRef α} {c : CSM α}
    (h : loadMatrix s ref = some c) : Guarded c := by
  cases ref with
  | inline m => exact guarded_loadInlineMatrix h
  | stored id => exact hs.get h
  | objectStorage _ => cases h
  | unknown _ => cases h

theorem vecIn_loadVector {ref : VectorRef α} {p : Vec α} (h : loadVector ref = some p) :
    VecIn p := by
  cases ref with
  | inline v => exact vecIn_loadInlineVector h
  | objectStorage _ => cases h
  | unknown _ => cases h

theorem handleStore_inv {s : Store α} (hs : OStoreInv s) (req : StoreReq α) :
    OStoreInv (handleStore s req).1 := by
  cases req with
  | put id merge body =>
    simp only [handleStore]
    split
    · exact hs
    · rename_i c hl
      have hc := guarded_loadMatrix hs hl
      split
      · exact hs.set id hc
      · rename_i old hg
        split
        · exact hs.set id (guarded_merge (hs.get hg) hc.1)
        · exact hs.set id hc
  | get id =>
    simp only [handleStore]
    split <;> exact hs
  | head id => exact hs
  | delete id =>
    simp only [handleStore]
    split
    · exact hs.erase id
    · exact hs

/-! #### the stages of `prepare` (Proofs/OapiStages.lean) keep the guards -/

theorem loadOptVec_vecIn {o : Option (VectorRef α)} {po : Option (Vec α)}
    (h : loadOptVec o = some po) : ∀ p, po = some p → VecIn p := by
  rintro p rfl
  cases o with
  | none => cases h
  | some ref =>
    obtain ⟨q, hl, hq⟩ := Option.map_eq_some_iff.mp h
    cases hq
    exact vecIn_loadVector hl

theorem alignPre_guard {c0 : CSM α} (hc : Guarded c0) {po : Option (Vec α)}
    (hp : ∀ p, po = some p → VecIn p) :
    Guarded (alignPre c0 po).1 ∧ VecIn (alignPre c0 po).2.1 := by
  cases po with
  | none => exact ⟨hc, vecIn_new (fun e he => by cases he)⟩
  | some p =>
    have hp := hp p rfl
    exact ite_ite_ind (fun y : CSM α × Vec α × Nat => Guarded y.1 ∧ VecIn y.2.1)
      ⟨hc, vecIn_setDim hp _⟩ ⟨guarded_setDim hc _ _, hp⟩ ⟨hc, hp⟩

theorem alignInit_guard {x : CSM α × Vec α × Nat} (hc : Guarded x.1) (hp : VecIn x.2.1)
    {tOpt : Option (Vec α)} (ht : ∀ t, tOpt = some t → VecIn t) :
    Guarded (alignInit x tOpt).1 ∧ VecIn (alignInit x tOpt).2.1 ∧
      ∀ t, (alignInit x tOpt).2.2.1 = some t → VecIn t := by
  cases tOpt with
  | none => exact ⟨hc, hp, fun t h => by cases h⟩
  | some t0 =>
    have ht := ht t0 rfl
    exact ite_ite_ind (fun y : CSM α × Vec α × Option (Vec α) × Nat =>
        Guarded y.1 ∧ VecIn y.2.1 ∧ ∀ t, y.2.2.1 = some t → VecIn t)
      ⟨hc, hp, fun t h => by cases h; exact vecIn_setDim ht _⟩
      ⟨guarded_setDim hc _ _, vecIn_setDim hp _, fun t h => by cases h; exact ht⟩
      ⟨hc, hp, fun t h => by cases h; exact ht⟩

theorem prepare_some {k : Consts α} {s : Store α} {r : ComputeReq α} {eff : Effective α}
    (h : prepare k s r = some eff) :
    ∃ c0 pOpt tOpt, loadMatrix s r.localTrust = some c0 ∧ loadOptVec r.preTrust = some pOpt ∧
      loadOptVec r.initialTrust = some tOpt ∧ guardA r = false ∧ guardB r = false ∧
      OapiL.finish k r (alignInit (alignPre c0 pOpt) tOpt) = some eff :=
  OapiL.prepare_eq_some_iff.mp h

/-- the matrix and vectors handed to `basic.Compute` by the OpenAPI handler are guarded -/
theorem prepare_guard {k : Consts α} {s : Store α} (hs : OStoreInv s) {r : ComputeReq α}
    {eff : Effective α} (h : prepare k s r = some eff) :
    Guarded eff.c ∧ Guarded eff.discounts ∧ VecIn eff.p ∧ (∀ t, eff.t0 = some t → VecIn t) ∧
      eff.discounts.minor = eff.c.major ∧ eff.opts.t0 = eff.t0 ∧
      eff.opts.maxIterations = r.maxIterations := by
  obtain ⟨c0, pOpt, tOpt, h1, h2, h3, _, _, hf⟩ := prepare_some h
  obtain ⟨g1, v1⟩ := alignPre_guard (guarded_loadMatrix hs h1) (loadOptVec_vecIn h2)
  obtain ⟨g2, v2, v3⟩ := alignInit_guard (x := alignPre c0 pOpt) g1 v1 (loadOptVec_vecIn h3)
  obtain ⟨c3, d3, hx, h4, h5, hp, ht, hot, hmx, _⟩ := OapiL.finish_some hf
  obtain ⟨gc4, gd4, vp, hdm⟩ := guarded_pipeline g2 v2 hx h4 h5
  refine ⟨gc4, gd4, hp ▸ vp, ?_, hdm, hot, hmx⟩
  intro t htt
  rw [ht] at htt
  obtain ⟨t', hto, rfl⟩ := Option.map_eq_some_iff.mp htt
  exact vecIn_canonTV (v3 t' hto)

end oapi

/-! #### `loadCsvTrustMatrix` / `loadCsvTrustVector` (`file:` / object-storage bodies) -/

/-- the per-record parser of `loadCsvTrustMatrix` -/
def ocmParse : Record α → Option (Coo α) := fun r =>
  match r with
  | [f0, f1, f2] =>
    match f0.atoi, f1.atoi, f2.float with
    | some i, some j, some v => if i < 0 || j < 0 then none else some ⟨i.toNat, j.toNat, v⟩
    | _, _, _ => none
  | _ => none

theorem oapiCsvMatrix_eq (recs : List (Record α)) :
    oapiCsvMatrix recs =
      match recs with
      | [] => none
      | hdr :: body =>
        if hdr.map (·.raw) != ["i", "j", "v"] then none
        else (body.mapM ocmParse).map fun coos =>
          CSM.newCSR (cooDim coos) (cooDim coos) coos false := by
  unfold oapiCsvMatrix
  cases recs with
  | nil => rfl
  | cons hdr body =>
    simp only
    split
    · rfl
    · change (match body.mapM ocmParse with | none => none | some coos => _) = _
      cases body.mapM ocmParse <;> rfl

/-- record `r` of an object-storage matrix CSV denotes the arc `c` -/
def OcmArc (r : Record α) (c : Coo α) : Prop :=
  ∃ (f0 f1 f2 : Fe.Field α) (i j : Int), r = [f0, f1, f2] ∧ f0.atoi = some i ∧ f1.atoi = some j ∧
    f2.float = some c.val ∧ 0 ≤ i ∧ 0 ≤ j ∧ c.row = i.toNat ∧ c.col = j.toNat

theorem ocmParse_eq_some_iff (r : Record α) (c : Coo α) : ocmParse r = some c ↔ OcmArc r c := by
  obtain ⟨ci, cj, cv⟩ := c
  unfold ocmParse OcmArc
  constructor
  · intro h
    split at h
    · rename_i f0 f1 f2
      split at h
      · rename_i i j v h0 h1 h2
        split at h
        · cases h
        · rename_i hn
          simp only [Bool.or_eq_true, decide_eq_true_eq, not_or] at hn
          cases h
          exact ⟨f0, f1, f2, i, j, rfl, h0, h1, h2, Int.not_lt.mp hn.1, Int.not_lt.mp hn.2, rfl,
            rfl⟩
      · cases h
    · cases h
  · rintro ⟨f0, f1, f2, i, j, rfl, h0, h1, h2, hi, hj, hr, hc⟩
    simp only at h2 hr hc ⊢
    rw [h0, h1, h2]
    simp only
    rw [if_neg (by simp only [Bool.or_eq_true, decide_eq_true_eq, not_or]; omega), hr, hc]

theorem oapiCsvMatrix_some {recs : List (Record α)} {m : CSM α} (h : oapiCsvMatrix recs = some m) :
    ∃ hdr body coos, recs = hdr :: body ∧ hdr.map (·.raw) = ["i", "j", "v"] ∧
      List.Forall₂ OcmArc body coos ∧ m = CSM.newCSR (cooDim coos) (cooDim coos) coos false := by
  rw [oapiCsvMatrix_eq] at h
  cases recs with
  | nil => cases h
  | cons hdr body =>
    simp only at h
    split at h
    · cases h
    · rename_i hh
      obtain ⟨coos, hm, rfl⟩ := Option.map_eq_some_iff.mp h
      exact ⟨hdr, body, coos, rfl, by simpa using hh,
        List.Forall₂.imp (fun r c => (ocmParse_eq_some_iff r c).mp) ((mapM_eq_some_iff _ _ _).mp hm),
        rfl⟩

theorem guarded_oapiCsvMatrix {recs : List (Record α)} {m : CSM α}
    (h : oapiCsvMatrix recs = some m) : Guarded m ∧ m.major = m.minor := by
  obtain ⟨_, _, coos, _, _, _, rfl⟩ := oapiCsvMatrix_some h
  exact ⟨guarded_newCSR (fun _ hc => (lt_cooDim hc).2), rfl⟩

theorem oapiCsvMatrix_bad {hdr : Record α} {body : List (Record α)}
    (h : ∃ r ∈ body, r.length ≠ 3 ∨ ∃ f0 f1 f2, r = [f0, f1, f2] ∧
      ((∀ i, f0.atoi = some i → i < 0) ∨ (∀ j, f1.atoi = some j → j < 0) ∨ f2.float = none)) :
    oapiCsvMatrix (hdr :: body) = none := by
  cases hm : oapiCsvMatrix (hdr :: body) with
  | none => rfl
  | some m =>
    exfalso
    obtain ⟨hdr', body', coos, heq, _, hrel, _⟩ := oapiCsvMatrix_some hm
    simp only [List.cons.injEq] at heq
    obtain ⟨rfl, rfl⟩ := heq
    obtain ⟨r, hr, hbad⟩ := h
    obtain ⟨c, _, f0, f1, f2, i, j, rfl, h0, h1, h2, hi, hj, _⟩ := forall₂_mem_left hrel hr
    rcases hbad with hl | ⟨g0, g1, g2, heq, hb⟩
    · exact hl rfl
    · simp only [List.cons.injEq, and_true] at heq
      obtain ⟨rfl, rfl, rfl⟩ := heq
      rcases hb with hb | hb | hb
      · exact absurd (hb i h0) (Int.not_lt.mpr hi)
      · exact absurd (hb j h1) (Int.not_lt.mpr hj)
      · rw [hb] at h2; cases h2

theorem vecIn_oapiCsvVector {recs : List (Record α)} {v : Vec α} (h : oapiCsvVector recs = some v) :
    VecIn v := by
  unfold oapiCsvVector at h
  split at h
  · cases h
  · split at h
    · cases h
    · with_reducible conv at h => lhs; whnf
      split at h
      · cases h
      · cases h
        exact vecIn_new (fun _ he => lt_entDim he)

/-! ### the result of `compute` / `discountTrustVector` has its indices in range -/

theorem scaleEntries_idx {a : α} {es : List (Entry α)} {x : Entry α} (hx : x ∈ scaleEntries a es) :
    ∃ y ∈ es, y.idx = x.idx := by
  unfold scaleEntries at hx
  split at hx
  · exact ⟨x, hx, rfl⟩
  · simp only [List.mem_filterMap] at hx
    obtain ⟨y, hy, h⟩ := hx
    split at h
    · cases h
    · cases h; exact ⟨y, hy, rfl⟩

theorem vecScale_idx {a : α} {v : Vec α} {x : Entry α} (hx : x ∈ (Vec.scale a v).entries) :
    ∃ y ∈ v.entries, y.idx = x.idx := by
  unfold Vec.scale at hx
  split at hx
  · cases hx
  · exact scaleEntries_idx hx

theorem mulVecEntries_idx {rows : List (Row α)} {v : List (Entry α)} {x : Entry α}
    (hx : x ∈ mulVecEntries rows v) : x.idx < rows.length := by
  unfold mulVecEntries at hx
  simp only [List.mem_filterMap] at hx
  obtain ⟨⟨r, i⟩, hri, h⟩ := hx
  have hi := List.mk_mem_zipIdx_iff_getElem?.mp hri
  have hlt : i < rows.length := by
    by_contra hge
    rw [List.getElem?_eq_none_iff.mpr (Nat.not_lt.mp hge)] at hi
    cases hi
  simp only at h
  split at h
  · cases h
  · cases h; exact hlt

theorem stepEntries_idx {n : Nat} {ct : List (Row α)} (hct : ct.length ≤ n) {ap : List (Entry α)}
    (hap : ∀ x ∈ ap, x.idx < n) (q : α) (t : List (Entry α)) :
    ∀ x ∈ stepEntries ct ap q t, x.idx < n := by
  intro x hx
  unfold stepEntries at hx
  simp only at hx
  obtain ⟨y, hy | hy, hyx⟩ := idx_mem_addEntries hx
  · split at hy
    · cases hy
    · obtain ⟨z, hz, hzy⟩ := scaleEntries_idx hy
      exact hyx ▸ hzy ▸ Nat.lt_of_lt_of_le (mulVecEntries_idx hz) hct
  · exact hyx ▸ hap y hy

theorem iterate_idx {n : Nat} {ct : List (Row α)} (hct : ct.length ≤ n) {ap : List (Entry α)}
    (hap : ∀ x ∈ ap, x.idx < n) (q : α) {t0 : List (Entry α)} (ht0 : ∀ x ∈ t0, x.idx < n)
    (k : Nat) : ∀ x ∈ iterate ct ap q k t0, x.idx < n := by
  induction k with
  | zero => exact ht0
  | succ k ih =>
    unfold iterate
    rw [Function.iterate_succ_apply']
    exact stepEntries_idx hct hap q _

theorem compute_vecIn {fuel : Nat} {c : CSM α} {p : Vec α} {a e : α} {o : ComputeOpts α}
    {res : ComputeResult α} (h : compute fuel c p a e o = .ok res) (hp : VecIn p)
    (ht0 : ∀ t0, o.t0 = some t0 → VecIn t0) : VecIn res.t ∧ res.t.dim = c.major := by
  obtain ⟨⟨v1, v2, v3, v4, _⟩, _, s, hl, hres⟩ := compute_ok_inv fuel c p a e o res h
  rw [hres]
  refine ⟨?_, rfl⟩
  intro x hx
  unfold loopOf at hl
  simp only [(loop_spec _ _ _ _ _ _ _ _ _ fuel _ s _ hl).2.2.1] at hx ⊢
  refine iterate_idx (n := c.major) ?_ ?_ _ ?_ _ x hx
  · rw [Mx.transpose_length, v1]
  · intro y hy
    obtain ⟨z, hz, hzy⟩ := vecScale_idx hy
    exact hzy ▸ v3 ▸ hp z hz
  · cases ho : o.t0 with
    | none => exact fun y hy => v3 ▸ hp y hy
    | some t0 =>
      intro y hy
      simp only [Option.getD_some] at hy
      have := ht0 t0 ho y hy
      rw [v4 t0 ho] at this
      exact this

theorem discountLoop_idx {n : Nat} (t1 : List (Entry α)) (rows : List (Row α × Nat))
    (t : List (Entry α)) (hrows : ∀ p ∈ rows, ∀ x ∈ p.1, x.idx < n) (ht : ∀ x ∈ t, x.idx < n) :
    ∀ x ∈ discountLoop t1 rows t, x.idx < n := by
  fun_induction discountLoop t1 rows t with
  | case1 _ t => exact ht
  | case2 _ t _ => exact ht
  | case3 s t1 row distruster rows t hlt ih => exact ih hrows ht
  | case4 s t1 row rows t hlt ih =>
    apply ih (fun p hp => hrows p (by simp [hp]))
    intro x hx
    obtain ⟨y, hy | hy, hyx⟩ := idx_mem_subEntries hx
    · exact hyx ▸ ht y hy
    · obtain ⟨z, hz, hzy⟩ := vecScale_idx hy
      exact hyx ▸ hzy ▸ hrows (row, s.idx) List.mem_cons_self z hz
  | case5 s t1 row distruster rows t hlt hne ih =>
    exact ih (fun p hp => hrows p (by simp [hp])) ht

theorem discount_vecIn {t : Vec α} {d : CSM α} (ht : VecIn t) (hd : ColsIn t.dim d.rows) :
    VecIn (discountTrustVector t d) ∧ (discountTrustVector t d).dim = t.dim := by
  refine ⟨?_, rfl⟩
  unfold discountTrustVector
  intro x hx
  refine discountLoop_idx (n := t.dim) _ _ _ ?_ ht x hx
  intro p hp y hy
  obtain ⟨r, i⟩ := p
  exact hd r (List.mem_iff_getElem?.mpr ⟨i, List.mk_mem_zipIdx_iff_getElem?.mp hp⟩) y hy

/-! ### gRPC front-end -/

section grpc
open EtVerif.Grpc

theorem lookup_mem {β : Type} {l : List (String × β)} {id : String} {b : β}
    (h : lookup l id = some b) : ∃ p ∈ l, p.2 = b :=
  find?_map_mem h

theorem mem_store {β : Type} {l : List (String × β)} {id : String} {b : β} {p : String × β}
    (h : p ∈ store l id b) : p = (id, b) ∨ p ∈ l := Assoc.mem_cons_filter h

theorem mem_erase {β : Type} {l : List (String × β)} {id : String} {p : String × β}
    (h : p ∈ erase l id) : p ∈ l := (List.mem_filter.mp h).1

/-- the dimension `Update` gives its batch: highest row/column index + 1, squared -/
def gDim (coos : List (Coo α)) : Nat :=
  max (coos.foldl (fun r e => max r (e.row + 1)) 0) (coos.foldl (fun c e => max c (e.col + 1)) 0)

theorem lt_gDim {coos : List (Coo α)} {c : Coo α} (hc : c ∈ coos) :
    c.row < gDim coos ∧ c.col < gDim coos := by
  exact ⟨Nat.lt_of_lt_of_le (foldl_max_ge_mem (fun e : Coo α => e.row + 1) coos 0 hc)
      (Nat.le_max_left _ _),
    Nat.lt_of_lt_of_le (foldl_max_ge_mem (fun e : Coo α => e.col + 1) coos 0 hc)
      (Nat.le_max_right _ _)⟩

/-- the update `tmUpdate` stores on success -/
def tmBatch (coos : List (Coo α)) : CSM α := CSM.newCSR (gDim coos) (gDim coos) coos true

theorem tmUpdate_ok {s : GState α} {id : String} {ts : Nat} {entries : List (MEntry α)}
    {tm : TM α} {coos : List (Coo α)} (hl : lookup s.mats id = some tm)
    (hp : parseMEntries entries = .ok coos) :
    tmUpdate s id ts entries =
      ({ s with mats := store s.mats id ⟨(tm.m.merge (tmBatch coos)).1, max tm.ts ts⟩ }, .ok) := by
  unfold tmUpdate
  rw [hl]
  simp only
  rw [hp]
  rfl

theorem tmUpdate_notFound {s : GState α} {id : String} (ts : Nat) (entries : List (MEntry α))
    (hl : lookup s.mats id = none) : tmUpdate s id ts entries = (s, .notFound) := by
  unfold tmUpdate; rw [hl]

theorem tmUpdate_error {s : GState α} {id : String} {ts : Nat} {entries : List (MEntry α)}
    {tm : TM α} {c : Code} (hl : lookup s.mats id = some tm)
    (hp : parseMEntries entries = .error c) : tmUpdate s id ts entries = (s, c) := by
  unfold tmUpdate
  rw [hl]
  simp only
  rw [hp]

theorem parseMEntries_ok {entries : List (MEntry α)} {coos : List (Coo α)}
    (h : parseMEntries entries = .ok coos) :
    List.Forall₂ (fun (e : MEntry α) (c : Coo α) => ∃ i j : Int, e.truster = some i ∧
      e.trustee = some j ∧ 0 ≤ i ∧ 0 ≤ j ∧ c = ⟨i.toNat, j.toNat, e.value⟩) entries coos := by
  induction entries generalizing coos with
  | nil =>
    unfold parseMEntries at h
    cases h
    exact List.Forall₂.nil
  | cons e es ih =>
    unfold parseMEntries at h
    split at h
    · cases h
    · rename_i i hi
      split at h
      · cases h
      · rename_i j hj
        split at h
        · cases h
        · rename_i hneg
          split at h
          · cases h
          · rename_i rest hrest
            cases h
            refine List.Forall₂.cons ⟨i, j, hi, hj, ?_, ?_, rfl⟩ (ih hrest)
            · simp only [Bool.or_eq_true, decide_eq_true_eq, not_or] at hneg
              exact Int.not_lt.mp hneg.1
            · simp only [Bool.or_eq_true, decide_eq_true_eq, not_or] at hneg
              exact Int.not_lt.mp hneg.2

theorem parseMEntries_negative {entries : List (MEntry α)}
    (hint : ∀ e ∈ entries, e.truster ≠ none ∧ e.trustee ≠ none)
    (hneg : ∃ e ∈ entries, (∃ i, e.truster = some i ∧ i < 0) ∨ ∃ j, e.trustee = some j ∧ j < 0) :
    parseMEntries entries = .error .invalidArgument := by
  induction entries with
  | nil => obtain ⟨e, he, _⟩ := hneg; cases he
  | cons e es ih =>
    unfold parseMEntries
    obtain ⟨h1, h2⟩ := hint e (by simp)
    cases hi : e.truster with
    | none => exact absurd hi h1
    | some i =>
      cases hj : e.trustee with
      | none => exact absurd hj h2
      | some j =>
        simp only
        split
        · rfl
        · rename_i hnn
          simp only [Bool.or_eq_true, decide_eq_true_eq, not_or] at hnn
          have : parseMEntries es = .error .invalidArgument := by
            apply ih (fun e he => hint e (by simp [he]))
            obtain ⟨e', he', hb⟩ := hneg
            rcases List.mem_cons.mp he' with rfl | he'
            · exfalso
              rcases hb with ⟨i', hi', hlt⟩ | ⟨j', hj', hlt⟩
              · rw [hi] at hi'; cases hi'; omega
              · rw [hj] at hj'; cases hj'; omega
            · exact ⟨e', he', hb⟩
          rw [this]

theorem parseVEntries_ok {entries : List (VEntry α)} {es : List (Entry α)}
    (h : parseVEntries entries = .ok es) :
    List.Forall₂ (fun (e : VEntry α) (c : Entry α) => ∃ i : Int, e.trustee = some i ∧
      0 ≤ i ∧ c = ⟨i.toNat, e.value⟩) entries es := by
  induction entries generalizing es with
  | nil =>
    unfold parseVEntries at h
    cases h
    exact List.Forall₂.nil
  | cons e es' ih =>
    unfold parseVEntries at h
    split at h
    · cases h
    · rename_i i hi
      split at h
      · cases h
      · rename_i hneg
        split at h
        · cases h
        · rename_i rest hrest
          cases h
          exact List.Forall₂.cons ⟨i, hi, Int.not_lt.mp hneg, rfl⟩ (ih hrest)

theorem parseVEntries_negative {entries : List (VEntry α)}
    (hint : ∀ e ∈ entries, e.trustee ≠ none)
    (hneg : ∃ e ∈ entries, ∃ i, e.trustee = some i ∧ i < 0) :
    parseVEntries entries = .error .invalidArgument := by
  induction entries with
  | nil => obtain ⟨e, he, _⟩ := hneg; cases he
  | cons e es ih =>
    unfold parseVEntries
    have h1 := hint e (by simp)
    cases hi : e.trustee with
    | none => exact absurd hi h1
    | some i =>
      simp only
      split
      · rfl
      · rename_i hnn
        have : parseVEntries es = .error .invalidArgument := by
          apply ih (fun e he => hint e (by simp [he]))
          obtain ⟨e', he', i', hi', hlt⟩ := hneg
          rcases List.mem_cons.mp he' with rfl | he'
          · exfalso
            rw [hi] at hi'; cases hi'; omega
          · exact ⟨e', he', i', hi', hlt⟩
        rw [this]

theorem tvUpdate_ok {s : GState α} {id : String} {ts : Nat} {entries : List (VEntry α)}
    {tv : TV α} {es : List (Entry α)} (hl : lookup s.vecs id = some tv)
    (hp : parseVEntries entries = .ok es) :
    tvUpdate s id ts entries =
      ({ s with vecs := store s.vecs id ⟨(tv.v.merge (Vec.new (entDim es) es)).1, max tv.ts ts⟩ },
        .ok) := by
  unfold tvUpdate
  rw [hl]
  simp only
  rw [hp]
  rfl

theorem tvUpdate_notFound {s : GState α} {id : String} (ts : Nat) (entries : List (VEntry α))
    (hl : lookup s.vecs id = none) : tvUpdate s id ts entries = (s, .notFound) := by
  unfold tvUpdate; rw [hl]

theorem tvUpdate_error {s : GState α} {id : String} {ts : Nat} {entries : List (VEntry α)}
    {tv : TV α} {c : Code} (hl : lookup s.vecs id = some tv)
    (hp : parseVEntries entries = .error c) : tvUpdate s id ts entries = (s, c) := by
  unfold tvUpdate
  rw [hl]
  simp only
  rw [hp]

/-- store invariant of the gRPC front-end: stored matrices are guarded, stored vectors have
    their indices below their dimension -/
def GInv (s : GState α) : Prop :=
  (∀ p ∈ s.mats, Guarded p.2.m) ∧ (∀ p ∈ s.vecs, VecIn p.2.v)

theorem ginv_init : GInv ({} : GState α) :=
  ⟨fun _ h => (by cases h), fun _ h => (by cases h)⟩

theorem GInv.mat {s : GState α} (h : GInv s) {id : String} {tm : TM α}
    (hl : lookup s.mats id = some tm) : Guarded tm.m := by
  obtain ⟨p, hp, rfl⟩ := lookup_mem hl
  exact h.1 p hp

theorem GInv.vec {s : GState α} (h : GInv s) {id : String} {tv : TV α}
    (hl : lookup s.vecs id = some tv) : VecIn tv.v := by
  obtain ⟨p, hp, rfl⟩ := lookup_mem hl
  exact h.2 p hp

theorem GInv.storeMat {s : GState α} (h : GInv s) (id : String) {tm : TM α} (hm : Guarded tm.m) :
    GInv { s with mats := store s.mats id tm } := by
  refine ⟨?_, h.2⟩
  intro p hp
  rcases mem_store hp with rfl | hp
  · exact hm
  · exact h.1 p hp

theorem GInv.storeVec {s : GState α} (h : GInv s) (id : String) {tv : TV α} (hv : VecIn tv.v) :
    GInv { s with vecs := store s.vecs id tv } := by
  refine ⟨h.1, ?_⟩
  intro p hp
  rcases mem_store hp with rfl | hp
  · exact hv
  · exact h.2 p hp

theorem guarded_tmBatch (coos : List (Coo α)) : Guarded (tmBatch coos) :=
  guarded_newCSR (fun _ hc => (lt_gDim hc).2)

theorem tmUpdate_inv {s : GState α} (h : GInv s) (id : String) (ts : Nat)
    (entries : List (MEntry α)) : GInv (tmUpdate s id ts entries).1 := by
  cases hl : lookup s.mats id with
  | none => rw [tmUpdate_notFound ts entries hl]; exact h
  | some tm =>
    cases hp : parseMEntries entries with
    | error c => rw [tmUpdate_error hl hp]; exact h
    | ok coos =>
      rw [tmUpdate_ok hl hp]
      exact h.storeMat id (tm := ⟨_, _⟩) (guarded_merge (h.mat hl) (guarded_tmBatch coos).1)

theorem tvUpdate_inv {s : GState α} (h : GInv s) (id : String) (ts : Nat)
    (entries : List (VEntry α)) : GInv (tvUpdate s id ts entries).1 := by
  cases hl : lookup s.vecs id with
  | none => rw [tvUpdate_notFound ts entries hl]; exact h
  | some tv =>
    cases hp : parseVEntries entries with
    | error c => rw [tvUpdate_error hl hp]; exact h
    | ok es =>
      rw [tvUpdate_ok hl hp]
      exact h.storeVec id (tv := ⟨_, _⟩)
        (vecIn_merge (h.vec hl) (vecIn_new (fun e he => lt_entDim he)))

theorem tmCreateNamed_inv {s : GState α} (h : GInv s) (id : String) :
    GInv (tmCreateNamed s id).1 := by
  unfold tmCreateNamed; split
  · exact h
  · exact h.storeMat id guarded_empty

theorem tmCreateFresh_inv {s : GState α} (h : GInv s) (id : String) :
    GInv (tmCreateFresh s id).1 := by
  unfold tmCreateFresh; split
  · exact h
  · exact h.storeMat id guarded_empty

theorem tmFlush_inv {s : GState α} (h : GInv s) (id : String) : GInv (tmFlush s id).1 := by
  unfold tmFlush; split
  · exact h
  · exact h.storeMat id guarded_empty

theorem tmDelete_inv {s : GState α} (h : GInv s) (id : String) : GInv (tmDelete s id).1 := by
  unfold tmDelete; split
  · exact ⟨fun p hp => h.1 p (mem_erase hp), h.2⟩
  · exact h

theorem tvCreateNamed_inv {s : GState α} (h : GInv s) (id : String) :
    GInv (tvCreateNamed s id).1 := by
  unfold tvCreateNamed; split
  · exact h
  · exact h.storeVec id (fun _ he => by cases he)

theorem tvFlush_inv {s : GState α} (h : GInv s) (id : String) : GInv (tvFlush s id).1 := by
  unfold tvFlush; split
  · exact h
  · exact h.storeVec id (fun _ he => by cases he)

theorem tvDelete_inv {s : GState α} (h : GInv s) (id : String) : GInv (tvDelete s id).1 := by
  unfold tvDelete; split
  · exact ⟨h.1, fun p hp => h.2 p (mem_erase hp)⟩
  · exact h

/-! #### the staged form of `basicCompute` -/

/-- what `ComputeServer.BasicCompute` (compute.go) has in hand when it calls `basic.Compute` -/
structure BcEff (α : Type) where
  ltm : TM α
  pre : Option (TV α)
  gt : TV α
  c2 : CSM α
  p2 : Vec α
  t2 : Vec α
  c4 : CSM α
  p3 : Vec α
  t3 : Vec α
  d4 : CSM α
  a : α
  e : α
  ts2 : Nat

def bcLoadPre (s : GState α) (q : Params α) : Option (Option (TV α)) :=
  if q.preTrustId == "" then some none
  else match lookup s.vecs q.preTrustId with
    | none => none
    | some pt => some (some pt)

def bcAlignPre (c0 : CSM α) (ts0 : Nat) : Option (TV α) → CSM α × Vec α × Nat
  | none => (c0, Vec.new c0.major [], ts0)
  | some pt =>
    if pt.v.dim < c0.major then (c0, pt.v.setDim c0.major, max ts0 pt.ts)
    else if c0.major < pt.v.dim then (c0.setDim pt.v.dim pt.v.dim, pt.v, max ts0 pt.ts)
    else (c0, pt.v, max ts0 pt.ts)

def bcAlignGt (c1 : CSM α) (p1 : Vec α) (gt : TV α) : CSM α × Vec α × Vec α :=
  if gt.v.dim < p1.dim then (c1, p1, gt.v.setDim p1.dim)
  else if p1.dim < gt.v.dim then (c1.setDim gt.v.dim gt.v.dim, p1.setDim gt.v.dim, gt.v)
  else (c1, p1, gt.v)

def bcParamsOK (q : Params α) : Bool :=
  (match q.alpha with | some a => !(lt a zero || lt one a) | none => true) &&
  (match q.epsilon with | some e => !(le e zero || lt one e) | none => true)

def bcFinish (k : Grpc.Consts α) (q : Params α) (ltm : TM α) (pre : Option (TV α)) (gt : TV α)
    (c2 : CSM α) (p2 t2 : Vec α) (ts2 : Nat) : Except Code (BcEff α) :=
  let p3 := canonicalizeTrustVector p2
  let t3 := canonicalizeTrustVector t2
  match extractDistrust c2 with
  | .error _ => .error .internal
  | .ok (c3, d3) =>
    match canonicalizeLocalTrust c3 (some p3), canonicalizeLocalTrust d3 none with
    | .ok c4, .ok d4 =>
      .ok { ltm := ltm, pre := pre, gt := gt, c2 := c2, p2 := p2, t2 := t2, c4 := c4, p3 := p3,
            t3 := t3, d4 := d4, a := q.alpha.getD k.half,
            e := q.epsilon.getD (div k.epsNum (ofNat c2.major)), ts2 := ts2 }
    | _, _ => .error .internal

def bcPrep (k : Grpc.Consts α) (s : GState α) (q : Params α) : Except Code (BcEff α) :=
  match lookup s.mats q.localTrustId with
  | none => .error .notFound
  | some ltm =>
    if ltm.m.major ≠ ltm.m.minor then .error .internal else
    match bcLoadPre s q with
    | none => .error .notFound
    | some preOpt =>
      match lookup s.vecs q.globalTrustId with
      | none => .error .notFound
      | some gt =>
        let x := bcAlignPre ltm.m ltm.ts preOpt
        let y := bcAlignGt x.1 x.2.1 gt
        if !bcParamsOK q then .error .invalidArgument
        else bcFinish k q ltm preOpt gt y.1 y.2.1 y.2.2 (max x.2.2 gt.ts)

def bcOpts (q : Params α) (E : BcEff α) : ComputeOpts α :=
  { t0 := some E.t3, resultDim := some E.t3.dim,
    maxIterations := if q.maxIterations = 0 then none else some (q.maxIterations : Int) }

def bcWrite (s : GState α) (q : Params α) (E : BcEff α) (res : ComputeResult α) : GState α :=
  let vecs1 :=
    if q.positiveGlobalTrustId == "" then s.vecs
    else match lookup s.vecs q.positiveGlobalTrustId with
      | none => s.vecs
      | some gtp => store s.vecs q.positiveGlobalTrustId ⟨res.t, max gtp.ts E.ts2⟩
  let gtNow := (lookup vecs1 q.globalTrustId).getD E.gt
  { s with vecs := store vecs1 q.globalTrustId ⟨discountTrustVector res.t E.d4, max gtNow.ts E.ts2⟩ }

theorem basicCompute_eq (fuel : Nat) (k : Grpc.Consts α) (s : GState α) (q : Params α) :
    basicCompute fuel k s (some q) =
      match bcPrep k s q with
      | .error c => (s, c)
      | .ok E =>
        match compute fuel E.c4 E.p3 E.a E.e (bcOpts q E) with
        | .error _ => (s, .unavailable)
        | .ok res => (bcWrite s q E res, .ok) := by
  /- Case analysis along the stages.  After each split only the head of either side is reduced,
     unfolding no definition (`with_reducible whnf`; on the right inside the outer `match`).
     `simp` over the unfolded handler would turn the tuple patterns into projections of the
     alignment terms everywhere. -/
  unfold basicCompute bcPrep
  with_reducible conv => lhs; whnf
  cases lookup s.mats q.localTrustId with
  | none => rfl
  | some ltm =>
    with_reducible conv => lhs; whnf
    with_reducible conv => rhs; arg 2; whnf
    by_cases hsq : ltm.m.major ≠ ltm.m.minor
    · rw [if_pos hsq, if_pos hsq]
    · rw [if_neg hsq, if_neg hsq]
      with_reducible conv => lhs; whnf
      conv => lhs; arg 2; change bcLoadPre s q
      cases bcLoadPre s q with
      | none => rfl
      | some preOpt =>
        cases lookup s.vecs q.globalTrustId with
        | none => rfl
        | some gt =>
          with_reducible conv => lhs; whnf
          with_reducible conv => rhs; arg 2; whnf
          -- the aligned triple: written out on the left, `bcAlignGt …` on the right
          generalize hY : (if gt.v.dim < _ then _ else _ : CSM α × Vec α × Vec α) = Y
          generalize hy : bcAlignGt _ _ gt = y
          obtain rfl : Y = y := hY.symm.trans hy
          -- the parameter guard: `!a || !e` on the left, `!(a && e)` on the right
          generalize hb : (!_ || !_) = b
          have hpar : (!bcParamsOK q) = b := (Bool.not_and _ _).trans hb
          rw [hpar]
          cases b with
          | true => rfl
          | false =>
            rw [if_neg Bool.false_ne_true, if_neg Bool.false_ne_true]
            unfold bcFinish
            with_reducible conv => lhs; whnf
            with_reducible conv => rhs; arg 2; whnf
            cases extractDistrust Y.1 with
            | error _ => rfl
            | ok cd =>
              with_reducible conv => lhs; whnf
              with_reducible conv => rhs; arg 2; whnf
              cases canonicalizeLocalTrust cd.1 (some (canonicalizeTrustVector Y.2.1)) <;>
                cases canonicalizeLocalTrust cd.2 none <;> rfl

theorem bcLoadPre_vecIn {s : GState α} (h : GInv s) {q : Params α} {pre : Option (TV α)}
    (hl : bcLoadPre s q = some pre) : ∀ pt, pre = some pt → VecIn pt.v := by
  intro pt hpt
  subst hpt
  unfold bcLoadPre at hl
  split at hl
  · cases hl
  · split at hl
    · cases hl
    · rename_i pt' hpt'
      cases hl
      exact h.vec hpt'

theorem bcAlignPre_guard {c0 : CSM α} (hc : Guarded c0) (ts0 : Nat) {pre : Option (TV α)}
    (hp : ∀ pt, pre = some pt → VecIn pt.v) :
    Guarded (bcAlignPre c0 ts0 pre).1 ∧ VecIn (bcAlignPre c0 ts0 pre).2.1 := by
  cases pre with
  | none => exact ⟨hc, vecIn_new (fun e he => by cases he)⟩
  | some pt =>
    have hp := hp pt rfl
    exact ite_ite_ind (fun y : CSM α × Vec α × Nat => Guarded y.1 ∧ VecIn y.2.1)
      ⟨hc, vecIn_setDim hp _⟩ ⟨guarded_setDim hc _ _, hp⟩ ⟨hc, hp⟩

theorem bcAlignGt_guard {c1 : CSM α} (hc : Guarded c1) {p1 : Vec α} (hp : VecIn p1) {gt : TV α}
    (hg : VecIn gt.v) :
    Guarded (bcAlignGt c1 p1 gt).1 ∧ VecIn (bcAlignGt c1 p1 gt).2.1 ∧
      VecIn (bcAlignGt c1 p1 gt).2.2 := by
  exact ite_ite_ind (fun y : CSM α × Vec α × Vec α => Guarded y.1 ∧ VecIn y.2.1 ∧ VecIn y.2.2)
    ⟨hc, hp, vecIn_setDim hg _⟩ ⟨guarded_setDim hc _ _, vecIn_setDim hp _, hg⟩ ⟨hc, hp, hg⟩

theorem bcFinish_ok {k : Grpc.Consts α} {q : Params α} {ltm : TM α} {pre : Option (TV α)}
    {gt : TV α} {c2 : CSM α} {p2 t2 : Vec α} {ts2 : Nat} {E : BcEff α}
    (h : bcFinish k q ltm pre gt c2 p2 t2 ts2 = .ok E) :
    ∃ c3 d3, extractDistrust c2 = .ok (c3, d3) ∧
      canonicalizeLocalTrust c3 (some (canonicalizeTrustVector p2)) = .ok E.c4 ∧
      canonicalizeLocalTrust d3 none = .ok E.d4 ∧ E.p3 = canonicalizeTrustVector p2 ∧
      E.t3 = canonicalizeTrustVector t2 ∧ E.gt = gt ∧ E.ts2 = ts2 := by
  unfold bcFinish at h
  simp only at h
  split at h
  · cases h
  · rename_i c3 d3 hx
    split at h
    · rename_i c4 d4 h4 h5
      cases h
      exact ⟨c3, d3, hx, h4, h5, rfl, rfl, rfl, rfl⟩
    · cases h

theorem bcPrep_of_loaded (k : Grpc.Consts α) {s : GState α} {q : Params α} {ltm : TM α}
    {pre : Option (TV α)} {gt : TV α} (h1 : lookup s.mats q.localTrustId = some ltm)
    (hsq : ltm.m.major = ltm.m.minor) (hp : bcLoadPre s q = some pre)
    (hg : lookup s.vecs q.globalTrustId = some gt) :
    bcPrep k s q =
      if !bcParamsOK q then .error .invalidArgument
      else bcFinish k q ltm pre gt
        (bcAlignGt (bcAlignPre ltm.m ltm.ts pre).1 (bcAlignPre ltm.m ltm.ts pre).2.1 gt).1
        (bcAlignGt (bcAlignPre ltm.m ltm.ts pre).1 (bcAlignPre ltm.m ltm.ts pre).2.1 gt).2.1
        (bcAlignGt (bcAlignPre ltm.m ltm.ts pre).1 (bcAlignPre ltm.m ltm.ts pre).2.1 gt).2.2
        (max (bcAlignPre ltm.m ltm.ts pre).2.2 gt.ts) := by
  unfold bcPrep
  rw [h1]
  show (if ltm.m.major ≠ ltm.m.minor then _ else _) = _
  rw [if_neg (not_not.mpr hsq), hp, hg]

theorem bcPrep_notFound (k : Grpc.Consts α) {s : GState α} {q : Params α}
    (h : lookup s.mats q.localTrustId = none ∨
      ∃ ltm, lookup s.mats q.localTrustId = some ltm ∧ ltm.m.major = ltm.m.minor ∧
        (bcLoadPre s q = none ∨ lookup s.vecs q.globalTrustId = none)) :
    bcPrep k s q = .error .notFound := by
  unfold bcPrep
  rcases h with h | ⟨ltm, h1, hsq, h⟩
  · rw [h]
  · rw [h1]
    show (if ltm.m.major ≠ ltm.m.minor then _ else _) = _
    rw [if_neg (not_not.mpr hsq)]
    rcases h with hp | hg
    · rw [hp]
    · cases bcLoadPre s q with
      | none => rfl
      | some pre => rw [hg]

theorem bcLoadPre_eq_none_iff {s : GState α} {q : Params α} :
    bcLoadPre s q = none ↔ q.preTrustId ≠ "" ∧ lookup s.vecs q.preTrustId = none := by
  unfold bcLoadPre
  by_cases he : (q.preTrustId == "") = true
  · rw [if_pos he]
    exact ⟨nofun, fun h => absurd (beq_iff_eq.mp he) h.1⟩
  · rw [if_neg he]
    cases lookup s.vecs q.preTrustId with
    | none => exact ⟨fun _ => ⟨fun h => he (beq_iff_eq.mpr h), rfl⟩, fun _ => rfl⟩
    | some pt => exact ⟨nofun, fun h => nomatch h.2⟩

/-- everything `BasicCompute` hands to `basic.Compute` / `DiscountTrustVector` is guarded -/
theorem bcPrep_guard {k : Grpc.Consts α} {s : GState α} (hs : GInv s) {q : Params α}
    {E : BcEff α} (h : bcPrep k s q = .ok E) :
    Guarded E.c4 ∧ Guarded E.d4 ∧ VecIn E.p3 ∧ VecIn E.t3 ∧ E.d4.minor = E.c4.major ∧
      lookup s.vecs q.globalTrustId = some E.gt := by
  unfold bcPrep at h
  split at h
  · cases h
  · rename_i ltm hl
    by_cases hsq : ltm.m.major ≠ ltm.m.minor
    · rw [if_pos hsq] at h; cases h
    · rw [if_neg hsq] at h
      split at h
      · cases h
      · rename_i preOpt hpre
        split at h
        · cases h
        · rename_i gt hgt
          cases hpar : (!bcParamsOK q) with
          | true => rw [hpar] at h; cases h
          | false =>
            rw [hpar, if_neg Bool.false_ne_true] at h
            obtain ⟨g1, v1⟩ := bcAlignPre_guard (hs.mat hl) ltm.ts (bcLoadPre_vecIn hs hpre)
            obtain ⟨g2, v2, v3⟩ := bcAlignGt_guard g1 v1 (hs.vec hgt)
            obtain ⟨c3, d3, hx, h4, h5, hp3, ht3, hgt', _⟩ := bcFinish_ok h
            obtain ⟨gc4, gd4, vp, hdm⟩ := guarded_pipeline g2 v2 hx h4 h5
            exact ⟨gc4, gd4, hp3 ▸ vp, ht3 ▸ vecIn_canonTV v3, hdm, hgt' ▸ hgt⟩

theorem bcWrite_inv {s : GState α} (hs : GInv s) (q : Params α) (E : BcEff α)
    (res : ComputeResult α) (h1 : VecIn res.t) (h2 : VecIn (discountTrustVector res.t E.d4)) :
    GInv (bcWrite s q E res) := by
  unfold bcWrite
  simp only
  have hv1 : ∀ p ∈ (if q.positiveGlobalTrustId == "" then s.vecs
      else match lookup s.vecs q.positiveGlobalTrustId with
        | none => s.vecs
        | some gtp => store s.vecs q.positiveGlobalTrustId ⟨res.t, max gtp.ts E.ts2⟩),
      VecIn p.2.v := by
    split
    · exact hs.2
    · split
      · exact hs.2
      · intro p hp
        rcases mem_store hp with rfl | hp
        · exact h1
        · exact hs.2 p hp
  refine ⟨hs.1, ?_⟩
  intro p hp
  rcases mem_store hp with rfl | hp
  · exact h2
  · exact hv1 p hp

theorem basicCompute_inv {s : GState α} (hs : GInv s) (fuel : Nat) (k : Grpc.Consts α)
    (params : Option (Params α)) : GInv (basicCompute fuel k s params).1 := by
  cases params with
  | none => exact hs
  | some q =>
    rw [basicCompute_eq]
    cases hp : bcPrep k s q with
    | error c => exact hs
    | ok E =>
      simp only
      cases hc : compute fuel E.c4 E.p3 E.a E.e (bcOpts q E) with
      | error _ => exact hs
      | ok res =>
        simp only
        obtain ⟨gc4, gd4, vp, vt, hdm, _⟩ := bcPrep_guard hs hp
        obtain ⟨hr, hrd⟩ := compute_vecIn hc vp (fun t0 ht0 => by
          simp only [bcOpts, Option.some.injEq] at ht0; subst ht0; exact vt)
        refine bcWrite_inv hs q E res hr (discount_vecIn hr ?_).1
        rw [hrd, ← hdm]
        exact gd4.1

theorem basicCompute_unchanged (fuel : Nat) (k : Grpc.Consts α) (s : GState α)
    (params : Option (Params α)) (h : (basicCompute fuel k s params).2 ≠ .ok) :
    (basicCompute fuel k s params).1 = s := by
  cases params with
  | none => rfl
  | some q =>
    rw [basicCompute_eq] at h ⊢
    cases hp : bcPrep k s q with
    | error c => rfl
    | ok E =>
      rw [hp] at h
      simp only at h ⊢
      cases hc : compute fuel E.c4 E.p3 E.a E.e (bcOpts q E) with
      | error _ => rfl
      | ok res => rw [hc] at h; exact absurd rfl h

end grpc

/-! ### the playground -/

/-- the optional names file: `none` = unreadable, `some none` = no file -/
def loadNames (u : Upload α) : Option (Option (List String)) :=
  match u.names with
  | none => some none
  | some recs => (readPeerNames recs []).map some

/-- the dimension rule of `calculate` (engine.go) -/
def alignDims (names : Option (List String)) (lt0 : CSM α) (pt0 : Vec α) :
    Option (CSM α × Vec α) :=
  match names with
  | some ns =>
    let n := ns.length
    if lt0.major > n || pt0.dim > n then none
    else some (if lt0.major < n then lt0.setDim n n else lt0,
               if pt0.dim < n then pt0.setDim n else pt0)
  | none =>
    if lt0.major < pt0.dim then some (lt0.setDim pt0.dim pt0.dim, pt0)
    else if pt0.dim < lt0.major then some (lt0, pt0.setDim lt0.major)
    else some (lt0, pt0)

/-- the displayed peer name -/
def nameOf (names : Option (List String)) (i : Nat) : String :=
  match names with
  | some ns => ns.getD i ""
  | none => s!"Peer {i}"

/-- the unsorted result table -/
def rowsOf (names : Option (List String)) (pt1 t : Vec α) : List (Fe.Row α) :=
  (List.range pt1.dim).map fun i =>
    ({ index := i, name := nameOf names i, score := denE t.entries i,
       flagged := pt1.entries.any (·.idx == i) } : Fe.Row α)

theorem calculate_some {fuel : Nat} {hundred eps : α} {u : Upload α} {rows : List (Fe.Row α)}
    (h : calculate fuel hundred eps u = some rows) :
    ∃ hp names lt0 pt0 lt1 pt1 c d c' d' res,
      u.hunchPercent = some hp ∧ 0 ≤ hp ∧ hp ≤ 100 ∧ loadNames u = some names ∧
      readLocalTrust names u.localTrust = some lt0 ∧ readTrustVector names u.preTrust = some pt0 ∧
      alignDims names lt0 pt0 = some (lt1, pt1) ∧ extractDistrust lt1 = .ok (c, d) ∧
      canonicalizeLocalTrust c (some (canonicalizeTrustVector pt1)) = .ok c' ∧
      canonicalizeLocalTrust d none = .ok d' ∧
      compute fuel c' (canonicalizeTrustVector pt1) (div (ofNat hp.toNat) hundred) eps (pgOpts (div (ofNat hp.toNat) hundred) eps) = .ok res ∧
      rows = sortByScoreDesc (rowsOf names pt1 (discountTrustVector res.t d')) := by
  unfold calculate at h
  split at h
  · cases h
  · rename_i hp hhp
    by_cases hrange : (hp < 0 || hp > 100) = true
    · rw [if_pos hrange] at h; cases h
    · rw [if_neg hrange] at h
      simp only [Bool.or_eq_true, decide_eq_true_eq, not_or] at hrange
      with_reducible conv at h => lhs; whnf
      split at h
      · cases h
      · rename_i names hnames
        split at h
        · rename_i lt0 pt0 hlt hpt
          with_reducible conv at h => lhs; whnf
          split at h
          · cases h
          · rename_i lt1 pt1 hal
            with_reducible conv at h => lhs; whnf
            split at h
            · cases h
            · rename_i c d hx
              split at h
              · rename_i c' d' hc hd
                split at h
                · cases h
                · rename_i res hres
                  cases h
                  refine ⟨hp, names, lt0, pt0, lt1, pt1, c, d, c', d', res, hhp, Int.not_lt.mp hrange.1,
                    Int.not_lt.mp hrange.2,
                    hnames, hlt, hpt, ?_, hx, hc, hd, hres, rfl⟩
                  rw [← hal]
                  unfold alignDims
                  cases names <;> rfl
              · cases h
        · cases h

theorem insertByScoreDesc_perm (e : Fe.Row α) (l : List (Fe.Row α)) :
    (insertByScoreDesc e l).Perm (e :: l) := by
  induction l with
  | nil => exact List.Perm.refl _
  | cons x xs ih =>
    unfold insertByScoreDesc
    split
    · exact List.Perm.refl _
    · exact (ih.cons x).trans (List.Perm.swap e x xs)

theorem sortByScoreDesc_perm (l : List (Fe.Row α)) : (sortByScoreDesc l).Perm l := by
  induction l with
  | nil => exact List.Perm.refl _
  | cons e l ih =>
    show (insertByScoreDesc e (sortByScoreDesc l)).Perm (e :: l)
    exact (insertByScoreDesc_perm e _).trans (ih.cons e)

theorem rowsOf_index (names : Option (List String)) (pt1 t : Vec α) :
    (rowsOf names pt1 t).map (·.index) = List.range pt1.dim := by
  unfold rowsOf
  rw [List.map_map]
  conv => rhs; rw [← List.map_id (List.range pt1.dim)]
  rfl

theorem mem_rowsOf {names : Option (List String)} {pt1 t : Vec α} {row : Fe.Row α}
    (h : row ∈ rowsOf names pt1 t) :
    row.index < pt1.dim ∧ row.name = nameOf names row.index ∧
      row.score = denE t.entries row.index ∧
      row.flagged = pt1.entries.any (·.idx == row.index) := by
  unfold rowsOf at h
  simp only [List.mem_map, List.mem_range] at h
  obtain ⟨i, hi, rfl⟩ := h
  exact ⟨hi, rfl, rfl, rfl⟩

/-- the dimension rule: both inputs are padded (never cut) to the rule's dimension -/
theorem alignDims_some {names : Option (List String)} {lt0 lt1 : CSM α} {pt0 pt1 : Vec α}
    (h : alignDims names lt0 pt0 = some (lt1, pt1)) :
    (match names with
      | some ns => pt1.dim = ns.length
      | none => pt1.dim = max lt0.major pt0.dim) ∧
    lt0.major ≤ pt1.dim ∧ pt0.dim ≤ pt1.dim ∧ pt1.entries = pt0.entries ∧
    (lt1 = lt0 ∨ lt1 = lt0.setDim pt1.dim pt1.dim) ∧ (pt1 = pt0 ∨ pt1 = pt0.setDim pt1.dim) := by
  unfold alignDims at h
  cases names with
  | some ns =>
    with_reducible conv at h => lhs; whnf
    by_cases hbig : (decide (lt0.major > ns.length) || decide (pt0.dim > ns.length)) = true
    · rw [if_pos hbig] at h; cases h
    · rw [if_neg hbig] at h
      cases h
      simp only [Bool.or_eq_true, decide_eq_true_eq, not_or, Nat.not_lt] at hbig
      obtain ⟨hd, he⟩ := vec_pad hbig.2
      rw [hd]
      exact ⟨rfl, hbig.1, hbig.2, he, (ite_eq_or_eq _ _ _).symm, (ite_eq_or_eq _ _ _).symm⟩
  | none =>
    with_reducible conv at h => lhs; whnf
    by_cases h1 : lt0.major < pt0.dim
    · rw [if_pos h1] at h
      cases h
      exact ⟨(Nat.max_eq_right (Nat.le_of_lt h1)).symm, Nat.le_of_lt h1, Nat.le_refl _, rfl,
        Or.inr rfl, Or.inl rfl⟩
    · rw [if_neg h1] at h
      have hle := Nat.not_lt.mp h1
      by_cases h2 : pt0.dim < lt0.major
      · rw [if_pos h2] at h
        cases h
        have hd := vec_setDim_dim pt0 lt0.major
        exact ⟨hd.trans (Nat.max_eq_left hle).symm, Nat.le_of_eq hd.symm,
          Nat.le_trans hle (Nat.le_of_eq hd.symm), by rw [vec_setDim_of_le _ hle],
          Or.inl rfl, Or.inr (congrArg pt0.setDim hd.symm)⟩
      · rw [if_neg h2] at h
        cases h
        exact ⟨(Nat.max_eq_right (Nat.not_lt.mp h2)).symm, Nat.not_lt.mp h2, Nat.le_refl _, rfl,
          Or.inl rfl, Or.inl rfl⟩

theorem guarded_readLocalTrust {names : Option (List String)} {recs : List (Record α)} {m : CSM α}
    (h : readLocalTrust names recs = some m) : Guarded m ∧ m.major = m.minor := by
  obtain ⟨coos, _, rfl⟩ := readLocalTrust_some h
  exact ⟨guarded_newCSR (fun _ hc => (lt_cooDim hc).2), rfl⟩

theorem vecIn_readTrustVector {names : Option (List String)} {recs : List (Record α)} {v : Vec α}
    (h : readTrustVector names recs = some v) : VecIn v := by
  obtain ⟨es, _, rfl⟩ := readTrustVector_some h
  exact vecIn_new (fun _ he => lt_entDim he)

theorem alignDims_guard {names : Option (List String)} {lt0 lt1 : CSM α} {pt0 pt1 : Vec α}
    (h : alignDims names lt0 pt0 = some (lt1, pt1)) (hl : Guarded lt0) (hp : VecIn pt0) :
    Guarded lt1 ∧ VecIn pt1 := by
  obtain ⟨_, _, _, _, h1, h2⟩ := alignDims_some h
  constructor
  · rcases h1 with rfl | h1
    · exact hl
    · rw [h1]; exact guarded_setDim hl _ _
  · rcases h2 with rfl | h2
    · exact hp
    · rw [h2]; exact vecIn_setDim hp _

section field
variable {K : Type} [_root_.Field K] [LinearOrder K]

theorem sorted_insertByScoreDesc (e : Fe.Row K) {l : List (Fe.Row K)}
    (hl : l.Pairwise (fun a b => b.score ≤ a.score)) :
    (insertByScoreDesc e l).Pairwise (fun a b => b.score ≤ a.score) := by
  induction l with
  | nil => exact List.pairwise_singleton _ _
  | cons x xs ih =>
    unfold insertByScoreDesc
    simp only [s_lt, decide_eq_true_eq]
    split
    · rename_i hlt
      refine List.pairwise_cons.mpr ⟨?_, hl⟩
      intro y hy
      rcases List.mem_cons.mp hy with rfl | hy
      · exact le_of_lt hlt
      · exact le_trans ((List.pairwise_cons.mp hl).1 y hy) (le_of_lt hlt)
    · rename_i hlt
      refine List.pairwise_cons.mpr ⟨?_, ih (List.pairwise_cons.mp hl).2⟩
      intro y hy
      rcases List.mem_cons.mp ((insertByScoreDesc_perm e xs).mem_iff.mp hy) with rfl | hy
      · exact not_lt.mp hlt
      · exact (List.pairwise_cons.mp hl).1 y hy

theorem sorted_sortByScoreDesc (l : List (Fe.Row K)) :
    (sortByScoreDesc l).Pairwise (fun a b => b.score ≤ a.score) := by
  induction l with
  | nil => exact List.Pairwise.nil
  | cons e l ih => exact sorted_insertByScoreDesc e ih

end field

end EtVerif.FeL
