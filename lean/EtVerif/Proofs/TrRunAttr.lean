/-
  The simp set `go_run`, in a file of its own: an attribute cannot be used in the file that registers it
  (Proofs/TrBridge.lean fills it).
-/
import Lean
/-- "Run one statement": unfolds the statement combinators of `GoSem` and the `Except` monad operations
    they are written with. -/
register_simp_attr go_run
