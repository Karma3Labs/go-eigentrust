/-
  Refinement of the translated `basic.Compute` (Gen/Translated.lean, generated from /repo) to the
  hand-written model `compute` (Model/Basic.lean).

  Main results:
  * `FollowsLoop.loop`   — a translated loop whose body matches every kind of turn of `computeLoop` (`Turn`)
                           follows `computeLoop` (induction on the fuel); `FollowsLoop.spec` — such a loop, entered
                           after the validations and followed by the epilogue, delivers what `compute` does.  Both
                           are over any state type: Proofs/TrComputeSrc.lean instantiates them too;
  * `Compute_follows`    — the loop of the translated `Compute` is such a loop, under the invariant `CInv`;
  * `Compute_body_elim`  — case analysis of the body: every statement before the loop executed symbolically
                           (refusal at `c.Dim()`, refusal at a validation, or loop + epilogue from a `CStart` state);
  * `Compute_schedule`, `Compute_default_schedule` — the schedule computed by the prefix;
  * `Compute_refines_ok_partial`  — a properly ended run of the model is computed exactly (extra hypothesis
                                    `fuel < 2^63-1`: Go's "unlimited" is `math.MaxInt`, the model's is `none`);
  * `Compute_refines_err_partial` — when the model refuses, Go returns `nil, err` and never panics.
-/
import EtVerif.Proofs.TrAddSub
import EtVerif.Proofs.TrScaleVec
import EtVerif.Proofs.TrMatSmall
import EtVerif.Proofs.TrTranspose
import EtVerif.Proofs.TrVecSmall
import EtVerif.Proofs.TrFlatTail
import EtVerif.Proofs.TrComputeBridge
namespace EtVerif.Tr
open EtVerif EtVerif.GoSem EtVerif.Gen Scalar
variable {α : Type} [Scalar α]
set_option linter.unusedSectionVars false

theorem map_map_entryOfG (rows : List (Row α)) :
    (rows.map toGs).map (fun r => r.map entryOfG) = rows := by
  induction rows with
  | nil => rfl
  | cons r rows ih => simp only [List.map_cons, map_entryOfG_toGs, ih]

theorem mulVecEntries_length_le (rows : List (Row α)) (v : List (Entry α)) :
    (mulVecEntries rows v).length ≤ rows.length := by
  have := List.length_filterMap_le
    (fun (x : Row α × Nat) => if isZero (vecDot x.1 v) then none else some (⟨x.2, vecDot x.1 v⟩ : Entry α))
    rows.zipIdx
  simpa [mulVecEntries] using this

theorem addEntries_ne_nil (x ap : List (Entry α)) (h : ap ≠ []) : addEntries x ap ≠ [] := by
  cases x with
  | nil => simpa [addEntries] using h
  | cons a x =>
    cases ap with
    | nil => exact absurd rfl h
    | cons b ap =>
      rw [addEntries]
      split
      · simp
      · split <;> simp

theorem stepEntries_ne_nil (ct : List (Row α)) (ap : List (Entry α)) (x : α) (t : List (Entry α))
    (h : ap ≠ []) : stepEntries ct ap x t ≠ [] :=
  addEntries_ne_nil _ _ h

theorem foldl_scatterRow_length (rows : List (Row α × Nat)) :
    ∀ (t : List (Row α)), (rows.foldl (fun t (p : Row α × Nat) => scatterRow t p.2 p.1) t).length = t.length := by
  induction rows with
  | nil => intro t; rfl
  | cons r rows ih => intro t; rw [List.foldl_cons, ih, scatterRow_length]

theorem transpose_rows_length (c : CSM α) : c.transpose.rows.length = c.minor := by
  simp only [CSM.transpose]
  rw [foldl_scatterRow_length]
  simp

theorem scale_entries_eq (x : α) (n : Nat) (es : List (Entry α)) :
    (Vec.scale x ⟨n, es⟩).entries = if isZero x then [] else scaleEntries x es := by
  simp only [Vec.scale]
  split <;> rfl

theorem stepEntries_length_le (ct : List (Row α)) (ap : List (Entry α)) (x : α) (t : List (Entry α)) :
    (stepEntries ct ap x t).length ≤ ct.length + ap.length := by
  have h1 := mulVecEntries_length_le ct t
  have h2 := scale_entries_length_le x (⟨0, mulVecEntries ct t⟩ : Vec α)
  rw [scale_entries_eq] at h2
  simp only at h2
  have h3 := addEntries_length_le (if isZero x then [] else scaleEntries x (mulVecEntries ct t)) ap
  simp only [stepEntries]
  omega

/-! ### the three calls of one power iteration -/

/-- `MulVec`, `ScaleVec`, `AddVec` of one iteration compute the model's `stepEntries`. -/
theorem step_calls (capO : Nat → Int) (fuel : Nat) (n : Nat) (ct : CSM α) (t ap : List (Entry α)) (a : α)
    (hmaj : ct.major = n) (hmin : ct.minor = n) (hlen : ct.rows.length + ap.length ≤ fuel) :
    ∃ (r1 : Vector_MulVec.St α × Option GoError) (r2 : Vector_ScaleVec.St α × Unit)
      (r3 : Vector_AddVec.St α × Option GoError),
      Gen.Vector_MulVec (toGV ⟨n, t⟩) (toGM ct) (toGV ⟨n, t⟩) = .ok r1 ∧ r1.2 = none ∧
      Gen.Vector_ScaleVec r1.1.v (Scalar.sub (Scalar.one : α) a) r1.1.v true = .ok r2 ∧
      Gen.Vector_AddVec capO fuel r2.1.v r2.1.v (toGV ⟨n, ap⟩) = .ok r3 ∧ r3.2 = none ∧
      r3.1.v = toGV ⟨n, stepEntries ct.rows ap (Scalar.sub (Scalar.one : α) a) t⟩ := by
  subst hmaj
  have h1 : Gen.Vector_MulVec (toGV ⟨ct.major, t⟩) (toGM ct) (toGV ⟨ct.major, t⟩) =
      .ok (⟨toGV ⟨ct.major, mulVecEntries ct.rows t⟩⟩, none) := by
    have hne : ¬ ((ct.major : Int) ≠ (ct.minor : Int)) := by omega
    simp only [Gen.Vector_MulVec, toGM_MajorDim, toGM_MinorDim, hne, if_false, toGV_Dim, ne_eq,
      not_true_eq_false, toGM_Entries, toGV_Entries, map_map_entryOfG, map_entryOfG_toGs, map_entryToG]
    rfl
  obtain ⟨r2, h2, h2v⟩ := map_eq_ok (Vector_ScaleVec_refines
    (toGV ⟨ct.major, mulVecEntries ct.rows t⟩) (Scalar.sub (Scalar.one : α) a)
    ⟨ct.major, mulVecEntries ct.rows t⟩ true (fun _ => rfl))
  have hl1 := scale_entries_length_le (Scalar.sub (Scalar.one : α) a)
    (⟨ct.major, mulVecEntries ct.rows t⟩ : Vec α)
  have hl2 := mulVecEntries_length_le ct.rows t
  have h3 := Vector_AddVec_refines capO fuel r2.1.v
    (Vec.scale (Scalar.sub (Scalar.one : α) a) ⟨ct.major, mulVecEntries ct.rows t⟩) ⟨ct.major, ap⟩
    (by simp only at hl1 ⊢; omega)
  simp only [Vec.addVec, scale_dim, ne_eq, not_true_eq_false, if_false] at h3
  obtain ⟨r3, h3, h3v⟩ := map_eq_ok h3
  simp only [Prod.mk.injEq] at h3v
  refine ⟨_, r2, r3, h1, rfl, h2, ?_, h3v.2, ?_⟩
  · rw [← h2v] at h3; exact h3
  · rw [h3v.1, stepEntries, scale_entries_eq]

/-! ### one iteration of the loop body, the calls abstracted by their results -/

/-- not a check iteration: only the power step. -/
theorem body_nocheck_generic (capO : Nat → Int) (fuel : Nat) (s : Compute.St α)
    (hnc : Int.tmod (s.iter - s.minIters) s.checkFreq = 0 → ¬ (s.iter ≥ s.minIters))
    (r1 : Vector_MulVec.St α × Option GoError) (r2 : Vector_ScaleVec.St α × Unit)
    (r3 : Vector_AddVec.St α × Option GoError)
    (h1 : Gen.Vector_MulVec s.t1 s.ct s.t1 = .ok r1) (h1e : r1.2 = none)
    (h2 : Gen.Vector_ScaleVec r1.1.v (Scalar.sub (Scalar.one : α) s.a) r1.1.v true = .ok r2)
    (h3 : Gen.Vector_AddVec capO fuel r2.1.v r2.1.v s.ap = .ok r3) (h3e : r3.2 = none) :
    Compute.loop1_body capO fuel s = .ok ({ s with t1 := r3.1.v, err := none }, .next) := by
  by_cases hm : Int.tmod (s.iter - s.minIters) s.checkFreq = 0
  · have hge := hnc hm
    simp only [go_run, Compute.loop1_body, hm, hge, decide_true, decide_false, h1, h1e, h2, h3, h3e,
      Option.isNone_none, Bool.not_true]
  · simp only [go_run, Compute.loop1_body, hm, decide_false, h1, h1e, h2, h3, h3e, Option.isNone_none, Bool.not_true]

/-- a check iteration whose delta is not finite: `return nil, err`. -/
theorem body_nonfinite_generic (capO : Nat → Int) (fuel : Nat) (s : Compute.St α)
    (hm : Int.tmod (s.iter - s.minIters) s.checkFreq = 0) (hge : s.iter ≥ s.minIters)
    (hnf : nonFinite (s.convChecker.c.update (s.t1.Entries.map entryOfG)).dsq = true) :
    ∃ s' msg, Compute.loop1_body capO fuel s = .ok (s', .ret (GVector.zero, some msg)) := by
  exact ⟨_, _, by
    simp only [go_run, Compute.loop1_body, hm, hge, decide_true, Gen.ConvergenceChecker_Update, hnf, if_true,
      Option.isNone_some, Bool.not_false]
    rfl⟩

/-- a check iteration that meets the exit criteria: `break`. -/
theorem body_break_generic (capO : Nat → Int) (fuel : Nat) (s : Compute.St α)
    (hm : Int.tmod (s.iter - s.minIters) s.checkFreq = 0) (hge : s.iter ≥ s.minIters)
    (hnf : nonFinite (s.convChecker.c.update (s.t1.Entries.map entryOfG)).dsq = false)
    (rf : FlatTailChecker_Update.St α × Unit) (rr : FlatTailChecker_Reached.St α × Bool)
    (hf : Gen.FlatTailChecker_Update s.flatTailChecker s.t1
      (s.convChecker.c.update (s.t1.Entries.map entryOfG)).dsq = .ok rf)
    (hsq : Scalar.sqrtLe (s.convChecker.c.update (s.t1.Entries.map entryOfG)).dsq s.convChecker.e = true)
    (hr : Gen.FlatTailChecker_Reached rf.1.c = .ok rr) (hrr : rr.2 = true) :
    Compute.loop1_body capO fuel s =
      .ok ({ s with convChecker := { s.convChecker with
                      c := s.convChecker.c.update (s.t1.Entries.map entryOfG) },
                    err := none, flatTailChecker := rf.1.c }, .brk 1) := by
  simp only [go_run, Compute.loop1_body, hm, hge, decide_true, Gen.ConvergenceChecker_Update,
    Gen.ConvergenceChecker_Delta, Gen.ConvergenceChecker_Converged, hnf, if_false, Bool.false_eq_true,
    Option.isNone_none, Bool.not_true, hf, hsq, if_true, hr, hrr]

/-- a check iteration that goes on: the checkers are updated, then the power step. -/
theorem body_check_generic (capO : Nat → Int) (fuel : Nat) (s : Compute.St α)
    (hm : Int.tmod (s.iter - s.minIters) s.checkFreq = 0) (hge : s.iter ≥ s.minIters)
    (hnf : nonFinite (s.convChecker.c.update (s.t1.Entries.map entryOfG)).dsq = false)
    (rf : FlatTailChecker_Update.St α × Unit)
    (hf : Gen.FlatTailChecker_Update s.flatTailChecker s.t1
      (s.convChecker.c.update (s.t1.Entries.map entryOfG)).dsq = .ok rf)
    (hgo : Scalar.sqrtLe (s.convChecker.c.update (s.t1.Entries.map entryOfG)).dsq s.convChecker.e = true →
      ∃ rr, Gen.FlatTailChecker_Reached rf.1.c = .ok rr ∧ rr.2 = false)
    (r1 : Vector_MulVec.St α × Option GoError) (r2 : Vector_ScaleVec.St α × Unit)
    (r3 : Vector_AddVec.St α × Option GoError)
    (h1 : Gen.Vector_MulVec s.t1 s.ct s.t1 = .ok r1) (h1e : r1.2 = none)
    (h2 : Gen.Vector_ScaleVec r1.1.v (Scalar.sub (Scalar.one : α) s.a) r1.1.v true = .ok r2)
    (h3 : Gen.Vector_AddVec capO fuel r2.1.v r2.1.v s.ap = .ok r3) (h3e : r3.2 = none) :
    Compute.loop1_body capO fuel s =
      .ok ({ s with convChecker := { s.convChecker with
                      c := s.convChecker.c.update (s.t1.Entries.map entryOfG) },
                    err := none, flatTailChecker := rf.1.c, t1 := r3.1.v }, .next) := by
  cases hsq : Scalar.sqrtLe (s.convChecker.c.update (s.t1.Entries.map entryOfG)).dsq s.convChecker.e with
  | false =>
    simp only [go_run, Compute.loop1_body, hm, hge, decide_true, Gen.ConvergenceChecker_Update,
      Gen.ConvergenceChecker_Delta, Gen.ConvergenceChecker_Converged, hnf, if_false, Bool.false_eq_true,
      Option.isNone_none, Bool.not_true, hf, hsq, h1, h1e, h2, h3, h3e]
  | true =>
    obtain ⟨rr, hr, hrr⟩ := hgo hsq
    simp only [go_run, Compute.loop1_body, hm, hge, decide_true, Gen.ConvergenceChecker_Update,
      Gen.ConvergenceChecker_Delta, Gen.ConvergenceChecker_Converged, hnf, if_false, Bool.false_eq_true,
      Option.isNone_none, Bool.not_true, hf, hsq, if_true, hr, hrr, h1, h1e, h2, h3, h3e]

/-! ### the check schedule: Go's `(iter-minIters)%checkFreq == 0` then `iter >= minIters` vs `isCheck` -/

theorem isCheck_true (minI freq iter : Nat) (h : isCheck minI freq iter = true) :
    Int.tmod ((iter : Int) - (minI : Int)) (freq : Int) = 0 ∧ (iter : Int) ≥ (minI : Int) := by
  simp only [isCheck, Bool.and_eq_true, decide_eq_true_eq, beq_iff_eq] at h
  obtain ⟨h1, h2⟩ := h
  have e : (iter : Int) - (minI : Int) = ((iter - minI : Nat) : Int) := by omega
  refine ⟨?_, by omega⟩
  rw [e, ← Int.ofNat_tmod, h2]
  rfl

theorem isCheck_false (minI freq iter : Nat) (h : isCheck minI freq iter = false) :
    Int.tmod ((iter : Int) - (minI : Int)) (freq : Int) = 0 → ¬ ((iter : Int) ≥ (minI : Int)) := by
  intro hm hge
  have h1 : iter ≥ minI := by omega
  have e : (iter : Int) - (minI : Int) = ((iter - minI : Nat) : Int) := by omega
  rw [e, ← Int.ofNat_tmod] at hm
  have h2 : (iter - minI) % freq = 0 := by exact_mod_cast hm
  simp [isCheck, h1, h2] at h

theorem isCheck_pos {minI freq iter : Nat} (hminI : 0 < minI) (h : isCheck minI freq iter = true) : 0 < iter := by
  simp only [isCheck, Bool.and_eq_true, decide_eq_true_eq] at h
  exact Nat.lt_of_lt_of_le hminI h.1

/-! ### the model's loop, turn by turn -/

section turn
variable (rows : List (Row α)) (ap : List (Entry α)) (x e : α) (minI freq : Nat) (maxI : Option Nat) (fl nl : Nat)

/-- The ways one turn of `computeLoop` from `ls` (past the `maxIterations` test) ends in `(ls', by_)`;
    `R` is the recursive call. -/
inductive Turn (R : LoopState α → LoopState α × EndedBy) (ls : LoopState α) : LoopState α → EndedBy → Prop
  | nocheck {ls' by_} : isCheck minI freq ls.iter = false →
      R { ls with t1 := stepEntries rows ap x ls.t1, iter := ls.iter + 1 } = (ls', by_) → Turn R ls ls' by_
  | nonfinite : isCheck minI freq ls.iter = true → nonFinite (ls.conv.update ls.t1).dsq = true →
      Turn R ls { ls with conv := ls.conv.update ls.t1,
                          stats := ls.stats.update (rankOf ls.t1 nl) (ls.conv.update ls.t1).dsq,
                          checks := ls.iter :: ls.checks } .nonFinite
  | criteria : isCheck minI freq ls.iter = true → nonFinite (ls.conv.update ls.t1).dsq = false →
      Scalar.sqrtLe (ls.conv.update ls.t1).dsq e = true →
      (ls.stats.update (rankOf ls.t1 nl) (ls.conv.update ls.t1).dsq).length ≥ fl →
      Turn R ls { ls with conv := ls.conv.update ls.t1,
                          stats := ls.stats.update (rankOf ls.t1 nl) (ls.conv.update ls.t1).dsq,
                          checks := ls.iter :: ls.checks } .criteria
  | check {ls' by_} : isCheck minI freq ls.iter = true → nonFinite (ls.conv.update ls.t1).dsq = false →
      (Scalar.sqrtLe (ls.conv.update ls.t1).dsq e &&
        decide ((ls.stats.update (rankOf ls.t1 nl) (ls.conv.update ls.t1).dsq).length ≥ fl)) = false →
      R { t1 := stepEntries rows ap x ls.t1, iter := ls.iter + 1, conv := ls.conv.update ls.t1,
          stats := ls.stats.update (rankOf ls.t1 nl) (ls.conv.update ls.t1).dsq,
          checks := ls.iter :: ls.checks } = (ls', by_) → Turn R ls ls' by_

variable {rows ap x e minI freq maxI fl nl}

theorem computeLoop_succ_cases {k : Nat} {ls ls' : LoopState α} {by_ : EndedBy}
    (h : computeLoop rows ap x e minI freq maxI fl nl (k + 1) ls = (ls', by_)) :
    ((∃ m, maxI = some m ∧ m ≤ ls.iter) ∧ ls' = ls ∧ by_ = .maxIterations) ∨
    ((∀ m, maxI = some m → ls.iter < m) ∧
      Turn rows ap x e minI freq fl nl (computeLoop rows ap x e minI freq maxI fl nl k) ls ls' by_) := by
  simp only [computeLoop] at h
  by_cases hmax : ∃ m, maxI = some m ∧ m ≤ ls.iter
  · obtain ⟨m, rfl, hle⟩ := hmax
    rw [if_pos (decide_eq_true hle)] at h
    simp only [Prod.mk.injEq] at h
    exact .inl ⟨⟨m, rfl, hle⟩, h.1.symm, h.2.symm⟩
  have hlt : ∀ m, maxI = some m → ls.iter < m := fun m hm =>
    Nat.lt_of_not_le fun hle => hmax ⟨m, hm, hle⟩
  refine .inr ⟨hlt, ?_⟩
  rw [if_neg] at h
  · cases hck : isCheck minI freq ls.iter with
    | false =>
      simp only [hck, Bool.false_eq_true, if_false, Bool.false_and] at h
      exact .nocheck hck h
    | true =>
      simp only [hck, if_true, Bool.true_and] at h
      cases hnf : nonFinite (ls.conv.update ls.t1).dsq with
      | true =>
        simp only [hnf, if_true, Prod.mk.injEq] at h
        rw [← h.1, ← h.2]
        exact .nonfinite hck hnf
      | false =>
        simp only [hnf, Bool.false_eq_true, if_false] at h
        split at h
        · rename_i hcrit
          simp only [Prod.mk.injEq] at h
          simp only [Bool.and_eq_true, decide_eq_true_eq] at hcrit
          rw [← h.1, ← h.2]
          exact .criteria hck hnf hcrit.1 hcrit.2
        · rename_i hcrit
          exact .check hck hnf (Bool.eq_false_iff.mpr hcrit) h
  · cases maxI with
    | none => exact Bool.false_ne_true
    | some m => exact fun hge => Nat.not_le_of_lt (hlt m rfl) (of_decide_eq_true hge)
end turn

/-! ### the loop, for any translation of its body -/

/-- Go's `maxIters` for the model's `maxI` (`0`, unlimited, is replaced by `math.MaxInt`). -/
def goMax (maxI : Option Nat) : Int :=
  match maxI with
  | some m => (m : Int)
  | none => 9223372036854775807

section follows
variable {σ : Type} (cond : σ → R Bool) (body post : Stm σ (GVector α × Option GoError))
  (Inv : σ → LoopState α → Prop) (rows : List (Row α)) (ap : List (Entry α)) (x e : α) (minI freq : Nat)
  (M : Int) (fl nl L : Nat)

/-- What is asked of a translation (`cond`, `body`, `post` over a Go state `σ`) of the loop of `Compute`, `Inv`
    tying the Go state to the model's `LoopState`: the Go body matches every kind of turn of `computeLoop`.
    The length bounds given at a check (iterate `≤ rows.length + ap.length`, checker's vector `≤ L`) are there
    because a translated `SubVec` needs fuel for the two. -/
structure FollowsLoop : Prop where
  cond : ∀ {s ls}, Inv s ls → cond s = .ok (decide ((ls.iter : Int) < M))
  post : ∀ {s ls}, Inv s ls → ∃ s2, post s = .ok (s2, .next) ∧ Inv s2 { ls with iter := ls.iter + 1 }
  nocheck : ∀ {s ls}, Inv s ls → isCheck minI freq ls.iter = false →
    ∃ s1, body s = .ok (s1, .next) ∧ Inv s1 { ls with t1 := stepEntries rows ap x ls.t1 }
  nonfinite : ∀ {s ls}, Inv s ls → ls.t1.length ≤ rows.length + ap.length → ls.conv.t.length ≤ L →
    isCheck minI freq ls.iter = true → nonFinite (ls.conv.update ls.t1).dsq = true →
    ∃ s' msg, body s = .ok (s', .ret (GVector.zero, some msg))
  criteria : ∀ {s ls}, Inv s ls → ls.t1 ≠ [] → ls.t1.length ≤ rows.length + ap.length → ls.conv.t.length ≤ L →
    isCheck minI freq ls.iter = true → nonFinite (ls.conv.update ls.t1).dsq = false →
    Scalar.sqrtLe (ls.conv.update ls.t1).dsq e = true →
    (ls.stats.update (rankOf ls.t1 nl) (ls.conv.update ls.t1).dsq).length ≥ fl →
    ∃ s1, body s = .ok (s1, .brk 1) ∧
      Inv s1 { ls with conv := ls.conv.update ls.t1,
                       stats := ls.stats.update (rankOf ls.t1 nl) (ls.conv.update ls.t1).dsq,
                       checks := ls.iter :: ls.checks }
  check : ∀ {s ls}, Inv s ls → ls.t1 ≠ [] → ls.t1.length ≤ rows.length + ap.length → ls.conv.t.length ≤ L →
    isCheck minI freq ls.iter = true → nonFinite (ls.conv.update ls.t1).dsq = false →
    (Scalar.sqrtLe (ls.conv.update ls.t1).dsq e &&
      decide ((ls.stats.update (rankOf ls.t1 nl) (ls.conv.update ls.t1).dsq).length ≥ fl)) = false →
    ∃ s1, body s = .ok (s1, .next) ∧
      Inv s1 { t1 := stepEntries rows ap x ls.t1, iter := ls.iter, conv := ls.conv.update ls.t1,
               stats := ls.stats.update (rankOf ls.t1 nl) (ls.conv.update ls.t1).dsq,
               checks := ls.iter :: ls.checks }

variable {cond body post Inv rows ap x e minI freq fl nl L}

/-- A translated loop that matches every kind of turn follows `computeLoop`: when the model's loop ends by the
    criteria or by `maxIterations`, the Go loop ends normally in a state tied to the model's; when it ends by a
    non-finite delta, the Go loop returns `nil, err`. -/
theorem FollowsLoop.loop {maxI : Option Nat}
    (H : FollowsLoop cond body post Inv rows ap x e minI freq (goMax maxI) fl nl L)
    (hB : rows.length + ap.length ≤ L) (hminI : 0 < minI) (hap : ap ≠ []) :
    ∀ (k : Nat) (s : σ) (ls : LoopState α), Inv s ls →
      (0 < ls.iter → ls.t1 ≠ [] ∧ ls.t1.length ≤ rows.length + ap.length) → ls.conv.t.length ≤ L →
      (maxI = none → ls.iter + k ≤ 9223372036854775807) →
      ∀ (ls' : LoopState α) (by_ : EndedBy),
        computeLoop rows ap x e minI freq maxI fl nl k ls = (ls', by_) →
        ((by_ = .criteria ∨ by_ = .maxIterations) →
          ∃ s', Stm.loop 1 cond body post k s = .ok (s', .next) ∧ Inv s' ls') ∧
        (by_ = .nonFinite →
          ∃ s' msg, Stm.loop 1 cond body post k s = .ok (s', .ret (GVector.zero, some msg))) := by
  intro k
  induction k with
  | zero =>
    intro s ls _ _ _ _ ls' by_ h
    simp only [computeLoop, Prod.mk.injEq] at h
    obtain ⟨rfl, rfl⟩ := h
    exact ⟨fun hh => (by rcases hh with hh | hh <;> cases hh), fun hh => (by cases hh)⟩
  | succ k ih =>
    intro s ls hinv hpos hcl hk ls' by_ h
    have hc0 := H.cond hinv
    rcases computeLoop_succ_cases h with ⟨⟨m, rfl, hle⟩, rfl, rfl⟩ | ⟨hlt, ht⟩
    · have hc : cond s = .ok false := by
        rw [hc0]
        exact congrArg _ (decide_eq_false fun h => Nat.not_lt.mpr hle (Int.ofNat_lt.mp h))
      exact ⟨fun _ => ⟨s, loop_exit hc, hinv⟩, fun hh => (by cases hh)⟩
    have hc : cond s = .ok true := by
      rw [hc0]
      refine congrArg _ (decide_eq_true ?_)
      cases maxI with
      | none =>
        exact Int.ofNat_lt.mpr (Nat.lt_of_lt_of_le (Nat.lt_add_of_pos_right (Nat.succ_pos k)) (hk rfl))
      | some m => exact Int.ofNat_lt.mpr (hlt m rfl)
    -- after a full turn: the post statement, then the rest of the loop
    have next : ∀ {s1 : σ} {LS : LoopState α}, body s = .ok (s1, .next) → Inv s1 LS →
        LS.t1 = stepEntries rows ap x ls.t1 → LS.iter = ls.iter → LS.conv.t.length ≤ L →
        computeLoop rows ap x e minI freq maxI fl nl k { LS with iter := LS.iter + 1 } = (ls', by_) →
        ((by_ = .criteria ∨ by_ = .maxIterations) →
          ∃ s', Stm.loop 1 cond body post (k + 1) s = .ok (s', .next) ∧ Inv s' ls') ∧
        (by_ = .nonFinite →
          ∃ s' msg, Stm.loop 1 cond body post (k + 1) s = .ok (s', .ret (GVector.zero, some msg))) := by
      intro s1 LS hb hi1 ht1 hit hcl1 hR
      obtain ⟨s2, hp, hi2⟩ := H.post hi1
      rw [loop_step hc hb hp]
      refine ih s2 _ hi2 (fun _ => ?_) hcl1 (fun hm => ?_) ls' by_ hR
      · show LS.t1 ≠ [] ∧ LS.t1.length ≤ _
        rw [ht1]
        exact ⟨stepEntries_ne_nil _ _ _ _ hap, stepEntries_length_le _ _ _ _⟩
      · show LS.iter + 1 + k ≤ _
        rw [hit, Nat.add_assoc, Nat.add_comm 1 k]
        exact hk hm
    cases ht with
    | nocheck hck hR =>
      obtain ⟨s1, hb, hi1⟩ := H.nocheck hinv hck
      exact next hb hi1 rfl rfl hcl hR
    | nonfinite hck hnf =>
      obtain ⟨hne, hl1⟩ := hpos (isCheck_pos hminI hck)
      refine ⟨fun hh => (by rcases hh with hh | hh <;> cases hh), fun _ => ?_⟩
      obtain ⟨s', msg, hb⟩ := H.nonfinite hinv hl1 hcl hck hnf
      exact ⟨s', msg, loop_leave hc hb rfl⟩
    | criteria hck hnf hsq hreach =>
      obtain ⟨hne, hl1⟩ := hpos (isCheck_pos hminI hck)
      refine ⟨fun _ => ?_, fun hh => (by cases hh)⟩
      obtain ⟨s1, hb, hi1⟩ := H.criteria hinv hne hl1 hcl hck hnf hsq hreach
      exact ⟨s1, loop_brk hc hb, hi1⟩
    | check hck hnf hgo hR =>
      obtain ⟨hne, hl1⟩ := hpos (isCheck_pos hminI hck)
      obtain ⟨s1, hb, hi1⟩ := H.check hinv hne hl1 hcl hck hnf hgo
      exact next hb hi1 rfl rfl (Nat.le_trans hl1 hB) hR
end follows

/-- the Go state inside the loop: the constants prepared by the prefix, and the loop-variant fields tied to
    the model's `LoopState`. -/
structure CInv (n : Nat) (ct : CSM α) (ap : List (Entry α)) (a e : α) (freq minI : Nat) (M : Int)
    (fl nl : Nat) (s : Compute.St α) (ls : LoopState α) : Prop where
  t1 : s.t1 = toGV ⟨n, ls.t1⟩
  conv : s.convChecker = ⟨ls.conv, e⟩
  ftc : s.flatTailChecker = ⟨(fl : Int), (nl : Int), some (toGStats ls.stats)⟩
  iter : s.iter = (ls.iter : Int)
  err : s.err = none
  ct : s.ct = toGM ct
  ap : s.ap = toGV ⟨n, ap⟩
  a : s.a = a
  checkFreq : s.checkFreq = (freq : Int)
  minIters : s.minIters = (minI : Int)
  maxIters : s.maxIters = M


/-- The loop of the translated `Compute` matches every kind of turn of `computeLoop`, under `CInv`
    (`tR` is the `WithResultIn` field, which the loop leaves alone). -/
theorem Compute_follows (capO : Nat → Int) (fuel : Nat) {n : Nat} {ct : CSM α} {ap : List (Entry α)} {a e : α}
    {freq minI : Nat} {M : Int} {fl nl : Nat} (tR : Option (GVector α)) (L : Nat)
    (hmaj : ct.major = n) (hmin : ct.minor = n) (hlen : ct.rows.length + ap.length ≤ fuel) (hnl : 0 < nl) :
    FollowsLoop (Compute.loop1_cond capO fuel) (Compute.loop1_body capO fuel) (Compute.loop1_post capO fuel)
      (fun s ls => CInv n ct ap a e freq minI M fl nl s ls ∧ s.t = tR)
      ct.rows ap (Scalar.sub (Scalar.one : α) a) e minI freq M fl nl L where
  cond := fun ⟨h, _⟩ => by
    simp only [Compute.loop1_cond, pure, Except.pure, h.iter, h.maxIters]
  post := fun {s ls} ⟨h, ht⟩ => by
    refine ⟨{ s with iter := s.iter + 1 }, ?_, ⟨h.t1, h.conv, h.ftc, ?_, h.err, h.ct, h.ap, h.a, h.checkFreq,
      h.minIters, h.maxIters⟩, ht⟩
    · simp only [Compute.loop1_post, Stm.set, pure, Except.pure]
    · show s.iter + 1 = ((ls.iter + 1 : Nat) : Int)
      rw [h.iter]
      rfl
  nocheck := fun {s ls} ⟨h, ht⟩ hck => by
    obtain ⟨r1, r2, r3, h1, h1e, h2, h3, h3e, h3v⟩ := step_calls capO fuel n ct ls.t1 ap a hmaj hmin hlen
    have hb := body_nocheck_generic capO fuel s
      (by rw [h.iter, h.minIters, h.checkFreq]; exact isCheck_false _ _ _ hck) r1 r2 r3
      (by rw [h.t1, h.ct]; exact h1) h1e (by rw [h.a]; exact h2) (by rw [h.ap]; exact h3) h3e
    exact ⟨_, hb, ⟨h3v, h.conv, h.ftc, h.iter, rfl, h.ct, h.ap, h.a, h.checkFreq, h.minIters, h.maxIters⟩, ht⟩
  nonfinite := fun {s ls} ⟨h, _⟩ _ _ hck hnf => by
    obtain ⟨hm, hge⟩ := isCheck_true _ _ _ hck
    have hE : s.t1.Entries.map entryOfG = ls.t1 := by rw [h.t1]; exact map_entryOfG_toGs _
    have hC : s.convChecker.c = ls.conv := by rw [h.conv]
    exact body_nonfinite_generic capO fuel s (by rw [h.iter, h.minIters, h.checkFreq]; exact hm)
      (by rw [h.iter, h.minIters]; exact hge) (by rw [hE, hC]; exact hnf)
  criteria := fun {s ls} ⟨h, ht⟩ hne _ _ hck hnf hsq hreach => by
    obtain ⟨hm, hge⟩ := isCheck_true _ _ _ hck
    have hE : s.t1.Entries.map entryOfG = ls.t1 := by rw [h.t1]; exact map_entryOfG_toGs _
    have hC : s.convChecker.c = ls.conv := by rw [h.conv]
    have hCe : s.convChecker.e = e := by rw [h.conv]
    obtain ⟨rf, hf, hfv⟩ := map_eq_ok (FlatTailChecker_Update_refines (fl : Int) nl ls.stats ⟨n, ls.t1⟩
      (ls.conv.update ls.t1).dsq hne hnl)
    obtain ⟨rr, hr, hrv⟩ := map_eq_ok (FlatTailChecker_Reached_refines fl (nl : Int)
      (ls.stats.update (rankOf ls.t1 nl) (ls.conv.update ls.t1).dsq))
    have hb := body_break_generic capO fuel s (by rw [h.iter, h.minIters, h.checkFreq]; exact hm)
      (by rw [h.iter, h.minIters]; exact hge) (by rw [hE, hC]; exact hnf) rf rr
      (by rw [hE, hC, h.ftc, h.t1]; exact hf) (by rw [hE, hC, hCe]; exact hsq)
      (by rw [hfv]; exact hr) (by rw [hrv]; exact decide_eq_true hreach)
    rw [hE, hC] at hb
    exact ⟨_, hb, ⟨h.t1, by rw [← hCe], hfv, h.iter, rfl, h.ct, h.ap, h.a, h.checkFreq, h.minIters,
      h.maxIters⟩, ht⟩
  check := fun {s ls} ⟨h, ht⟩ hne _ _ hck hnf hgo => by
    obtain ⟨hm, hge⟩ := isCheck_true _ _ _ hck
    have hE : s.t1.Entries.map entryOfG = ls.t1 := by rw [h.t1]; exact map_entryOfG_toGs _
    have hC : s.convChecker.c = ls.conv := by rw [h.conv]
    have hCe : s.convChecker.e = e := by rw [h.conv]
    obtain ⟨rf, hf, hfv⟩ := map_eq_ok (FlatTailChecker_Update_refines (fl : Int) nl ls.stats ⟨n, ls.t1⟩
      (ls.conv.update ls.t1).dsq hne hnl)
    obtain ⟨rr, hr, hrv⟩ := map_eq_ok (FlatTailChecker_Reached_refines fl (nl : Int)
      (ls.stats.update (rankOf ls.t1 nl) (ls.conv.update ls.t1).dsq))
    obtain ⟨r1, r2, r3, h1, h1e, h2, h3, h3e, h3v⟩ := step_calls capO fuel n ct ls.t1 ap a hmaj hmin hlen
    have hb := body_check_generic capO fuel s (by rw [h.iter, h.minIters, h.checkFreq]; exact hm)
      (by rw [h.iter, h.minIters]; exact hge) (by rw [hE, hC]; exact hnf) rf
      (by rw [hE, hC, h.ftc, h.t1]; exact hf)
      (by
        rw [hE, hC, hCe, hfv]
        intro hsq
        refine ⟨rr, hr, ?_⟩
        rw [hrv]
        rw [hsq, Bool.true_and] at hgo
        exact hgo)
      r1 r2 r3 (by rw [h.t1, h.ct]; exact h1) h1e (by rw [h.a]; exact h2) (by rw [h.ap]; exact h3) h3e
    rw [hE, hC] at hb
    exact ⟨_, hb, ⟨h3v, by rw [← hCe], hfv, h.iter, rfl, h.ct, h.ap, h.a, h.checkFreq, h.minIters,
      h.maxIters⟩, ht⟩

/-! ### inversion of the model's `compute` -/

/-- the model's dimension test (`p`, `WithInitialTrust`, `WithResultIn` against `n`). -/
def dimBad (p : Vec α) (o : ComputeOpts α) (n : Nat) : Bool :=
  decide (p.dim ≠ n) || (match o.t0 with | some t0 => decide (t0.dim ≠ n) | none => false)
    || (match o.resultDim with | some d => decide (d ≠ n) | none => false)

/-- every validation of `compute` passes (`n` is the dimension of the local trust). -/
structure Valid (p : Vec α) (a e : α) (o : ComputeOpts α) (n : Nat) : Prop where
  n0 : n ≠ 0
  dims : ¬ (dimBad p o n = true)
  alpha : ¬ ((Scalar.lt a Scalar.zero || Scalar.lt Scalar.one a) = true)
  eps : ¬ (Scalar.le e Scalar.zero = true)
  freq : ¬ (o.checkFreq.getD 1 < 1)
  maxI : ¬ (o.maxIterations.getD 0 < 0)
  minI : ¬ (o.minIterations.getD (o.checkFreq.getD 1) ≤ 0)

def Refusal (p : Vec α) (a e : α) (o : ComputeOpts α) (n : Nat) : Prop :=
  n = 0 ∨ dimBad p o n = true ∨ (Scalar.lt a Scalar.zero || Scalar.lt Scalar.one a) = true ∨
    Scalar.le e Scalar.zero = true ∨ o.checkFreq.getD 1 < 1 ∨ o.maxIterations.getD 0 < 0 ∨
    o.minIterations.getD (o.checkFreq.getD 1) ≤ 0

theorem Valid.not_refusal {p : Vec α} {a e : α} {o : ComputeOpts α} {n : Nat} (h : Valid p a e o n) :
    ¬ Refusal p a e o n := by
  intro hr
  rcases hr with h1 | h1 | h1 | h1 | h1 | h1 | h1
  · exact h.n0 h1
  · exact h.dims h1
  · exact h.alpha h1
  · exact h.eps h1
  · exact h.freq h1
  · exact h.maxI h1
  · exact h.minI h1

def modelLoop (fuel : Nat) (c : CSM α) (p : Vec α) (a e : α) (o : ComputeOpts α) (n : Nat) :
    LoopState α × EndedBy :=
  computeLoop c.transpose.rows (Vec.scale a p).entries (Scalar.sub Scalar.one a) e
    (o.minIterations.getD (o.checkFreq.getD 1)).toNat (o.checkFreq.getD 1).toNat
    (if o.maxIterations.getD 0 = 0 then none else some (o.maxIterations.getD 0).toNat) o.flatTail
    (if o.numLeaders = 0 then n else o.numLeaders) fuel
    { t1 := (o.t0.getD p).entries, iter := 0, conv := ⟨(o.t0.getD p).entries, Scalar.zero⟩,
      stats := FlatTailStats.init, checks := [] }

theorem ite_ok_inv {ε β : Type} {c : Prop} [Decidable c] {er : ε} {x : Except ε β} {r : β}
    (h : (if c then Except.error er else x) = .ok r) : ¬ c ∧ x = .ok r := by
  split at h
  · cases h
  · exact ⟨‹_›, h⟩

theorem ite_err_inv {ε β : Type} {c : Prop} [Decidable c] {er er' : ε} {x : Except ε β}
    (h : (if c then Except.error er else x) = .error er') : c ∨ x = .error er' := by
  split at h
  · exact Or.inl ‹_›
  · exact Or.inr h

theorem compute_dim_err {fuel : Nat} {c : CSM α} {p : Vec α} {a e : α} {o : ComputeOpts α} {er : SErr}
    (hdim : c.dim = .error er) : compute fuel c p a e o = .error er := by
  unfold compute
  simp only [hdim]

theorem compute_ok_inv {fuel : Nat} {c : CSM α} {p : Vec α} {a e : α} {o : ComputeOpts α}
    {r : ComputeResult α} {n : Nat} (hdim : c.dim = .ok n) (hr : compute fuel c p a e o = .ok r) :
    Valid p a e o n ∧ (modelLoop fuel c p a e o n).2 ≠ .nonFinite ∧
      r = ⟨⟨n, (modelLoop fuel c p a e o n).1.t1⟩, (modelLoop fuel c p a e o n).1.iter,
           (modelLoop fuel c p a e o n).1.stats, (modelLoop fuel c p a e o n).1.checks.reverse,
           (modelLoop fuel c p a e o n).2⟩ := by
  unfold compute at hr
  simp only [hdim] at hr
  obtain ⟨h1, hr⟩ := ite_ok_inv hr
  obtain ⟨h2, hr⟩ := ite_ok_inv hr
  obtain ⟨h3, hr⟩ := ite_ok_inv hr
  obtain ⟨h4, hr⟩ := ite_ok_inv hr
  obtain ⟨h5, hr⟩ := ite_ok_inv hr
  obtain ⟨h6, hr⟩ := ite_ok_inv hr
  obtain ⟨h7, hr⟩ := ite_ok_inv hr
  obtain ⟨h8, hr⟩ := ite_ok_inv hr
  exact ⟨⟨h1, h2, h3, h4, h5, h6, h7⟩, h8, (Except.ok.inj hr).symm⟩

theorem compute_err_inv {fuel : Nat} {c : CSM α} {p : Vec α} {a e : α} {o : ComputeOpts α}
    {er : SErr} {n : Nat} (hdim : c.dim = .ok n) (hr : compute fuel c p a e o = .error er) :
    Refusal p a e o n ∨ (modelLoop fuel c p a e o n).2 = .nonFinite := by
  unfold compute at hr
  simp only [hdim] at hr
  rcases ite_err_inv hr with h | hr
  · exact Or.inl (Or.inl h)
  rcases ite_err_inv hr with h | hr
  · exact Or.inl (Or.inr (Or.inl h))
  rcases ite_err_inv hr with h | hr
  · exact Or.inl (Or.inr (Or.inr (Or.inl h)))
  rcases ite_err_inv hr with h | hr
  · exact Or.inl (Or.inr (Or.inr (Or.inr (Or.inl h))))
  rcases ite_err_inv hr with h | hr
  · exact Or.inl (Or.inr (Or.inr (Or.inr (Or.inr (Or.inl h)))))
  rcases ite_err_inv hr with h | hr
  · exact Or.inl (Or.inr (Or.inr (Or.inr (Or.inr (Or.inr (Or.inl h))))))
  rcases ite_err_inv hr with h | hr
  · exact Or.inl (Or.inr (Or.inr (Or.inr (Or.inr (Or.inr (Or.inr h))))))
  rcases ite_err_inv hr with h | hr
  · exact Or.inr h
  · cases hr

/-! ### the body of the translated function: validation and preparation, statement by statement -/

theorem goDeref_some {β : Type} (x : β) : goDeref (some x) = .ok x := rfl

/-- Go's `p.Dim != n || (t0 != nil && t0.Dim != n) || (t != nil && t.Dim != n)` is the model's `dimBad`. -/
theorem dimCheck_eq (p : Vec α) (o : ComputeOpts α) (tRes : Option (Vec α)) (n : Nat)
    (hres : o.resultDim = tRes.map (·.dim)) :
    (do
      let t3 ← (if (!(decide ((toGV p).Dim = (n : Int)))) then pure true else (do
        let t2 ← (if (!(o.t0.map toGV).isNone) then (do
          let t1 ← goDeref (o.t0.map toGV)
          pure (!(decide (t1.Dim = (n : Int))))) else pure false)
        pure t2))
      let t6 ← (if t3 then pure true else (do
        let t5 ← (if (!(tRes.map toGV).isNone) then (do
          let t4 ← goDeref (tRes.map toGV)
          pure (!(decide (t4.Dim = (n : Int))))) else pure false)
        pure t5))
      pure t6 : R Bool) = .ok (dimBad p o n) := by
  rw [dimBad, hres]
  rcases o.t0 with _ | t0v <;> rcases tRes with _ | tv <;> by_cases h1 : p.dim = n <;>
    simp [go_run, goDeref, Int.natCast_inj, h1]
  all_goals by_cases h2 : t0v.dim = n <;> simp [h2]

/-- The state in which the translated `Compute` enters its loop (the schedule
    `checkFreq`/`minIters`/`maxIters` computed by the prefix of the body, and the other prepared values). -/
structure CStart (c : CSM α) (p : Vec α) (a e : α) (o : ComputeOpts α) (tRes : Option (Vec α)) (n : Nat)
    (S : Compute.St α) : Prop where
  t1 : S.t1 = toGV (o.t0.getD p)
  conv : S.convChecker = ⟨⟨(o.t0.getD p).entries, Scalar.zero⟩, e⟩
  ftc : S.flatTailChecker = ⟨(o.flatTail : Int), ((if o.numLeaders = 0 then n else o.numLeaders : Nat) : Int),
    some (toGStats FlatTailStats.init)⟩
  iter : S.iter = 0
  err : S.err = none
  ct : S.ct = toGM c.transpose
  ap : S.ap = toGV (Vec.scale a p)
  a : S.a = a
  checkFreq : S.checkFreq = o.checkFreq.getD 1
  minIters : S.minIters = o.minIterations.getD (o.checkFreq.getD 1)
  maxIters : S.maxIters =
    if o.maxIterations.getD 0 = 0 then 9223372036854775807 else o.maxIterations.getD 0
  t : S.t = tRes.map toGV

/-- the initial state of the translated `Compute` (as in `Gen.Compute`). -/
def initSt (c : CSM α) (p : Vec α) (a e : α) (o : ComputeOpts α) (tRes : Option (Vec α))
    (gs : Option (GFlatTailStats α)) : Compute.St α :=
  { c := toGM c, p := toGV p, a := a, e := e, o := toGOpts o tRes gs, t0 := (none : (Option (GVector α))), t := (none : (Option (GVector α))), flatTail := (0 : Int), numLeaders := (0 : Int), n := (0 : Int), err := (none : Option GoError), t1 := (GVector.zero : GVector α), ct := (GCSMatrix.zero : GCSMatrix α), ap := (GVector.zero : GVector α), checkFreq := (0 : Int), maxIters := (0 : Int), minIters := (0 : Int), convChecker := (GConvergenceChecker.zero : GConvergenceChecker α), flatTailChecker := (GFlatTailChecker.zero : GFlatTailChecker α), iter := (0 : Int), flatTailStats := (GFlatTailStats.zero : GFlatTailStats α) }

theorem Compute_eq_run (capO : Nat → Int) (fuel : Nat) (c : CSM α) (p : Vec α) (a e : α)
    (o : ComputeOpts α) (tRes : Option (Vec α)) (gs : Option (GFlatTailStats α)) :
    Gen.Compute capO fuel (toGM c) (toGV p) a e (toGOpts o tRes gs) =
      Stm.run (Compute.body capO fuel) ((GVector.zero : GVector α), (none : Option GoError))
        (initSt c p a e o tRes gs) := rfl

/-- executes one assignment statement of a body: `simp only` evaluates it on the current state (`ls`: lemmas for
    the calls it makes); the goal goes on with the rest of the body in the new state. -/
macro "cstep" "[" ls:Lean.Parser.Tactic.simpLemma,* "]" : tactic =>
  `(tactic| (refine P_congr (seq_next (s1 := ?s1) ?h) ?rest
             case h => (simp only [go_run, toGOpts, $ls,*]; rfl)))

/-- Case analysis of the body of the translated `Compute`, every statement before the loop executed
    symbolically: `c.Dim()` fails and the body returns `nil, err`; or a validation fails (`Refusal`, the model's
    conditions in the model's order) and the body returns `nil, err`; or every validation passes and the body is
    the loop, started in a `CStart` state, followed by an epilogue `K` that returns the current iterate (assigned
    into the `WithResultIn` vector, if any) and the flat-tail statistics.
    Continuation-passing form: an elimination rule — for any motive `P` on outcomes, `P` of the body follows from
    `P` of the three kinds of outcome — so that each user picks its `P` (`Compute_schedule`, `Compute_body_spec`,
    `Compute_refuses_validation`).  The proof walks down the body; each step `refine P_congr (seq_… ) ?_` replaces
    `Stm.seq a rest s` under `P` by `rest s'` (or by the returned outcome). -/
theorem Compute_body_elim (capO : Nat → Int) (fuel : Nat) (c : CSM α) (p : Vec α) (a e : α)
    (o : ComputeOpts α) (tRes : Option (Vec α)) (gs : Option (GFlatTailStats α))
    (hres : o.resultDim = tRes.map (·.dim))
    (hcols : c.colsInRange = true)
    {P : R (Compute.St α × Ctl (GVector α × Option GoError)) → Prop}
    (h_dim : ∀ er st msg, c.dim = .error er → P (.ok (st, .ret (GVector.zero, some msg))))
    (h_val : ∀ n st msg, c.dim = .ok n → Refusal p a e o n → P (.ok (st, .ret (GVector.zero, some msg))))
    (h_run : ∀ n (K : Stm (Compute.St α) (GVector α × Option GoError)) (S : Compute.St α),
      c.dim = .ok n → Valid p a e o n → CStart c p a e o tRes n S →
      (∀ (S' : Compute.St α) (g : GFlatTailStats α) (v : Vec α), S'.t = tRes.map toGV →
        S'.flatTailChecker.stats = some g → S'.t1 = toGV v →
        ∃ st, K S' = .ok (st, .ret (toGV v, none)) ∧ st.flatTailStats = g) →
      P (Stm.seq (Stm.loop 1 (Compute.loop1_cond capO fuel) (Compute.loop1_body capO fuel)
        (Compute.loop1_post capO fuel) fuel) K S)) :
    P (Compute.body capO fuel (initSt c p a e o tRes gs)) := by
  unfold Compute.body initSt
  cstep []
  cstep []
  cstep []
  cstep []
  -- n, err := c.Dim()
  have hD0 := CSMatrix_Dim_refines c
  cases hdim : c.dim with
  | error er =>
    simp only [hdim] at hD0
    obtain ⟨rd, hD, hrd⟩ := map_eq_ok hD0
    cstep [hD, hrd]
    refine P_congr (seq_ite_ret rfl rfl) ?_
    exact h_dim er _ _ hdim
  | ok n =>
    simp only [hdim] at hD0
    obtain ⟨rd, hD, hrd⟩ := map_eq_ok hD0
    cstep [hD, hrd]
    refine P_congr (seq_ite_pass rfl) ?_
    -- if n == 0
    by_cases hn0 : n = 0
    · refine P_congr (seq_ite_ret (by simp only [hn0, pure, Except.pure]; rfl) rfl) ?_
      exact h_val n _ _ hdim (Or.inl hn0)
    have hn0' : ¬ ((n : Int) = 0) := by omega
    refine P_congr (seq_ite_pass (by simp only [hn0', decide_false, pure, Except.pure])) ?_
    -- dimension checks
    by_cases hdims : dimBad p o n = true
    · refine P_congr (seq_ite_ret ((dimCheck_eq p o tRes n hres).trans (congrArg _ hdims)) rfl) ?_
      exact h_val n _ _ hdim (Or.inr (Or.inl hdims))
    refine P_congr (seq_ite_pass
      ((dimCheck_eq p o tRes n hres).trans (congrArg _ (Bool.eq_false_iff.mpr hdims)))) ?_
    -- alpha, epsilon
    by_cases halpha : (Scalar.lt a Scalar.zero || Scalar.lt Scalar.one a) = true
    · refine P_congr (seq_ite_ret (by simp only [halpha, pure, Except.pure]) rfl) ?_
      exact h_val n _ _ hdim (Or.inr (Or.inr (Or.inl halpha)))
    refine P_congr (seq_ite_pass (by simp only [Bool.eq_false_iff.mpr halpha, pure, Except.pure])) ?_
    by_cases heps : Scalar.le e Scalar.zero = true
    · refine P_congr (seq_ite_ret (by simp only [heps, pure, Except.pure]) rfl) ?_
      exact h_val n _ _ hdim (Or.inr (Or.inr (Or.inr (Or.inl heps))))
    refine P_congr (seq_ite_pass (by simp only [Bool.eq_false_iff.mpr heps, pure, Except.pure])) ?_
    -- numLeaders, t0
    refine P_congr (seq_stepF
      (fun S => { S with numLeaders := ((if o.numLeaders = 0 then n else o.numLeaders : Nat) : Int) }) ?_) ?_
    · by_cases hnl0 : o.numLeaders = 0
      · simp [Stm.ite, Stm.set, pure, Except.pure, hnl0]
      · have : ¬ ((o.numLeaders : Int) = 0) := by omega
        simp only [Stm.ite, Stm.skip, pure, Except.pure, hnl0, this, decide_false, if_false]
    refine P_congr (seq_stepF (fun S => { S with t0 := some (toGV (o.t0.getD p)) }) ?_) ?_
    · rcases o.t0 with _ | t0v <;> simp [Stm.ite, Stm.set, Stm.skip, pure, Except.pure]
    cstep [goDeref_some, Vector_Clone_eq]
    obtain ⟨rt, hT, hrt⟩ := map_eq_ok (CSMatrix_Transpose_refines c hcols)
    cstep [hT, hrt]
    refine P_congr (seq_ite_pass rfl) ?_
    cstep []
    obtain ⟨rs, hS, hrs⟩ := map_eq_ok (Vector_ScaleVec_refines
      ({ Dim := (0 : Int), Entries := [] } : GVector α) a p false (by simp))
    cstep [hS, hrs]
    -- checkFreq
    cstep []
    refine P_congr (seq_ite_deref (fun S => { S with checkFreq := o.checkFreq.getD 1 })
      (by cases o.checkFreq <;> rfl)) ?_
    by_cases hfreq : o.checkFreq.getD 1 < 1
    · refine P_congr (seq_ite_ret (by simp only [hfreq, decide_true, pure, Except.pure]) rfl) ?_
      exact h_val n _ _ hdim (Or.inr (Or.inr (Or.inr (Or.inr (Or.inl hfreq)))))
    refine P_congr (seq_ite_pass (by simp only [hfreq, decide_false, pure, Except.pure])) ?_
    -- maxIters
    cstep []
    refine P_congr (seq_ite_deref (fun S => { S with maxIters := o.maxIterations.getD 0 })
      (by cases o.maxIterations <;> rfl)) ?_
    by_cases hmaxI : o.maxIterations.getD 0 < 0
    · refine P_congr (seq_ite_ret (by simp only [hmaxI, decide_true, pure, Except.pure]) rfl) ?_
      exact h_val n _ _ hdim (Or.inr (Or.inr (Or.inr (Or.inr (Or.inr (Or.inl hmaxI))))))
    refine P_congr (seq_ite_pass (by simp only [hmaxI, decide_false, pure, Except.pure])) ?_
    refine P_congr (seq_stepF (fun S =>
      { S with
        maxIters := if o.maxIterations.getD 0 = 0 then 9223372036854775807 else o.maxIterations.getD 0 })
      ?_) ?_
    · by_cases hm0 : o.maxIterations.getD 0 = 0
      · simp [Stm.ite, Stm.set, pure, Except.pure, hm0]
      · simp only [Stm.ite, Stm.skip, pure, Except.pure, hm0, decide_false, if_false]
    -- minIters
    cstep []
    refine P_congr (seq_ite_deref (fun S => { S with minIters := o.minIterations.getD (o.checkFreq.getD 1) })
      (by cases o.minIterations <;> rfl)) ?_
    by_cases hminI : o.minIterations.getD (o.checkFreq.getD 1) ≤ 0
    · refine P_congr (seq_ite_ret (by simp only [hminI, decide_true, pure, Except.pure]) rfl) ?_
      exact h_val n _ _ hdim (Or.inr (Or.inr (Or.inr (Or.inr (Or.inr (Or.inr hminI))))))
    refine P_congr (seq_ite_pass (by simp only [hminI, decide_false, pure, Except.pure])) ?_
    -- checkers, iter
    cstep [goDeref_some, Gen.NewConvergenceChecker, toGV_Entries, map_entryOfG_toGs]
    obtain ⟨rn, hN, hrn⟩ := map_eq_ok (NewFlatTailChecker_refines (o.flatTail : Int)
      ((if o.numLeaders = 0 then n else o.numLeaders : Nat) : Int) gs)
    cstep [hN, hrn]
    cstep []
    -- the loop and the epilogue
    refine h_run n _ _ hdim ⟨hn0, hdims, halpha, heps, hfreq, hmaxI, hminI⟩
      ⟨rfl, rfl, rfl, rfl, rfl, rfl, rfl, rfl, rfl, rfl, rfl, rfl⟩ ?_
    intro S' g v h1 h2 h3
    obtain ⟨rst, hSt, hst⟩ := map_eq_ok (FlatTailChecker_Stats_refines S'.flatTailChecker g h2)
    refine ⟨{ S' with flatTailStats := g, t := some (toGV v) }, ?_, rfl⟩
    refine (seq_next (s1 := { S' with flatTailStats := g }) ?_).trans ?_
    · simp only [go_run, hSt, hst]
    refine (seq_next (s1 := { S' with flatTailStats := g, t := some (toGV v) }) ?_).trans ?_
    · rcases tRes with _ | tv <;>
        simp [go_run, goDeref, Vector_Assign_eq, h1, h3]
    · simp [go_run, goDeref]

/-! ### the schedule -/

/-- When the validations pass, the body of the translated `Compute` is its loop followed by an epilogue, and the
    loop starts in a `CStart` state: `checkFreq` defaults to 1, `minIters` to `checkFreq`, `maxIters = 0` means
    `math.MaxInt`, `iter = 0`. -/
theorem Compute_schedule (capO : Nat → Int) (fuel : Nat) (c : CSM α) (p : Vec α) (a e : α)
    (o : ComputeOpts α) (tRes : Option (Vec α)) (gs : Option (GFlatTailStats α))
    (hres : o.resultDim = tRes.map (·.dim)) (hcols : c.colsInRange = true)
    (n : Nat) (hdim : c.dim = .ok n) (hv : Valid p a e o n) :
    ∃ (K : Stm (Compute.St α) (GVector α × Option GoError)) (S : Compute.St α),
      Compute.body capO fuel (initSt c p a e o tRes gs) =
        Stm.seq (Stm.loop 1 (Compute.loop1_cond capO fuel) (Compute.loop1_body capO fuel)
          (Compute.loop1_post capO fuel) fuel) K S ∧
      CStart c p a e o tRes n S := by
  refine Compute_body_elim capO fuel c p a e o tRes gs hres hcols
    (P := fun x => ∃ (K : Stm (Compute.St α) (GVector α × Option GoError)) (S : Compute.St α),
      x = Stm.seq (Stm.loop 1 (Compute.loop1_cond capO fuel) (Compute.loop1_body capO fuel)
        (Compute.loop1_post capO fuel) fuel) K S ∧ CStart c p a e o tRes n S) ?_ ?_ ?_
  · intro er st msg h
    rw [hdim] at h
    cases h
  · intro n' st msg h hr
    rw [hdim] at h
    cases h
    exact absurd hr hv.not_refusal
  · intro n' K S h _ hS _
    rw [hdim] at h
    cases h
    exact ⟨K, S, rfl, hS⟩

/-- the default schedule (`WithCheckFreq`, `WithMinIterations` not given): check at every iteration from
    iteration 1 on. -/
theorem isCheck_default (k : Nat) : isCheck 1 1 k = decide (1 ≤ k) := by
  simp [isCheck, Nat.mod_one]

theorem Compute_default_schedule (capO : Nat → Int) (fuel : Nat) (c : CSM α) (p : Vec α) (a e : α)
    (o : ComputeOpts α) (tRes : Option (Vec α)) (gs : Option (GFlatTailStats α))
    (hres : o.resultDim = tRes.map (·.dim)) (hcols : c.colsInRange = true)
    (n : Nat) (hdim : c.dim = .ok n) (hv : Valid p a e o n)
    (hcf : o.checkFreq = none) (hmi : o.minIterations = none) :
    ∃ (K : Stm (Compute.St α) (GVector α × Option GoError)) (S : Compute.St α),
      Compute.body capO fuel (initSt c p a e o tRes gs) =
        Stm.seq (Stm.loop 1 (Compute.loop1_cond capO fuel) (Compute.loop1_body capO fuel)
          (Compute.loop1_post capO fuel) fuel) K S ∧
      S.checkFreq = 1 ∧ S.minIters = 1 ∧ S.iter = 0 := by
  obtain ⟨K, S, h1, h2⟩ := Compute_schedule capO fuel c p a e o tRes gs hres hcols n hdim hv
  refine ⟨K, S, h1, ?_, ?_, h2.iter⟩
  · rw [h2.checkFreq, hcf]; rfl
  · rw [h2.minIters, hmi, hcf]; rfl

/-! ### what the validations give -/

theorem Valid.dims_eq {c : CSM α} {p : Vec α} {a e : α} {o : ComputeOpts α} {n : Nat}
    (hv : Valid p a e o n) (hdim : c.dim = .ok n) :
    c.minor = n ∧ c.major = n ∧ p.dim = n ∧ (o.t0.getD p).dim = n := by
  have hmm : c.major = c.minor ∧ c.major = n := by
    simp only [CSM.dim] at hdim
    split at hdim
    · cases hdim
    · rename_i h
      exact ⟨Classical.not_not.mp h, Except.ok.inj hdim⟩
  have hdims' := hv.dims
  simp only [dimBad, Bool.or_eq_true, decide_eq_true_eq, not_or] at hdims'
  have hpn : p.dim = n := Classical.not_not.mp hdims'.1.1
  refine ⟨by omega, hmm.2, hpn, ?_⟩
  rcases ho : o.t0 with _ | t0v
  · exact hpn
  · have := hdims'.1.2
    simp only [ho, decide_eq_true_eq, ne_eq, Classical.not_not] at this
    exact this

/-- the schedule Go resolves (`Int`) is the model's (`Nat`; `goMax` for the limit). -/
theorem Valid.schedule {p : Vec α} {a e : α} {o : ComputeOpts α} {n : Nat} (hv : Valid p a e o n) :
    o.checkFreq.getD 1 = ((o.checkFreq.getD 1).toNat : Int) ∧
    o.minIterations.getD (o.checkFreq.getD 1) = ((o.minIterations.getD (o.checkFreq.getD 1)).toNat : Int) ∧
    (if o.maxIterations.getD 0 = 0 then 9223372036854775807 else o.maxIterations.getD 0) =
      goMax (if o.maxIterations.getD 0 = 0 then none else some (o.maxIterations.getD 0).toNat) ∧
    0 < (o.minIterations.getD (o.checkFreq.getD 1)).toNat := by
  have hfreq := hv.freq
  have hmaxI := hv.maxI
  have hminI := hv.minI
  refine ⟨by omega, by omega, ?_, by omega⟩
  by_cases hm0 : o.maxIterations.getD 0 = 0
  · simp only [hm0, if_true, goMax]
  · have : ((o.maxIterations.getD 0).toNat : Int) = o.maxIterations.getD 0 := by omega
    simp only [hm0, if_false, goMax, this]

/-! ### success and refusal for a body that has reached its loop -/

section spec
variable {σ : Type} (fs : σ → GFlatTailStats α) (stat : FlatTailStats α → GFlatTailStats α)

/-- what the body of a translated `Compute` must deliver, given the model's result `M` (`fs` reads the statistics
    object out of the Go state, `stat` is the Go view of the model's statistics). -/
def ComputeSpec (M : Except SErr (ComputeResult α)) (x : R (σ × Ctl (GVector α × Option GoError))) : Prop :=
  (∀ r, M = .ok r → r.endedBy ≠ .outOfFuel →
    ∃ st, x = .ok (st, .ret (toGV r.t, none)) ∧ fs st = stat r.stats) ∧
  (∀ er, M = .error er → ∃ st msg, x = .ok (st, .ret (GVector.zero, some msg)))

variable {fs stat}

theorem ComputeSpec_refuse {M : Except SErr (ComputeResult α)} {st : σ} {msg : GoError}
    (hno : ∀ r, M ≠ .ok r) : ComputeSpec fs stat M (.ok (st, .ret (GVector.zero, some msg))) :=
  ⟨fun r hr _ => absurd hr (hno r), fun _ _ => ⟨st, msg, rfl⟩⟩

/-- A loop that follows `computeLoop`, entered after the validations in a state tied to the model's initial
    `LoopState` and followed by an epilogue `K` that returns the iterate and the statistics, delivers what the
    model's `compute` does. -/
theorem FollowsLoop.spec {cond : σ → R Bool} {body post : Stm σ (GVector α × Option GoError)}
    {Inv : σ → LoopState α → Prop} {fuel : Nat} {c : CSM α} {p : Vec α} {a e : α} {o : ComputeOpts α}
    {n L : Nat} {K : Stm σ (GVector α × Option GoError)} {S : σ}
    (H : FollowsLoop cond body post Inv c.transpose.rows (Vec.scale a p).entries (Scalar.sub Scalar.one a) e
      (o.minIterations.getD (o.checkFreq.getD 1)).toNat (o.checkFreq.getD 1).toNat
      (goMax (if o.maxIterations.getD 0 = 0 then none else some (o.maxIterations.getD 0).toNat)) o.flatTail
      (if o.numLeaders = 0 then n else o.numLeaders) L)
    (hdim : c.dim = .ok n) (hv : Valid p a e o n) (hap : (Vec.scale a p).entries ≠ [])
    (hB : c.transpose.rows.length + (Vec.scale a p).entries.length ≤ L)
    (ht0 : (o.t0.getD p).entries.length ≤ L) (hfuel63 : fuel < 9223372036854775807)
    (hinv : Inv S
      { t1 := (o.t0.getD p).entries, iter := 0, conv := ⟨(o.t0.getD p).entries, Scalar.zero⟩,
        stats := FlatTailStats.init, checks := [] })
    (hK : ∀ S' ls', Inv S' ls' →
      ∃ st, K S' = .ok (st, .ret (toGV ⟨n, ls'.t1⟩, none)) ∧ fs st = stat ls'.stats) :
    ComputeSpec fs stat (compute fuel c p a e o) (Stm.seq (Stm.loop 1 cond body post fuel) K S) := by
  cases hcl : modelLoop fuel c p a e o n with
  | mk ls' by_ =>
  have hloop := H.loop hB hv.schedule.2.2.2 hap fuel S _ hinv (fun h => absurd h (Nat.lt_irrefl 0)) ht0
    (fun _ => by simp only [Nat.zero_add]; omega) ls' by_ hcl
  have hres_of_ok : ∀ r, compute fuel c p a e o = .ok r → by_ ≠ .nonFinite ∧
      r = ⟨⟨n, ls'.t1⟩, ls'.iter, ls'.stats, ls'.checks.reverse, by_⟩ := by
    intro r hr
    obtain ⟨_, h2, h3⟩ := compute_ok_inv hdim hr
    rw [hcl] at h2 h3
    exact ⟨h2, h3⟩
  have hnoerr : by_ ≠ .nonFinite → ∀ er, compute fuel c p a e o ≠ .error er := by
    intro hb er hr
    rcases compute_err_inv hdim hr with h | h
    · exact hv.not_refusal h
    · rw [hcl] at h
      exact hb h
  by_cases hby : by_ = .criteria ∨ by_ = .maxIterations
  · obtain ⟨s', hl, hi'⟩ := hloop.1 hby
    refine P_congr (seq_next hl) ?_
    obtain ⟨st, hKeq, hfs⟩ := hK s' ls' hi'
    refine P_congr hKeq ?_
    refine ⟨fun r hr _ => ?_, fun er hr =>
      absurd hr (hnoerr (by rcases hby with h | h <;> rw [h] <;> decide) er)⟩
    obtain ⟨_, rfl⟩ := hres_of_ok r hr
    exact ⟨st, rfl, hfs⟩
  cases by_ with
  | criteria => exact absurd (Or.inl rfl) hby
  | maxIterations => exact absurd (Or.inr rfl) hby
  | outOfFuel =>
    refine ⟨fun r hr hend => ?_, fun er hr => absurd hr (hnoerr (by decide) er)⟩
    obtain ⟨_, rfl⟩ := hres_of_ok r hr
    exact absurd rfl hend
  | nonFinite =>
    obtain ⟨s1, msg, h⟩ := hloop.2 rfl
    exact P_congr (seq_ret h) (ComputeSpec_refuse (fun r hr => (hres_of_ok r hr).1 rfl))
end spec

/-! ### success and refusal: the translated `Compute` against the model's `compute` -/

theorem Compute_body_spec (capO : Nat → Int) (fuel : Nat) (c : CSM α) (p : Vec α) (a e : α)
    (o : ComputeOpts α) (tRes : Option (Vec α)) (gs : Option (GFlatTailStats α))
    (hres : o.resultDim = tRes.map (·.dim))
    (hcols : c.colsInRange = true)
    (hap : (Vec.scale a p).entries ≠ [])
    (hfuel : c.major + p.entries.length ≤ fuel) (hfuel63 : fuel < 9223372036854775807) :
    ComputeSpec (·.flatTailStats) toGStats (compute fuel c p a e o)
      (Compute.body capO fuel (initSt c p a e o tRes gs)) := by
  refine Compute_body_elim capO fuel c p a e o tRes gs hres hcols ?_ ?_ ?_
  · intro er st msg hdim
    exact ComputeSpec_refuse (fun r hr => by rw [compute_dim_err hdim] at hr; cases hr)
  · intro n st msg hdim href
    exact ComputeSpec_refuse (fun r hr => (compute_ok_inv hdim hr).1.not_refusal href)
  · intro n K S hdim hv hS hK
    obtain ⟨hmin, hmaj, hpn, ht0n⟩ := hv.dims_eq hdim
    have hlen : c.transpose.rows.length + (Vec.scale a p).entries.length ≤ fuel := by
      have := scale_entries_length_le a p
      rw [transpose_rows_length]
      omega
    have hnl : 0 < (if o.numLeaders = 0 then n else o.numLeaders) := by
      have := hv.n0
      split <;> omega
    obtain ⟨hcf, hmi, hmx, _⟩ := hv.schedule
    refine (Compute_follows capO fuel (tRes.map toGV) _ hmin hmaj hlen hnl).spec hdim hv hap
      (Nat.le_max_left _ (o.t0.getD p).entries.length) (Nat.le_max_right _ _) hfuel63
      ⟨⟨?_, hS.conv, hS.ftc, hS.iter, hS.err, hS.ct, ?_, hS.a, hS.checkFreq.trans hcf, hS.minIters.trans hmi,
        hS.maxIters.trans hmx⟩, hS.t⟩
      (fun S' ls' hi => hK S' _ ⟨n, ls'.t1⟩ hi.2 (by rw [hi.1.ftc]) hi.1.t1)
    · rw [hS.t1, ← ht0n]
    · rw [hS.ap, ← hpn, ← scale_dim a p]

/-- Success.  A run of the model that ends properly (by the criteria or by `maxIterations`) is computed exactly by
    the translated Go code: same trust vector, no error, same flat-tail statistics.
    `_partial`: under `hfuel63 : fuel < 2^63-1` (the Go loop bound for "unlimited" is `math.MaxInt`, the model's
    is `none`). -/
theorem Compute_refines_ok_partial (capO : Nat → Int) (fuel : Nat) (c : CSM α) (p : Vec α) (a e : α)
    (o : ComputeOpts α) (tRes : Option (Vec α)) (gs : Option (GFlatTailStats α))
    (hres : o.resultDim = tRes.map (·.dim))
    (hcols : c.colsInRange = true)
    (hap : (Vec.scale a p).entries ≠ [])
    (r : ComputeResult α) (hr : compute fuel c p a e o = .ok r) (hend : r.endedBy ≠ .outOfFuel)
    (hfuel : c.major + p.entries.length ≤ fuel) (hfuel63 : fuel < 9223372036854775807) :
    (Gen.Compute capO fuel (toGM c) (toGV p) a e (toGOpts o tRes gs)).map
        (fun x => (x.2, x.1.flatTailStats)) = .ok ((toGV r.t, none), toGStats r.stats) := by
  obtain ⟨st, h1, h2⟩ :=
    (Compute_body_spec capO fuel c p a e o tRes gs hres hcols hap hfuel hfuel63).1 r hr hend
  rw [Compute_eq_run]
  simp only [Stm.run, h1, Except.map, h2]

/-- Refusal.  Whenever the model refuses (validation error, or a non-finite delta), the translated Go code returns
    a nil vector and an error; it never panics.
    `_partial`: under `hap` and `hfuel63` as in `Compute_refines_ok_partial`; they are used only when the refusal
    is the non-finite delta inside the loop. -/
theorem Compute_refines_err_partial (capO : Nat → Int) (fuel : Nat) (c : CSM α) (p : Vec α) (a e : α)
    (o : ComputeOpts α) (tRes : Option (Vec α)) (gs : Option (GFlatTailStats α))
    (hres : o.resultDim = tRes.map (·.dim))
    (hcols : c.colsInRange = true)
    (hap : (Vec.scale a p).entries ≠ [])
    (er : SErr) (hr : compute fuel c p a e o = .error er)
    (hfuel : c.major + p.entries.length ≤ fuel) (hfuel63 : fuel < 9223372036854775807) :
    ∃ st msg, Gen.Compute capO fuel (toGM c) (toGV p) a e (toGOpts o tRes gs) =
      .ok (st, (GVector.zero, some msg)) := by
  obtain ⟨st, msg, h1⟩ :=
    (Compute_body_spec capO fuel c p a e o tRes gs hres hcols hap hfuel hfuel63).2 er hr
  refine ⟨st, msg, ?_⟩
  rw [Compute_eq_run]
  simp only [Stm.run, h1]

/-- Refusal by validation alone, without `hap`/`hfuel`/`hfuel63`: a failing `c.Dim()` or a failing validation makes the
    translated Go code return a nil vector and an error. -/
theorem Compute_refuses_validation (capO : Nat → Int) (fuel : Nat) (c : CSM α) (p : Vec α) (a e : α)
    (o : ComputeOpts α) (tRes : Option (Vec α)) (gs : Option (GFlatTailStats α))
    (hres : o.resultDim = tRes.map (·.dim))
    (hcols : c.colsInRange = true)
    (h : (∃ er, c.dim = .error er) ∨ ∃ n, c.dim = .ok n ∧ Refusal p a e o n) :
    ∃ st msg, Gen.Compute capO fuel (toGM c) (toGV p) a e (toGOpts o tRes gs) =
      .ok (st, (GVector.zero, some msg)) := by
  have key : ∃ st msg, Compute.body capO fuel (initSt c p a e o tRes gs) =
      .ok (st, .ret (GVector.zero, some msg)) := by
    refine Compute_body_elim capO fuel c p a e o tRes gs hres hcols
      (P := fun x => ∃ st msg, x = .ok (st, .ret (GVector.zero, some msg))) ?_ ?_ ?_
    · intro er st msg _
      exact ⟨st, msg, rfl⟩
    · intro n st msg _ _
      exact ⟨st, msg, rfl⟩
    · intro n K S hdim hv _ _
      rcases h with ⟨er, h⟩ | ⟨n', h, hr⟩
      · rw [hdim] at h; cases h
      · rw [hdim] at h
        cases h
        exact absurd hr hv.not_refusal
  obtain ⟨st, msg, h1⟩ := key
  refine ⟨st, msg, ?_⟩
  rw [Compute_eq_run]
  simp only [Stm.run, h1]

end EtVerif.Tr
