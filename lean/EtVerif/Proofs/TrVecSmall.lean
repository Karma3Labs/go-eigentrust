/-
  Refinement of the translated Vector.Assign / Clone / Reset / SetDim (growing case) to the model.
-/
import EtVerif.Proofs.TrBridge
namespace EtVerif.Tr
open EtVerif EtVerif.GoSem EtVerif.Gen Scalar
variable {α : Type} [Scalar α]
set_option linter.unusedSectionVars false

theorem Vector_Assign_refines (w : GVector α) (v1 : Vec α) :
    (Vector_Assign w (toGV v1)).map (fun r => r.1.v) = .ok (toGV v1) := by
  simp [Vector_Assign, Vector_Assign.body, Stm.run, go_run, Except.map, toGV]

theorem Vector_Clone_refines (v : Vec α) :
    (Vector_Clone (toGV v)).map (fun r => r.2) = .ok (toGV v) := by
  simp [Vector_Clone, Vector_Clone.body, Stm.run, go_run, Except.map, toGV]

theorem Vector_Reset_eq (w : GVector α) :
    Vector_Reset w = .ok ({ v := { Dim := 0, Entries := [] } }, ()) := by
  simp [Vector_Reset, Vector_Reset.body, Stm.run, go_run]

theorem Vector_Reset_refines (w : GVector α) :
    (Vector_Reset w).map (fun r => r.1.v) = .ok (toGV (⟨0, []⟩ : Vec α)) := by
  simp [Vector_Reset_eq, Except.map, toGV]

/-- growing (or keeping) the dimension never touches the entries: the `sort.Search` branch of
    `Vector.SetDim` is not taken. -/
theorem Vector_SetDim_grow (g : GVector α) (d : Int) (h : g.Dim ≤ d) :
    (Vector_SetDim g d).map (fun r => r.1.v) = .ok { g with Dim := d } := by
  have h' : ¬ d < g.Dim := by omega
  simp [Vector_SetDim, Vector_SetDim.body, Stm.run, go_run, Except.map, h']

end EtVerif.Tr
