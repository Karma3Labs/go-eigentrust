/-
  Refinement of the translated `basic.CanonicalizeTrustVector` (Gen/Translated.lean) to the hand-written
  model `canonicalizeTrustVector` (Model/Basic.lean).
-/
import EtVerif.Proofs.TrCanon
namespace EtVerif.Tr
open EtVerif EtVerif.GoSem EtVerif.Gen Scalar
variable {α : Type} [Scalar α]

/-- `Canonicalize_refines` as an existence statement (no panic), the form the caller's `simp` can use. -/
theorem Canonicalize_ok (es : List (Entry α)) :
    ∃ r, Gen.Canonicalize (toGs es) = .ok r ∧
      (r.1.entries, r.2) = (match canonicalize es with
        | .ok es' => (toGs es', (none : Option GoError))
        | .error _ => (toGs es, some ⟨"ErrZeroSum"⟩)) := by
  have h := Canonicalize_refines es
  cases hc : Gen.Canonicalize (toGs es) with
  | error e =>
    rw [hc] at h
    cases hcan : canonicalize es <;> simp [Except.map, hcan] at h
  | ok r =>
    refine ⟨r, rfl, ?_⟩
    rw [hc] at h
    cases hcan : canonicalize es <;> simpa [Except.map, hcan] using h

omit [Scalar α] in
/-- The uniform-fill loop: position `pre.length` gets `⟨pre.length, c⟩` in each iteration. -/
theorem CTV_loop (xs : List (GEntry α)) :
    ∀ (pre rest : List (GEntry α)) (s : CanonicalizeTrustVector.St α),
      xs.length = rest.length → s.v.Entries = pre ++ rest →
      ∃ s', Stm.range 1 CanonicalizeTrustVector.loop1_bind (CanonicalizeTrustVector.loop1_body (α := α))
          (pre.length : Int) xs s = .ok (s', .next) ∧
        s'.v.Entries = pre ++ (List.range' pre.length rest.length).map (fun (i : Nat) => (⟨(i : Int), s.c⟩ : GEntry α)) ∧
        s'.v.Dim = s.v.Dim := by
  induction xs with
  | nil =>
    intro pre rest s hl he
    have : rest = [] := by cases rest with
      | nil => rfl
      | cons _ _ => simp at hl
    subst this
    exact ⟨s, rfl, by simpa using he, rfl⟩
  | cons x xs ih =>
    intro pre rest s hl he
    cases rest with
    | nil => simp at hl
    | cons r rest =>
      have hl' : xs.length = rest.length := by simpa using hl
      obtain ⟨s', h1, h2, h3⟩ := ih (pre ++ [(⟨(pre.length : Int), s.c⟩ : GEntry α)]) rest
        { s with i := (pre.length : Int),
                 v := { s.v with Entries := pre ++ (⟨(pre.length : Int), s.c⟩ : GEntry α) :: rest } } hl' (by simp)
      refine ⟨s', ?_, ?_, ?_⟩
      · rw [range_cons_next (s1 :=
            { s with i := (pre.length : Int),
                     v := { s.v with Entries := pre ++ (⟨(pre.length : Int), s.c⟩ : GEntry α) :: rest } })]
        · have : ((pre ++ [(⟨(pre.length : Int), s.c⟩ : GEntry α)]).length : Int) = (pre.length : Int) + 1 := by
            simp
          rw [this] at h1
          exact h1
        · simp [CanonicalizeTrustVector.loop1_body, CanonicalizeTrustVector.loop1_bind, go_run, he,
            goIdx_append_mid, goSet_append_mid]
      · simpa [List.range'_succ] using h2
      · simpa using h3

theorem toGs_uniformEntries (dim : Nat) :
    toGs (uniformEntries (α := α) dim) =
      (List.range' 0 dim).map (fun (i : Nat) => (⟨(i : Int), div one (ofNat dim)⟩ : GEntry α)) := by
  simp [uniformEntries, toGs, toG, List.range_eq_range', Function.comp_def]

/-- Go `basic.CanonicalizeTrustVector` = the model's `canonicalizeTrustVector` (normalise, or uniform when the
    compensated sum is zero). -/
theorem CanonicalizeTrustVector_refines (v : Vec α) :
    (Gen.CanonicalizeTrustVector (toGV v)).map (fun r => r.1.v) = .ok (toGV (canonicalizeTrustVector v)) := by
  obtain ⟨r, hr, hr2⟩ := Canonicalize_ok v.entries
  cases hcan : canonicalize v.entries with
  | ok es' =>
    rw [hcan] at hr2
    have h1 : r.1.entries = toGs es' := by simpa using congrArg Prod.fst hr2
    have h2 : r.2 = none := by simpa using congrArg Prod.snd hr2
    simp [Gen.CanonicalizeTrustVector, CanonicalizeTrustVector.body, Stm.run, go_run, Except.map, hr, h1, h2,
      canonicalizeTrustVector, hcan, toGV]
  | error e =>
    rw [hcan] at hr2
    have h2 : r.2 = some ⟨"ErrZeroSum"⟩ := by simpa using congrArg Prod.snd hr2
    obtain ⟨s', h3, h4, h5⟩ := CTV_loop (List.replicate v.dim (GEntry.zero : GEntry α)) []
      (List.replicate v.dim (GEntry.zero : GEntry α))
      { v := ⟨(v.dim : Int), List.replicate v.dim (GEntry.zero : GEntry α)⟩, cond := true,
        c := Scalar.div (Scalar.one : α) (Scalar.ofNat v.dim), i := 0 } rfl rfl
    simp only [List.length_nil, Int.natCast_zero, List.nil_append, List.length_replicate] at h3 h4
    have hv : s'.v = ⟨(v.dim : Int), s'.v.Entries⟩ := by
      cases hs : s'.v; simp [hs] at h5 ⊢; exact h5
    simp only [Gen.CanonicalizeTrustVector, CanonicalizeTrustVector.body, Stm.run, go_run, Stm.rangeOver,
      CanonicalizeTrustVector.loop1_xs, Except.map, toGV_Entries, toGV_Dim, hr, h2, decide_true, goMake_natCast,
      goFloatOfInt_natCast, h3]
    rw [hv, h4]
    simp [toGV, toGs_uniformEntries, canonicalizeTrustVector, hcan]

end EtVerif.Tr
