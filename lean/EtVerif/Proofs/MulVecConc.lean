/-
  1. The goroutine system of `sparse.(*Vector).MulVec` (vector.go) as a labelled transition system
     (`Cfg`, `St`, `Step`, `Reach`), parameterised by the structural facts `shape : MulVecShape`
     that `tools/gofacts` extracts.  Goroutines: one producer (`jobs <- row`), `w` identical
     workers (symmetric-reduced: we count the idle ones and keep the multiset of rows held by busy
     ones), one closer (`wg.Wait(); close(entries)`), the collector (the calling goroutine), and
     the environment (which may cancel `ctx` at any time).  Every Go `select` with a `ctx.Done()`
     case may take that case whenever `cancelled = true`, and may still take any other ready case
     (Go picks any ready case).
  2. Its invariants (`SInv`, `DInv`, `RInv`), the termination measure `workNC` / `work`, progress
     (`no_deadlock`, `no_leak_progress`, `no_leak_eventually`) and the trace that a missing re-check
     of `ctx` lets through (`unsafe_trace`).
  3. Namespace `CancelAtomic`, independent of 1 and 2: the loops of `basic.Compute` and
     `(*CSMatrix).Transpose` with their `ctx` polls as recursive functions over a cancellation
     oracle, and what a caller can observe of them (`computeLoop_atomic`, `transposeLoop_atomic`).
-/
import EtVerif.Model.Shapes
import EtVerif.Proofs.SortPerm

namespace EtVerif.MulVecConc
open EtVerif

/-- Can a send proceed on a channel of capacity class `c` that currently buffers `len` items?
    `unbuffered` is over-approximated by a one-slot buffer (a rendezvous is a send immediately
    followed by the receive) and `unknown` by an unbounded buffer: both over-approximations are
    sound for the safety theorems; the progress theorems require `.dim`. -/
def _root_.EtVerif.ChanCap.canSend (c : ChanCap) (dim len : Nat) : Bool :=
  match c with
  | .dim => decide (len < dim)
  | .const n => decide (len < n)
  | .unbuffered => decide (len < 1)
  | .unknown => true

/-- The parameters of one `MulVec` call. -/
structure Cfg (β : Type) where
  shape : MulVecShape
  /-- number of rows (`dim, _ := m.Dim()`) -/
  dim : Nat
  /-- number of worker goroutines (32 in the source; the theorems hold for every `w ≥ 1`) -/
  w : Nat
  /-- the value ONE sequential `VecDot(m.RowVector(r), v1)` returns for row `r` (`prod` = product;
      in `St.prodDone`, `Step.prodSend` … it abbreviates producer) -/
  prod : Nat → β
  /-- Go `product == 0` -/
  isZ : β → Bool
  /-- `sort.Sort(EntriesByIndex(·))` — only ever assumed to satisfy `IsSortFn` -/
  sortFn : List (Nat × β) → List (Nat × β)

structure St (β : Type) where
  /-- next row the producer will send -/
  next : Nat
  /-- the producer goroutine has returned -/
  prodDone : Bool
  /-- `jobs` has been closed (`defer close(jobs)` ran; needs `shape.producerClosesJobs`) -/
  jobsClosed : Bool
  /-- buffered contents of `jobs` (FIFO) -/
  jobs : List Nat
  /-- workers blocked in the receive `select` -/
  idle : Nat
  /-- entries held by busy workers: product computed, blocked in the send `select` -/
  held : List (Nat × β)
  /-- workers that have returned (`wg.Done()` ran) -/
  exited : Nat
  /-- buffered contents of `entries` (FIFO) -/
  entriesQ : List (Nat × β)
  /-- the closer goroutine ran `close(entries)` (and returned) -/
  entriesClosed : Bool
  /-- `sortedEntries` of the collector, in arrival order -/
  got : List (Nat × β)
  /-- `ctx` has been cancelled (monotone) -/
  cancelled : Bool
  /-- the collector returned: `error ()` = `ctx.Err()`, `ok l` = `nil` after publishing `l` -/
  result : Option (Except Unit (List (Nat × β)))
  /-- the receiver's `Entries` as the caller sees them; `none` = untouched -/
  out : Option (List (Nat × β))

variable {β : Type}

def init (c : Cfg β) : St β :=
  { next := 0, prodDone := false, jobsClosed := false, jobs := [], idle := c.w, held := [],
    exited := 0, entriesQ := [], entriesClosed := false, got := [], cancelled := false,
    result := none, out := none }

/-- collector body: `if e.Value != 0 { sortedEntries = append(sortedEntries, e) }` -/
def collect (c : Cfg β) (got : List (Nat × β)) (x : Nat × β) : List (Nat × β) :=
  if c.shape.dropsZero && c.isZ x.2 then got else got ++ [x]

/-- what `v.Entries = sortedEntries` stores after the loop -/
def pub (c : Cfg β) (got : List (Nat × β)) : List (Nat × β) :=
  if c.shape.sortsAfterCollect then c.sortFn got else got

/-- the sequential row-by-row product of this call -/
def Cfg.seq (c : Cfg β) : List (Nat × β) := seqList c.dim c.prod c.isZ

inductive Actor where
  | env | producer | worker | closer | collector
deriving DecidableEq, Repr

/-- One atomic step of one goroutine (or of the environment). -/
inductive Step (c : Cfg β) : Actor → St β → St β → Prop
  /-- the environment cancels `ctx` -/
  | cancel (s : St β) : Step c .env s { s with cancelled := true }
  /-- producer: `case jobs <- row` -/
  | prodSend (s : St β) (h1 : s.prodDone = false) (h2 : s.next < c.dim)
      (h3 : c.shape.jobsCap.canSend c.dim s.jobs.length = true) :
      Step c .producer s { s with next := s.next + 1, jobs := s.jobs ++ [s.next] }
  /-- producer: loop finished, `defer close(jobs)` -/
  | prodExit (s : St β) (h1 : s.prodDone = false) (h2 : s.next = c.dim) :
      Step c .producer s { s with prodDone := true, jobsClosed := c.shape.producerClosesJobs }
  /-- producer: `case <-ctx.Done(): return` -/
  | prodCancel (s : St β) (h1 : s.prodDone = false) (h2 : s.next < c.dim)
      (hs : c.shape.producerSelectsCtx = true) (hc : s.cancelled = true) :
      Step c .producer s { s with prodDone := true, jobsClosed := c.shape.producerClosesJobs }
  /-- worker: `case row, ok = <-jobs` with `ok`, then `product := VecDot(…)`; the worker now
      holds the entry.  If the row is not computed by one `VecDot` the value is unconstrained. -/
  | workRecv (s : St β) (r : Nat) (rest : List Nat) (p : β) (h1 : 0 < s.idle)
      (h2 : s.jobs = r :: rest) (hp : c.shape.rowByOneVecDot = true → p = c.prod r) :
      Step c .worker s { s with jobs := rest, idle := s.idle - 1, held := (r, p) :: s.held }
  /-- worker: `<-jobs` yields `!ok` (closed and drained) -/
  | workExitClosed (s : St β) (h1 : 0 < s.idle) (h2 : s.jobs = []) (h3 : s.jobsClosed = true) :
      Step c .worker s { s with idle := s.idle - 1, exited := s.exited + 1 }
  /-- worker: `case <-ctx.Done(): return` of the receive `select` -/
  | workCancelRecv (s : St β) (h1 : 0 < s.idle) (hs : c.shape.workerRecvSelectsCtx = true)
      (hc : s.cancelled = true) :
      Step c .worker s { s with idle := s.idle - 1, exited := s.exited + 1 }
  /-- worker: `case entries <- Entry{row, product}` (a send on a closed channel would panic; the
      invariant `entriesClosed → held = []` shows it is never attempted when the closer waits) -/
  | workSend (s : St β) (pre : List (Nat × β)) (x : Nat × β) (post : List (Nat × β))
      (h1 : s.held = pre ++ x :: post) (h2 : s.entriesClosed = false)
      (h3 : c.shape.entriesCap.canSend c.dim s.entriesQ.length = true) :
      Step c .worker s { s with held := pre ++ post, idle := s.idle + 1,
                                entriesQ := s.entriesQ ++ [x] }
  /-- worker: `case <-ctx.Done(): return` of the send `select` — the held entry is dropped -/
  | workCancelSend (s : St β) (pre : List (Nat × β)) (x : Nat × β) (post : List (Nat × β))
      (h1 : s.held = pre ++ x :: post) (hs : c.shape.workerSendSelectsCtx = true)
      (hc : s.cancelled = true) :
      Step c .worker s { s with held := pre ++ post, exited := s.exited + 1 }
  /-- closer: `wg.Wait(); close(entries)` -/
  | closer (s : St β) (h1 : s.entriesClosed = false)
      (h2 : c.shape.closerWaitsAllWorkers = true → s.exited = c.w) :
      Step c .closer s { s with entriesClosed := true }
  /-- collector: `case e, ok := <-entries` with `ok` -/
  | collRecv (s : St β) (x : Nat × β) (rest : List (Nat × β)) (h0 : s.result = none)
      (h1 : s.entriesQ = x :: rest) :
      Step c .collector s
        { s with entriesQ := rest, got := collect c s.got x,
                 out := if c.shape.publishesAfterSort then s.out else some (collect c s.got x) }
  /-- collector: `entries` closed and drained → `break Loop`; (re-check `ctx.Err()`;) sort; publish -/
  | collClosed (s : St β) (h0 : s.result = none) (h1 : s.entriesQ = [])
      (h2 : s.entriesClosed = true) :
      Step c .collector s
        { s with
          result := some (if c.shape.collectorRechecksCtx && s.cancelled then .error ()
                          else .ok (pub c s.got)),
          out := if c.shape.collectorRechecksCtx && s.cancelled then s.out
                 else some (pub c s.got) }
  /-- collector: `case <-ctx.Done(): return ctx.Err()` -/
  | collCancel (s : St β) (h0 : s.result = none) (hs : c.shape.collectorSelectsCtx = true)
      (hc : s.cancelled = true) :
      Step c .collector s { s with result := some (.error ()) }

def Next (c : Cfg β) (s s' : St β) : Prop := ∃ a, Step c a s s'

/-- reachable from the initial state under any interleaving and any cancellation time -/
def Reach (c : Cfg β) (s : St β) : Prop := Relation.ReflTransGen (Next c) (init c) s

theorem Reach.start (c : Cfg β) : Reach c (init c) := Relation.ReflTransGen.refl

theorem Reach.step {c : Cfg β} {a : Actor} {s s' : St β} (h : Reach c s) (hs : Step c a s s') :
    Reach c s' := Relation.ReflTransGen.tail h ⟨a, hs⟩

theorem Reach.invariant {c : Cfg β} (P : St β → Prop) (h0 : P (init c))
    (hstep : ∀ a s s', Reach c s → P s → Step c a s s' → P s') : ∀ s, Reach c s → P s := by
  intro s h
  induction h with
  | refl => exact h0
  | tail hr hn ih =>
    obtain ⟨a, hs⟩ := hn
    exact hstep a _ _ hr ih hs

/-! ## Structural invariant (holds under any cancellation) -/

/-- the Structural invariant: channel bounds, worker conservation, closing discipline -/
structure SInv (c : Cfg β) (s : St β) : Prop where
  next_le : s.next ≤ c.dim
  /-- every row sent so far is in at most one place; hence both channels hold `≤ dim` items -/
  flow : s.jobs.length + s.held.length + s.entriesQ.length ≤ s.next
  workers : s.idle + s.held.length + s.exited = c.w
  closed_done : s.jobsClosed = true → s.prodDone = true
  closer_waits : c.shape.closerWaitsAllWorkers = true → s.entriesClosed = true → s.exited = c.w
  done_closed : s.prodDone = true → s.jobsClosed = c.shape.producerClosesJobs

theorem sinv_init (c : Cfg β) : SInv c (init c) :=
  ⟨Nat.zero_le _, Nat.le_refl 0, rfl, nofun, fun _ => nofun, nofun⟩

theorem sinv_step {c : Cfg β} {a : Actor} {s s' : St β} (h : SInv c s) (hs : Step c a s s') :
    SInv c s' := by
  obtain ⟨h1, h2, h3, h4, h5, h6⟩ := h
  -- a worker that holds `x` gives it away (both `select` cases of the send)
  have hheld {pre post} {x : Nat × β} (g : s.held = pre ++ x :: post) :
      s.held.length = (pre ++ post).length + 1 := by
    rw [g, List.length_append, List.length_append, List.length_cons, Nat.add_assoc]
  -- `induction`, not `cases`: the indices of `hs` are variables, so the recursor applies as it
  -- stands and no index equations have to be solved (several times cheaper to check)
  induction hs with
  | cancel | collClosed | collCancel => exact ⟨h1, h2, h3, h4, h5, h6⟩
  | prodSend s g1 g2 g3 =>
    refine ⟨g2, ?_, h3, h4, h5, h6⟩
    rw [List.length_append, List.length_singleton, Nat.add_right_comm _ 1, Nat.add_right_comm _ 1]
    exact Nat.succ_le_succ h2
  | prodExit | prodCancel => exact ⟨h1, h2, h3, fun _ => rfl, h5, fun _ => rfl⟩
  | workRecv s r rest p g1 g2 _ =>
    rw [g2, List.length_cons, Nat.add_right_comm _ 1, Nat.add_assoc _ _ 1] at h2
    refine ⟨h1, h2, ?_, h4, h5, h6⟩
    rw [← h3, List.length_cons, ← Nat.add_assoc, Nat.add_right_comm _ _ 1, Nat.sub_add_cancel g1]
  | workExitClosed s g1 | workCancelRecv s g1 =>
    -- an idle worker is left, so the closer (if it waits) has not closed `entries` yet
    refine ⟨h1, h2, ?_, h4, fun hw hc => ?_, h6⟩
    · rw [← h3, ← Nat.add_assoc, Nat.add_right_comm _ _ 1, Nat.add_right_comm _ _ 1,
        Nat.sub_add_cancel g1]
    · rw [h5 hw hc, Nat.add_eq_right, Nat.add_eq_zero_iff] at h3
      exact (Nat.lt_irrefl 0 (h3.1 ▸ g1)).elim
  | workSend s pre x post g1 g2 g3 =>
    rw [hheld g1, ← Nat.add_assoc] at h2 h3
    refine ⟨h1, ?_, ?_, h4, fun _ hc => (nomatch g2.symm.trans hc), h6⟩
    · show s.jobs.length + (pre ++ post).length + (s.entriesQ ++ [x]).length ≤ s.next
      rwa [List.length_append (as := s.entriesQ), List.length_singleton, ← Nat.add_assoc,
        Nat.add_right_comm _ _ 1]
    · show s.idle + 1 + (pre ++ post).length + s.exited = c.w
      rwa [Nat.add_right_comm s.idle]
  | workCancelSend s pre x post g1 _ _ =>
    rw [hheld g1] at h2 h3
    refine ⟨h1, Nat.le_trans ?_ h2, ?_, h4, fun hw hc => ?_, h6⟩
    · exact Nat.add_le_add_right (Nat.add_le_add_left (Nat.le_succ _) _) _
    · show s.idle + (pre ++ post).length + (s.exited + 1) = c.w
      rwa [← Nat.add_assoc, Nat.add_right_comm _ 1] at h3
    · rw [h5 hw hc, Nat.add_eq_right, Nat.add_eq_zero_iff] at h3
      cases h3.2
  | closer s g1 g2 => exact ⟨h1, h2, h3, h4, fun hw _ => g2 hw, h6⟩
  | collRecv s x rest g0 g1 =>
    rw [g1, List.length_cons] at h2
    exact ⟨h1, Nat.le_trans (Nat.le_succ _) h2, h3, h4, h5, h6⟩

theorem sinv_of_reach {c : Cfg β} {s : St β} (h : Reach c s) : SInv c s :=
  Reach.invariant (SInv c) (sinv_init c) (fun _ _ _ _ hp hs => sinv_step hp hs) s h

/-- With a closer that waits for all workers, no worker is ever blocked at (or attempts) a send
    on a closed `entries` channel: the Go panic "send on closed channel" is unreachable. -/
theorem no_send_on_closed {c : Cfg β} (hcw : c.shape.closerWaitsAllWorkers = true) {s : St β}
    (hS : SInv c s) (hcl : s.entriesClosed = true) : s.held = [] ∧ s.idle = 0 := by
  have h := hS.workers
  rw [hS.closer_waits hcw hcl, Nat.add_eq_right, Nat.add_eq_zero_iff] at h
  exact ⟨List.eq_nil_of_length_eq_zero h.2, h.1⟩

theorem cancelled_mono {c : Cfg β} {a : Actor} {s s' : St β} (hs : Step c a s s')
    (h : s'.cancelled = false) : s.cancelled = false := by
  induction hs with
  | cancel => cases h
  | _ => exact h

theorem result_stable {c : Cfg β} {a : Actor} {s s' : St β} (hs : Step c a s s')
    {r : Except Unit (List (Nat × β))} (h : s.result = some r) :
    s'.result = some r ∧ s'.out = s.out := by
  induction hs with
  | collRecv s _ _ h0 | collClosed s h0 | collCancel s h0 => cases h0.symm.trans h
  | _ => exact ⟨h, rfl⟩

/-! ## Accounting invariant (while `ctx` is not cancelled) -/

/-- rows whose product is not dropped -/
def nz (c : Cfg β) (r : Nat) : Bool := !c.isZ (c.prod r)

/-- The Data (accounting) invariant.
    While nothing has been cancelled: every row `< next` with a non-zero product is in exactly one
    of `jobs`, a worker's hand, `entries`, or the collector's slice; every entry carries the
    sequential product of its row. -/
structure DInv (c : Cfg β) (s : St β) : Prop where
  prod_done : s.prodDone = true → s.next = c.dim
  exited_closed : 0 < s.exited → s.jobsClosed = true ∧ s.jobs = []
  tagged : ∀ x ∈ s.held ++ s.entriesQ ++ s.got, x.2 = c.prod x.1
  got_nz : ∀ x ∈ s.got, c.isZ x.2 = false
  account : ∀ r, nz c r = true →
    s.jobs.count r + (s.held.map Prod.fst).count r + (s.entriesQ.map Prod.fst).count r +
      (s.got.map Prod.fst).count r = if r < s.next then 1 else 0

theorem dinv_init (c : Cfg β) : DInv c (init c) :=
  ⟨nofun, fun h => absurd h (Nat.lt_irrefl 0), nofun, nofun, fun r _ => (if_neg (Nat.not_lt_zero r)).symm⟩

theorem ite_lt_succ (r n : Nat) :
    (if r < n + 1 then 1 else 0) = (if r < n then 1 else 0) + if n = r then 1 else 0 := by
  rcases Nat.lt_trichotomy r n with h | rfl | h
  · rw [if_pos (Nat.lt_succ_of_lt h), if_pos h, if_neg (Nat.ne_of_gt h)]
  · rw [if_pos (Nat.lt_succ_self r), if_neg (Nat.lt_irrefl r), if_pos rfl]
  · rw [if_neg (Nat.not_lt.mpr h), if_neg (Nat.lt_asymm h), if_neg (Nat.ne_of_lt h)]

theorem dinv_step {c : Cfg β} (hrow : c.shape.rowByOneVecDot = true)
    (hdz : c.shape.dropsZero = true) {a : Actor} {s s' : St β} (hS : SInv c s)
    (hD : s.cancelled = false → DInv c s) (hs : Step c a s s') (hc' : s'.cancelled = false) :
    DInv c s' := by
  have hc := cancelled_mono hs hc'
  obtain ⟨d1, d2, d3, d4, d5⟩ := hD hc
  -- no worker has exited while the producer runs
  have hex (g : s.prodDone = false) (h : 0 < s.exited) : False := by
    cases g.symm.trans (hS.closed_done (d2 h).1)
  induction hs with
  | cancel => cases hc'
  | prodSend s g1 g2 g3 =>
    refine ⟨fun h => (nomatch g1.symm.trans h), fun h => (hex g1 h).elim, d3, d4, ?_⟩
    intro r hr
    have := d5 r hr
    simp only [List.count_append, List.count_singleton, beq_iff_eq, ite_lt_succ] at this ⊢
    omega
  | prodExit s g1 g2 => exact ⟨fun _ => g2, fun h => (hex g1 h).elim, d3, d4, d5⟩
  | prodCancel s g1 g2 _ gc => cases hc.symm.trans gc
  | workRecv s r0 rest p g1 g2 gp =>
    refine ⟨d1, ?_, ?_, d4, ?_⟩
    · intro h
      cases g2.symm.trans (d2 h).2
    · intro x hx
      rcases List.mem_cons.mp hx with rfl | hx
      · exact gp hrow
      · exact d3 x hx
    · intro r hr
      have := d5 r hr
      simp only [g2, List.count_cons, List.map_cons] at this ⊢
      omega
  | workExitClosed s g1 g2 g3 => exact ⟨d1, fun _ => ⟨g3, g2⟩, d3, d4, d5⟩
  | workCancelRecv s g1 _ gc => cases hc.symm.trans gc
  | workSend s pre x post g1 g2 g3 =>
    refine ⟨d1, d2, ?_, d4, ?_⟩
    · intro y hy
      apply d3 y
      simp only [g1, List.mem_append, List.mem_cons, List.mem_nil_iff, or_false] at hy ⊢
      rcases hy with ((h | h) | h | h) | h <;> simp only [h, true_or, or_true]
    · intro r hr
      have := d5 r hr
      simp only [g1, List.count_append, List.count_cons, List.count_nil, List.map_append,
        List.map_cons, List.map_nil] at this ⊢
      omega
  | workCancelSend s pre x post g1 _ gc => cases hc.symm.trans gc
  | closer s g1 g2 => exact ⟨d1, d2, d3, d4, d5⟩
  | collRecv s x rest g0 g1 =>
    rw [g1] at d3 d5
    have hx : x.2 = c.prod x.1 :=
      d3 x (List.mem_append_left _ (List.mem_append_right _ List.mem_cons_self))
    by_cases hz : c.isZ x.2 = true
    · -- dropped: the row has a zero product, so the account does not speak of it
      rw [show collect c s.got x = s.got from if_pos (by rw [hdz, hz]; rfl)]
      refine ⟨d1, d2, fun y hy => d3 y ?_, d4, fun r hr => ?_⟩
      · simp only [List.mem_append, List.mem_cons] at hy ⊢
        rcases hy with (h | h) | h <;> simp only [h, true_or, or_true]
      · have hne : x.1 ≠ r := by
          rintro rfl
          rw [nz, ← hx, hz] at hr
          cases hr
        rw [← d5 r hr, List.map_cons, List.count_cons_of_ne hne]
    · have hz' : c.isZ x.2 = false := Bool.eq_false_iff.mpr hz
      rw [show collect c s.got x = s.got ++ [x] from if_neg (by rw [hdz, hz']; nofun)]
      refine ⟨d1, d2, fun y hy => d3 y ?_, ?_, fun r hr => ?_⟩
      · simp only [List.mem_append, List.mem_cons, List.mem_nil_iff, or_false] at hy ⊢
        rcases hy with (h | h) | h | h <;> simp only [h, true_or, or_true]
      · intro y hy
        rcases List.mem_append.mp hy with hy | hy
        · exact d4 y hy
        · rw [List.mem_singleton.mp hy]
          exact hz'
      · rw [← d5 r hr]
        simp only [List.count_append, List.count_cons, List.count_nil, List.map_append,
          List.map_cons, List.map_nil]
        omega
  | collClosed s g0 g1 g2 => exact ⟨d1, d2, d3, d4, d5⟩
  | collCancel s g0 _ gc => cases hc.symm.trans gc

/-- At the moment the collector sees `entries` closed and drained (nothing cancelled), its slice
    is a permutation of the sequential product. -/
theorem got_perm_seq {c : Cfg β} (hcw : c.shape.closerWaitsAllWorkers = true) (hw : 1 ≤ c.w)
    {s : St β} (hS : SInv c s) (hD : DInv c s) (hq : s.entriesQ = [])
    (hcl : s.entriesClosed = true) : s.got.Perm c.seq := by
  have hj := hD.exited_closed (Nat.lt_of_lt_of_eq hw (hS.closer_waits hcw hcl).symm)
  have hnext : s.next = c.dim := hD.prod_done (hS.closed_done hj.1)
  have hheld := (no_send_on_closed hcw hS hcl).1
  have htag (x) (hx : x ∈ s.got) : x.2 = c.prod x.1 := hD.tagged x (List.mem_append_right _ hx)
  have hkeys : (s.got.map Prod.fst).Perm ((List.range c.dim).filter (nz c)) := by
    rw [List.perm_iff_count]
    intro r
    by_cases hr : nz c r = true
    · have := hD.account r hr
      simp only [hj.2, hheld, hq, hnext, List.count_nil, List.map_nil, Nat.zero_add] at this
      rw [List.count_filter hr, List.count_range, this]
    · have h1 : r ∉ s.got.map Prod.fst := by
        rintro hm
        obtain ⟨x, hx, rfl⟩ := List.mem_map.mp hm
        rw [nz, ← htag x hx, hD.got_nz x hx] at hr
        exact hr rfl
      have h2 : r ∉ (List.range c.dim).filter (nz c) := fun hm => hr (List.mem_filter.mp hm).2
      rw [List.count_eq_zero_of_not_mem h1, List.count_eq_zero_of_not_mem h2]
  have hgot : (s.got.map Prod.fst).map (tag c.prod) = s.got := by
    rw [List.map_map]
    refine (List.map_congr_left fun x hx => ?_).trans (List.map_id _)
    rw [Function.comp, tag, ← htag x hx]
    rfl
  rw [← hgot, Cfg.seq, seqList_eq_map_filter]
  exact hkeys.map _

/-! ## Result invariant (under any cancellation) -/

/-- The Result invariant: what the collector may have returned, and what the caller's receiver
    looks like. -/
structure RInv (c : Cfg β) (s : St β) : Prop where
  /-- `ctx.Err()` is only returned when `ctx` was cancelled -/
  err_cancelled : s.result = some (.error ()) → s.cancelled = true
  /-- success means the sequential product — unless the collector does not re-check `ctx`
      and `ctx` was cancelled -/
  ok_seq : ∀ l, s.result = some (.ok l) →
    l = c.seq ∨ (c.shape.collectorRechecksCtx = false ∧ s.cancelled = true)
  /-- the receiver is untouched while running and after an error return -/
  out_none : c.shape.publishesAfterSort = true →
    (s.result = none ∨ s.result = some (.error ())) → s.out = none
  /-- on success the receiver holds exactly what was published -/
  out_ok : ∀ l, s.result = some (.ok l) → s.out = some l

/-- the structural facts the determinism argument uses -/
structure DetHyp (c : Cfg β) : Prop where
  row : c.shape.rowByOneVecDot = true
  sorts : c.shape.sortsAfterCollect = true
  dropsZero : c.shape.dropsZero = true
  closerWaits : c.shape.closerWaitsAllWorkers = true
  workers : 1 ≤ c.w
  sortFn : IsSortFn c.sortFn

theorem rinv_init (c : Cfg β) : RInv c (init c) :=
  ⟨nofun, nofun, fun _ _ => rfl, nofun⟩

theorem rinv_step {c : Cfg β} (H : DetHyp c) {a : Actor} {s s' : St β} (hS : SInv c s)
    (hD : s.cancelled = false → DInv c s) (hR : RInv c s) (hs : Step c a s s') : RInv c s' := by
  obtain ⟨r1, r2, r3, r4⟩ := hR
  induction hs with
  | cancel => exact ⟨fun _ => rfl, fun l hl => (r2 l hl).imp_right fun h => ⟨h.1, rfl⟩, r3, r4⟩
  | collRecv s x rest g0 g1 =>
    refine ⟨r1, r2, fun hp hr => ?_, fun l hl => nomatch g0.symm.trans hl⟩
    simp only [hp, if_true]
    exact r3 hp hr
  | collClosed s g0 g1 g2 =>
    cases hk : c.shape.collectorRechecksCtx && s.cancelled with
    | true =>
      -- `ctx.Err()` returned
      simp only [if_true]
      exact ⟨fun _ => (Bool.and_eq_true_iff.mp hk).2, nofun, fun hp _ => r3 hp (.inl g0), nofun⟩
    | false =>
      simp only [Bool.false_eq_true, if_false]
      refine ⟨nofun, ?_, fun _ hr => ?_, fun l hl => ?_⟩
      · rintro _ ⟨⟩
        cases hcan : s.cancelled
        · exact .inl ((if_pos H.sorts).trans (sortFn_eq_seqList H.sortFn c.dim c.prod c.isZ s.got
            (got_perm_seq H.closerWaits H.workers hS (hD hcan) g1 g2)))
        · rw [hcan, Bool.and_true] at hk
          exact .inr ⟨hk, rfl⟩
      · rcases hr with hr | hr <;> cases hr
      · cases hl
        rfl
  | collCancel s g0 _ gc =>
    exact ⟨fun _ => gc, nofun, fun hp _ => r3 hp (.inl g0), nofun⟩
  | _ => exact ⟨r1, r2, r3, r4⟩

structure Good (c : Cfg β) (s : St β) : Prop where
  sinv : SInv c s
  dinv : s.cancelled = false → DInv c s
  rinv : RInv c s

theorem good_of_reach {c : Cfg β} (H : DetHyp c) {s : St β} (h : Reach c s) : Good c s := by
  refine Reach.invariant (Good c) ⟨sinv_init c, fun _ => dinv_init c, rinv_init c⟩ ?_ s h
  intro a s s' _ hg hs
  exact ⟨sinv_step hg.sinv hs, dinv_step H.row H.dropsZero hg.sinv hg.dinv hs,
    rinv_step H hg.sinv hg.dinv hg.rinv hs⟩

/-- What a caller can observe when the collector publishes after sorting and re-checks `ctx`
    after its loop: nothing yet, `ctx.Err()` with the receiver untouched, or the full product.
    No other `ctx.Done()` case is needed for this. -/
theorem RInv.outcome {c : Cfg β} {s : St β} (h : RInv c s)
    (hpub : c.shape.publishesAfterSort = true) (hre : c.shape.collectorRechecksCtx = true) :
    (s.result = none ∧ s.out = none) ∨
      (s.result = some (.error ()) ∧ s.out = none ∧ s.cancelled = true) ∨
      (s.result = some (.ok c.seq) ∧ s.out = some c.seq) := by
  rcases hres : s.result with _ | ⟨⟨⟩⟩ | l
  · exact .inl ⟨rfl, h.out_none hpub (.inl hres)⟩
  · exact .inr (.inl ⟨rfl, h.out_none hpub (.inr hres), h.err_cancelled hres⟩)
  · rcases h.ok_seq l hres with rfl | h'
    · exact .inr (.inr ⟨rfl, h.out_ok _ hres⟩)
    · cases hre.symm.trans h'.1

/-- While `ctx` is not cancelled the collector can only have returned the full product. -/
theorem RInv.uncancelled {c : Cfg β} {s : St β} (h : RInv c s) (hnc : s.cancelled = false)
    {r : Except Unit (List (Nat × β))} (hres : s.result = some r) :
    r = .ok c.seq ∧ s.out = some c.seq := by
  rcases r with ⟨⟨⟩⟩ | l
  · cases hnc.symm.trans (h.err_cancelled hres)
  · rcases h.ok_seq l hres with rfl | h'
    · exact ⟨rfl, h.out_ok _ hres⟩
    · cases hnc.symm.trans h'.2

/-! ## Termination measures -/

/-- work left for producer, workers and closer.  The weights make every hop of a row cost one:
    `prodSend` −4+3, `workRecv` −3+3−1 (an idle worker less), `workSend` −3+1+1. -/
def workNC (c : Cfg β) (s : St β) : Nat :=
  4 * (c.dim - s.next) + (if s.prodDone then 0 else 1) + 3 * s.jobs.length + 3 * s.held.length +
    s.idle + s.entriesQ.length + (if s.entriesClosed then 0 else 1)

/-- `workNC` plus one for the collector's return: every step but `cancel` lowers it (`work_step`) -/
def work (c : Cfg β) (s : St β) : Nat :=
  workNC c s + (if s.result.isSome then 0 else 1)

/-- Every step either lowers `workNC` and leaves `result` alone, or keeps `workNC`; the latter only
    when the environment cancels or the collector returns. -/
theorem measure_step {c : Cfg β} {a : Actor} {s s' : St β} (hs : Step c a s s') :
    (workNC c s' < workNC c s ∧ s'.result = s.result) ∨
      (workNC c s' = workNC c s ∧
        (a = .env ∧ s'.result = s.result ∨ a = .collector ∧ s.result = none ∧ s'.result.isSome)) := by
  induction hs with
  | cancel => exact .inr ⟨rfl, .inl ⟨rfl, rfl⟩⟩
  | collClosed s g0 | collCancel s g0 => exact .inr ⟨rfl, .inr ⟨rfl, g0, rfl⟩⟩
  | prodSend s g1 g2 g3 =>
    refine .inl ⟨?_, rfl⟩
    -- cancel the summands the step does not touch before `omega` sees the inequality
    simp only [workNC, List.length_append, List.length_singleton, Nat.add_lt_add_iff_right]
    omega
  | prodExit s g1 | prodCancel s g1 | closer s g1 =>
    refine .inl ⟨?_, rfl⟩
    simp only [workNC, g1, if_true, Bool.false_eq_true, if_false, Nat.add_lt_add_iff_right,
      Nat.add_zero]
    exact Nat.lt_succ_self _
  | workRecv s r0 rest p g1 g2 gp =>
    refine .inl ⟨?_, rfl⟩
    simp only [workNC, g2, List.length_cons, Nat.add_lt_add_iff_right]
    omega
  | workExitClosed s g1 | workCancelRecv s g1 =>
    refine .inl ⟨?_, rfl⟩
    simp only [workNC, Nat.add_lt_add_iff_right, Nat.add_lt_add_iff_left]
    exact Nat.sub_lt g1 Nat.one_pos
  | workSend s pre x post g1 | workCancelSend s pre x post g1 =>
    refine .inl ⟨?_, rfl⟩
    simp only [workNC, g1, List.length_append, List.length_cons, List.length_nil,
      Nat.add_lt_add_iff_right, Nat.add_lt_add_iff_left]
    omega
  | collRecv s x rest g0 g1 =>
    refine .inl ⟨?_, rfl⟩
    simp only [workNC, g1, List.length_cons, Nat.add_lt_add_iff_right, Nat.add_lt_add_iff_left]
    exact Nat.lt_succ_self _

theorem workNC_step {c : Cfg β} {a : Actor} {s s' : St β} (hs : Step c a s s') :
    (a ≠ .env → a ≠ .collector → workNC c s' < workNC c s) ∧
      workNC c s' ≤ workNC c s := by
  rcases measure_step hs with ⟨h, _⟩ | ⟨h, h' | h'⟩
  · exact ⟨fun _ _ => h, Nat.le_of_lt h⟩
  · exact ⟨fun ha => absurd h'.1 ha, Nat.le_of_eq h⟩
  · exact ⟨fun _ ha => absurd h'.1 ha, Nat.le_of_eq h⟩

theorem work_step {c : Cfg β} {a : Actor} {s s' : St β} (hs : Step c a s s') (ha : a ≠ .env) :
    work c s' < work c s := by
  unfold work
  rcases measure_step hs with ⟨h, hr⟩ | ⟨h, h' | ⟨_, h1, h2⟩⟩
  · rw [hr]
    omega
  · exact absurd h'.1 ha
  · rw [h, h1, if_pos h2]
    exact Nat.lt_succ_self _

/-! ## Progress -/

/-- producer, all `w` workers and the closer have returned -/
def AllDone (c : Cfg β) (s : St β) : Prop :=
  s.prodDone = true ∧ s.exited = c.w ∧ s.entriesClosed = true

/-- a step of producer, a worker or the closer -/
def NCStep (c : Cfg β) (s s' : St β) : Prop :=
  ∃ a, a ≠ Actor.env ∧ a ≠ Actor.collector ∧ Step c a s s'

/-- Producer, workers and closer are never all blocked before they have all returned — whether or
    not the collector still receives.  `hsend` says no worker waits at a closed `entries`. -/
theorem progress_core {c : Cfg β} (hclose : c.shape.producerClosesJobs = true)
    (hjc : c.shape.jobsCap = .dim) (hec : c.shape.entriesCap = .dim) {s : St β} (hS : SInv c s)
    (hsend : s.entriesClosed = true → s.held = []) (hnd : ¬ AllDone c s) :
    ∃ s', NCStep c s s' := by
  have hflow := hS.flow
  cases hpd : s.prodDone
  · -- the producer can move
    rcases Nat.lt_or_eq_of_le hS.next_le with hlt | heq
    · have : s.jobs.length < c.dim := Nat.lt_of_le_of_lt
        (Nat.le_trans (Nat.le_trans (Nat.le_add_right _ _) (Nat.le_add_right _ _)) hflow) hlt
      exact ⟨_, .producer, nofun, nofun, .prodSend s hpd hlt (hjc ▸ decide_eq_true this)⟩
    · exact ⟨_, .producer, nofun, nofun, .prodExit s hpd heq⟩
  · have hjcl : s.jobsClosed = true := by rw [hS.done_closed hpd, hclose]
    by_cases hidle : 0 < s.idle
    · cases hj : s.jobs with
      | nil => exact ⟨_, .worker, nofun, nofun, .workExitClosed s hidle hj hjcl⟩
      | cons r rest => exact ⟨_, .worker, nofun, nofun, .workRecv s r rest (c.prod r) hidle hj fun _ => rfl⟩
    · cases hh : s.held with
      | cons x post =>
        have hcl : s.entriesClosed = false := by
          cases h : s.entriesClosed
          · rfl
          · cases hh.symm.trans (hsend h)
        -- the held entry is one of the at most `dim` rows under way
        rw [hh, List.length_cons] at hflow
        have hlen : s.entriesQ.length < c.dim := Nat.lt_of_lt_of_le
          (Nat.lt_add_of_pos_left (Nat.add_pos_right _ (Nat.succ_pos _)))
          (Nat.le_trans hflow hS.next_le)
        exact ⟨_, .worker, nofun, nofun, .workSend s [] x post hh hcl (hec ▸ decide_eq_true hlen)⟩
      | nil =>
        have hex := hS.workers
        rw [hh, List.length_nil, Nat.eq_zero_of_not_pos hidle, Nat.zero_add] at hex
        have hcl : s.entriesClosed = false := by
          cases h : s.entriesClosed
          · rfl
          · exact absurd ⟨hpd, hex, h⟩ hnd
        exact ⟨_, .closer, nofun, nofun, .closer s hcl fun _ => hex⟩

/-- the facts the progress argument uses -/
structure LiveHyp (c : Cfg β) : Prop where
  closes : c.shape.producerClosesJobs = true
  jobsCap : c.shape.jobsCap = .dim
  entriesCap : c.shape.entriesCap = .dim

/-- No deadlock: while the collector has not returned, somebody other than the environment can move. -/
theorem no_deadlock {c : Cfg β} (L : LiveHyp c) {s : St β} (hr : Reach c s)
    (hres : s.result = none) : ∃ a s', a ≠ Actor.env ∧ Step c a s s' := by
  have hS := sinv_of_reach hr
  cases hq : s.entriesQ with
  | cons x rest => exact ⟨.collector, _, nofun, Step.collRecv s x rest hres hq⟩
  | nil =>
    cases hcl : s.entriesClosed
    · obtain ⟨s', a, ha, _, hs⟩ := progress_core L.closes L.jobsCap L.entriesCap hS
        (fun h => nomatch hcl.symm.trans h) (fun h => nomatch hcl.symm.trans h.2.2)
      exact ⟨a, s', ha, hs⟩
    · exact ⟨.collector, _, nofun, Step.collClosed s hres hq hcl⟩

/-- No leak: until producer, workers and closer have all returned, one of them can move — even
    after the collector has returned (sends never block: capacity `dim` ≥ number of sends). -/
theorem no_leak_progress {c : Cfg β} (L : LiveHyp c)
    (hcw : c.shape.closerWaitsAllWorkers = true) {s : St β} (hr : Reach c s)
    (hnd : ¬ AllDone c s) : ∃ s', NCStep c s s' :=
  progress_core L.closes L.jobsCap L.entriesCap (sinv_of_reach hr)
    (fun h => (no_send_on_closed hcw (sinv_of_reach hr) h).1) hnd

/-- From every reachable state, producer, workers and closer can run to completion on their own. -/
theorem no_leak_eventually {c : Cfg β} (L : LiveHyp c)
    (hcw : c.shape.closerWaitsAllWorkers = true) {s : St β} (hr : Reach c s) :
    ∃ s', Relation.ReflTransGen (NCStep c) s s' ∧ AllDone c s' := by
  generalize hn : workNC c s = n
  induction n using Nat.strongRecOn generalizing s with
  | ind n ih =>
    by_cases hd : AllDone c s
    · exact ⟨s, Relation.ReflTransGen.refl, hd⟩
    · obtain ⟨s1, a, ha1, ha2, hs⟩ := no_leak_progress L hcw hr hd
      obtain ⟨s2, h12, hd2⟩ := ih (workNC c s1) (hn ▸ (workNC_step hs).1 ha1 ha2) (hr.step hs) rfl
      exact ⟨s2, Relation.ReflTransGen.head ⟨a, ha1, ha2, hs⟩ h12, hd2⟩

theorem flow_le_dim {c : Cfg β} {s : St β} (hr : Reach c s) :
    s.jobs.length + s.held.length + s.entriesQ.length ≤ c.dim :=
  Nat.le_trans (sinv_of_reach hr).flow (sinv_of_reach hr).next_le

/-- both channels stay within the capacity `make(chan …, dim)` gives them -/
theorem chan_bounds {c : Cfg β} {s : St β} (hr : Reach c s) :
    s.jobs.length ≤ c.dim ∧ s.entriesQ.length ≤ c.dim :=
  ⟨Nat.le_trans (Nat.le_trans (Nat.le_add_right _ _) (Nat.le_add_right _ _)) (flow_le_dim hr),
    Nat.le_trans (Nat.le_add_left _ _) (flow_le_dim hr)⟩

/-! ## The cancellation trace that a missing `ctx` re-check lets through -/

/-- after cancel, producer exit on cancel and `k` workers exiting on cancel -/
def cancelledSt (c : Cfg β) (k : Nat) (closed : Bool) : St β :=
  { next := 0, prodDone := true, jobsClosed := c.shape.producerClosesJobs, jobs := [],
    idle := c.w - k, held := [], exited := k, entriesQ := [], entriesClosed := closed, got := [],
    cancelled := true, result := none, out := none }

theorem reach_cancelledSt {c : Cfg β} (hp : c.shape.producerSelectsCtx = true)
    (hw : c.shape.workerRecvSelectsCtx = true) (hd : 0 < c.dim) :
    ∀ k, k ≤ c.w → Reach c (cancelledSt c k false) := by
  intro k
  induction k with
  | zero =>
    intro _
    exact ((Reach.start c).step (Step.cancel _)).step (Step.prodCancel _ rfl hd hp rfl)
  | succ k ih =>
    intro hk
    exact (ih (Nat.le_of_succ_le hk)).step (Step.workCancelRecv _ (Nat.sub_pos_of_lt hk) hw rfl)

/-- Without the re-check of `ctx.Err()` after the loop, cancellation before any row was
    processed makes `MulVec` report success with an EMPTY vector: cancel → producer exits on
    cancel → every worker exits on cancel → closer closes `entries` → collector takes the
    closed branch. -/
theorem unsafe_trace (c : Cfg β) (hp : c.shape.producerSelectsCtx = true)
    (hw : c.shape.workerRecvSelectsCtx = true) (hre : c.shape.collectorRechecksCtx = false)
    (hd : 0 < c.dim) (hnil : c.sortFn [] = []) :
    ∃ s, Reach c s ∧ s.cancelled = true ∧ s.result = some (.ok []) ∧ s.out = some [] := by
  have h1 := (reach_cancelledSt hp hw hd c.w (Nat.le_refl _)).step
    (Step.closer _ rfl (fun _ => rfl))
  have h2 := h1.step (Step.collClosed _ rfl rfl rfl)
  refine ⟨_, h2, rfl, ?_, ?_⟩ <;> simp [cancelledSt, hre, pub, hnil]

/-! ## Example shapes and a concrete out-of-order run -/

/-- every structural fact present (the repaired source) -/
def safeShape : MulVecShape :=
  { producerSelectsCtx := true, producerClosesJobs := true, workerRecvSelectsCtx := true,
    workerSendSelectsCtx := true, rowByOneVecDot := true, closerWaitsAllWorkers := true,
    collectorSelectsCtx := true, collectorRechecksCtx := true, dropsZero := true,
    sortsAfterCollect := true, publishesAfterSort := true, jobsCap := .dim, entriesCap := .dim,
    numWorkers := 32 }

/-- the same without the `ctx.Err()` re-check after the collector loop -/
def noRecheckShape : MulVecShape := { safeShape with collectorRechecksCtx := false }

example : safeShape.safe = true ∧ safeShape.deterministicCollect = true := by decide
example : noRecheckShape.safe = false ∧ noRecheckShape.deterministicCollect = true := by decide

/-- 2 rows, 2 workers, products 1 and 2 -/
def exCfg : Cfg Nat :=
  { shape := safeShape, dim := 2, w := 2, prod := fun r => r + 1, isZ := fun x => x == 0,
    sortFn := isortFst }

/-- A complete run in which row 1 overtakes row 0 on `entries`; the collector nevertheless
    publishes `[(0,1),(1,2)]`, and every goroutine has returned. -/
theorem exCfg_run : ∃ s, Reach exCfg s ∧ s.cancelled = false ∧
    s.got = [(1, 2), (0, 1)] ∧ s.result = some (.ok [(0, 1), (1, 2)]) ∧
    s.out = some [(0, 1), (1, 2)] ∧ AllDone exCfg s := by
  have h1 := (Reach.start exCfg).step (Step.prodSend _ rfl (by decide) (by decide))
  have h2 := h1.step (Step.prodSend _ rfl (by decide) (by decide))
  have h3 := h2.step (Step.prodExit _ rfl rfl)
  have h4 := h3.step (Step.workRecv _ 0 [1] 1 (by decide) rfl (fun _ => rfl))
  have h5 := h4.step (Step.workRecv _ 1 [] 2 (by decide) rfl (fun _ => rfl))
  have h6 := h5.step (Step.workSend _ [] (1, 2) [(0, 1)] rfl rfl (by decide))
  have h7 := h6.step (Step.workSend _ [] (0, 1) [] rfl rfl (by decide))
  have h8 := h7.step (Step.workExitClosed _ (by decide) rfl rfl)
  have h9 := h8.step (Step.workExitClosed _ (by decide) rfl rfl)
  have h10 := h9.step (Step.closer _ rfl (fun _ => rfl))
  have h11 := h10.step (Step.collRecv _ (1, 2) [(0, 1)] rfl rfl)
  have h12 := h11.step (Step.collRecv _ (0, 1) [] rfl rfl)
  have h13 := h12.step (Step.collClosed _ rfl rfl rfl)
  exact ⟨_, h13, rfl, rfl, rfl, rfl, rfl, rfl, rfl⟩

/-! ## From the decidable shape predicates to the hypothesis bundles -/

theorem det_iff {shape : MulVecShape} : shape.deterministicCollect = true ↔
    shape.rowByOneVecDot = true ∧ shape.sortsAfterCollect = true ∧
    shape.publishesAfterSort = true ∧ shape.dropsZero = true ∧ shape.producerClosesJobs = true ∧
    shape.closerWaitsAllWorkers = true ∧ 1 ≤ shape.numWorkers := by
  simp only [MulVecShape.deterministicCollect, Bool.and_eq_true, decide_eq_true_eq, and_assoc,
    ge_iff_le]

theorem safe_iff {shape : MulVecShape} : shape.safe = true ↔
    shape.producerSelectsCtx = true ∧ shape.producerClosesJobs = true ∧
    shape.workerRecvSelectsCtx = true ∧ shape.workerSendSelectsCtx = true ∧
    shape.closerWaitsAllWorkers = true ∧ shape.collectorSelectsCtx = true ∧
    shape.collectorRechecksCtx = true ∧ shape.publishesAfterSort = true ∧
    shape.jobsCap = .dim ∧ shape.entriesCap = .dim ∧ 1 ≤ shape.numWorkers := by
  simp only [MulVecShape.safe, Bool.and_eq_true, decide_eq_true_eq, and_assoc, ge_iff_le]

theorem detHyp_of {shape : MulVecShape} (h : shape.deterministicCollect = true) (dim w : Nat)
    (prod : Nat → β) (isZ : β → Bool) {sortFn : List (Nat × β) → List (Nat × β)}
    (hs : IsSortFn sortFn) (hw : 1 ≤ w) : DetHyp ⟨shape, dim, w, prod, isZ, sortFn⟩ := by
  obtain ⟨row, sorts, _, drops, _, waits, _⟩ := det_iff.mp h
  exact ⟨row, sorts, drops, waits, hw, hs⟩

theorem publishes_of_det {shape : MulVecShape} (h : shape.deterministicCollect = true) :
    shape.publishesAfterSort = true := by
  obtain ⟨_, _, publishes, _⟩ := det_iff.mp h
  exact publishes

theorem numWorkers_of_det {shape : MulVecShape} (h : shape.deterministicCollect = true) :
    1 ≤ shape.numWorkers := by
  obtain ⟨_, _, _, _, _, _, hw⟩ := det_iff.mp h
  exact hw

theorem liveHyp_of_safe {shape : MulVecShape} (h : shape.safe = true) (dim w : Nat)
    (prod : Nat → β) (isZ : β → Bool) (sortFn : List (Nat × β) → List (Nat × β)) :
    LiveHyp ⟨shape, dim, w, prod, isZ, sortFn⟩ := by
  obtain ⟨_, closes, _, _, _, _, _, _, jobsCap, entriesCap, _⟩ := safe_iff.mp h
  exact ⟨closes, jobsCap, entriesCap⟩

theorem closerWaits_of_safe {shape : MulVecShape} (h : shape.safe = true) :
    shape.closerWaitsAllWorkers = true := by
  obtain ⟨_, _, _, _, waits, _⟩ := safe_iff.mp h
  exact waits

theorem rechecks_of_safe {shape : MulVecShape} (h : shape.safe = true) :
    shape.collectorRechecksCtx = true := by
  obtain ⟨_, _, _, _, _, _, rechecks, _⟩ := safe_iff.mp h
  exact rechecks

end EtVerif.MulVecConc

/-! # Caller-level atomicity of `Compute` and `Transpose` under cancellation -/

namespace EtVerif.CancelAtomic
open EtVerif

section Compute
variable {σ : Type}

/-- what the caller of `basic.Compute` observes -/
structure CRes (σ : Type) where
  /-- a non-nil error was returned -/
  err : Bool
  /-- the returned vector (`nil` = `none`) -/
  ret : Option σ
  /-- the caller's result slot (`WithResultIn`); unchanged = the value it had before the call -/
  slot : Option σ
  /-- the caller's initial vector `t0` after the call -/
  input : σ

/-- `return nil, ctx.Err()` (or `return nil, err` after a failed `MulVec`) -/
def cErr (sh : ComputeShape) (t0 t1 : σ) (slot : Option σ) : CRes σ :=
  ⟨true, if sh.returnsNilOnCtx then none else some t1, slot, if sh.clonesInitial then t0 else t1⟩

/-- the code after the loop: assign the result slot, `return t, nil` -/
def cFin (sh : ComputeShape) (t0 t1 : σ) : CRes σ :=
  ⟨false, some t1, some t1, if sh.clonesInitial then t0 else t1⟩

/-- The loop `for ; iter < maxIters; iter++` of `basic.Compute` (eigentrust.go).  `cancelled i` is
    what the poll at the head of iteration `i` sees; `mvFails i` says `MulVec` of iteration `i`
    returned `ctx.Err()` (by `C07.mulVec_cancel_safe` it then left `t1` untouched; otherwise it
    stored the full product and the iteration computes `body t1`).  `skip t1` is what an iteration
    makes of `t1` when `MulVec` failed and the code carries on regardless (`ScaleVec`, `AddVec` on
    the unmultiplied vector): only a shape with `propagatesMulVecErr = false` gets there, and the
    theorems hold for every `skip`.  `stop` is the convergence / flat-tail exit test, `fuel` the
    remaining `maxIters`. -/
def computeLoop (sh : ComputeShape) (body skip : σ → σ) (stop : Nat → σ → Bool)
    (cancelled mvFails : Nat → Bool) (t0 : σ) : (fuel iter : Nat) → (t1 : σ) → (slot : Option σ) → CRes σ
  | 0, _, t1, _ => cFin sh t0 t1
  | fuel + 1, iter, t1, slot =>
    if sh.pollsCtxAtLoopHead && cancelled iter then cErr sh t0 t1 slot
    else if stop iter t1 then cFin sh t0 t1
    else if mvFails iter then
      if sh.propagatesMulVecErr then cErr sh t0 t1 slot
      else
        computeLoop sh body skip stop cancelled mvFails t0 fuel (iter + 1) (skip t1)
          (if sh.resultAssignedAfterLoop then slot else some (skip t1))
    else
      computeLoop sh body skip stop cancelled mvFails t0 fuel (iter + 1) (body t1)
        (if sh.resultAssignedAfterLoop then slot else some (body t1))

/-- the undisturbed run: never cancelled -/
def computeUndisturbed (sh : ComputeShape) (body skip : σ → σ) (stop : Nat → σ → Bool) (t0 : σ)
    (fuel iter : Nat) (t1 : σ) (slot : Option σ) : CRes σ :=
  computeLoop sh body skip stop (fun _ => false) (fun _ => false) t0 fuel iter t1 slot

theorem computeSafe_iff {sh : ComputeShape} : sh.safe = true ↔
    sh.pollsCtxAtLoopHead = true ∧ sh.returnsNilOnCtx = true ∧ sh.resultAssignedAfterLoop = true ∧
    sh.clonesInitial = true ∧ sh.propagatesMulVecErr = true := by
  simp only [ComputeShape.safe, Bool.and_eq_true, and_assoc]

theorem computeLoop_atomic (sh : ComputeShape) (hsafe : sh.safe = true) (body skip : σ → σ)
    (stop : Nat → σ → Bool) (cancelled mvFails : Nat → Bool) (t0 : σ) :
    ∀ (fuel iter : Nat) (t1 : σ) (slot : Option σ),
      computeLoop sh body skip stop cancelled mvFails t0 fuel iter t1 slot =
          ⟨true, none, slot, t0⟩ ∨
        computeLoop sh body skip stop cancelled mvFails t0 fuel iter t1 slot =
          computeUndisturbed sh body skip stop t0 fuel iter t1 slot := by
  obtain ⟨hpoll, hnil, hslot, hclone, hprop⟩ := computeSafe_iff.mp hsafe
  intro fuel
  induction fuel with
  | zero => intro iter t1 slot; right; rfl
  | succ fuel ih =>
    intro iter t1 slot
    unfold computeUndisturbed at ih ⊢
    simp only [computeLoop, hpoll, hslot, hprop, Bool.true_and, if_true, Bool.false_eq_true,
      if_false]
    cases hc : cancelled iter
    · cases hst : stop iter t1
      · cases hmv : mvFails iter
        · simpa using ih (iter + 1) (body t1) slot
        · left; simp [cErr, hnil, hclone]
      · right; simp
    · left; simp [cErr, hnil, hclone]

/-- the undisturbed run succeeds, returns what it stores in the slot, and leaves `t0` alone -/
theorem computeUndisturbed_ok (sh : ComputeShape) (hsafe : sh.safe = true) (body skip : σ → σ)
    (stop : Nat → σ → Bool) (t0 : σ) :
    ∀ (fuel iter : Nat) (t1 : σ) (slot : Option σ),
      ∃ t, computeUndisturbed sh body skip stop t0 fuel iter t1 slot = ⟨false, some t, some t, t0⟩ := by
  obtain ⟨_, _, hslot, hclone, _⟩ := computeSafe_iff.mp hsafe
  intro fuel
  induction fuel with
  | zero => intro iter t1 slot; exact ⟨t1, by simp [computeUndisturbed, computeLoop, cFin, hclone]⟩
  | succ fuel ih =>
    intro iter t1 slot
    unfold computeUndisturbed at ih ⊢
    simp only [computeLoop, hslot, Bool.and_false, Bool.false_eq_true, if_false, if_true]
    cases hst : stop iter t1
    · simpa using ih (iter + 1) (body t1) slot
    · exact ⟨t1, by simp [cFin, hclone]⟩

end Compute

section Transpose
variable {α : Type}

/-- what the caller of `(*CSMatrix).Transpose` observes -/
structure TRes (α : Type) where
  err : Bool
  /-- the returned matrix (`nil` = `none`) -/
  ret : Option (CSM α)
  /-- the receiver after the call -/
  recv : CSM α

/-- the table built so far, as a matrix -/
def tMat (m : CSM α) (t : List (Row α)) : CSM α := ⟨m.minor, m.major, t, []⟩

/-- the receiver as left behind: untouched if the code builds a fresh table -/
def tRecv (sh : TransposeShape) (m : CSM α) (t : List (Row α)) : CSM α :=
  if sh.receiverUntouched then m else { m with rows := t }

/-- The scatter loop of `(*CSMatrix).Transpose` (matrix.go) with the per-row `ctx` poll;
    `cancelled i` is what the poll before row `i` sees. -/
def transposeLoop (sh : TransposeShape) (cancelled : Nat → Bool) (m : CSM α) :
    List (Row α × Nat) → List (Row α) → TRes α
  | [], t => ⟨false, some (tMat m t), tRecv sh m t⟩
  | (r, i) :: rest, t =>
    if sh.pollsCtxPerRow && cancelled i then
      ⟨true, if sh.returnsNilOnCtx then none else some (tMat m t), tRecv sh m t⟩
    else transposeLoop sh cancelled m rest (scatterRow t i r)

/-- `Transpose` under a cancellation oracle -/
def transposeC (sh : TransposeShape) (cancelled : Nat → Bool) (m : CSM α) : TRes α :=
  transposeLoop sh cancelled m m.rows.zipIdx (List.replicate m.minor [])

theorem transposeLoop_atomic (sh : TransposeShape) (hsafe : sh.safe = true)
    (cancelled : Nat → Bool) (m : CSM α) :
    ∀ (l : List (Row α × Nat)) (t : List (Row α)),
      transposeLoop sh cancelled m l t = ⟨true, none, m⟩ ∨
      transposeLoop sh cancelled m l t =
        ⟨false, some (tMat m (l.foldl (fun t (p : Row α × Nat) => scatterRow t p.2 p.1) t)), m⟩ := by
  simp only [TransposeShape.safe, Bool.and_eq_true] at hsafe
  obtain ⟨⟨hpoll, hnil⟩, hrecv⟩ := hsafe
  intro l
  induction l with
  | nil => intro t; right; simp [transposeLoop, tRecv, hrecv]
  | cons p rest ih =>
    intro t
    obtain ⟨r, i⟩ := p
    simp only [transposeLoop, hpoll, Bool.true_and, List.foldl_cons]
    cases hc : cancelled i
    · simpa using ih (scatterRow t i r)
    · left; simp [tRecv, hnil, hrecv]

end Transpose

end EtVerif.CancelAtomic
