/-
  Sparse vectors over a field: the predicates `Sorted` / `WF` on entry lists, read through the
  dense views `denE` (Model/Sparse.lean) and `denM`; dense value, sortedness and well-formedness
  of the results of AddVec, SubVec and ScaleVec; and, for any `Scalar` (so also `Float`), which
  entries the AddVec / SubVec loops produce.
-/
import EtVerif.Proofs.FieldScalar

namespace EtVerif
open Scalar

variable {K : Type} [Field K] [LinearOrder K]

def Sorted (es : List (Entry K)) : Prop := es.Pairwise (fun a b => a.idx < b.idx)

def WF (dim : Nat) (es : List (Entry K)) : Prop := Sorted es ∧ ∀ e ∈ es, e.idx < dim

/-- both predicates only compare indices, so on concrete data they are settled by `decide` -/
instance (es : List (Entry K)) : Decidable (Sorted es) :=
  inferInstanceAs (Decidable (es.Pairwise _))

instance (dim : Nat) (es : List (Entry K)) : Decidable (WF dim es) :=
  inferInstanceAs (Decidable (_ ∧ _))

/-- dense value of a row table at `(i, j)` (rows beyond the table are empty); `denRows`
    (Matrix.lean) and `Distrust.denRows` are the same function, equal to it by `rfl` -/
def denM (rows : List (Row K)) (i j : Nat) : K := denE (rows.getD i []) j

/-! ### `Sorted`, `WF`, `denE`: basics -/

omit [Field K] [LinearOrder K] in
theorem Sorted.nil : Sorted ([] : List (Entry K)) := List.Pairwise.nil

omit [Field K] [LinearOrder K] in
theorem WF.nil (dim : Nat) : WF dim ([] : List (Entry K)) :=
  ⟨Sorted.nil, fun _ h => by cases h⟩

omit [Field K] [LinearOrder K] in
theorem Sorted.cons {a : Entry K} {es : List (Entry K)} (h1 : ∀ e ∈ es, a.idx < e.idx)
    (h2 : Sorted es) : Sorted (a :: es) := List.pairwise_cons.mpr ⟨h1, h2⟩

@[simp] theorem denE_nil (i : Nat) : denE ([] : List (Entry K)) i = 0 := rfl

@[simp] theorem denE_cons (e : Entry K) (es : List (Entry K)) (i : Nat) :
    denE (e :: es) i = if e.idx = i then e.val + denE es i else denE es i := rfl

theorem denE_cons_of_ne {e : Entry K} {i : Nat} (h : e.idx ≠ i) (es : List (Entry K)) :
    denE (e :: es) i = denE es i := if_neg h

theorem denE_eq_zero_of_forall_ne {es : List (Entry K)} {i : Nat}
    (h : ∀ e ∈ es, e.idx ≠ i) : denE es i = 0 := by
  induction es with
  | nil => rfl
  | cons e es ih =>
    have h1 : e.idx ≠ i := h e (by simp)
    simp [h1, ih (fun e he => h e (by simp [he]))]

theorem Sorted.tail {a : Entry K} {es : List (Entry K)} (h : Sorted (a :: es)) : Sorted es :=
  (List.pairwise_cons.mp h).2

theorem Sorted.head_lt {a : Entry K} {es : List (Entry K)} (h : Sorted (a :: es)) :
    ∀ e ∈ es, a.idx < e.idx := (List.pairwise_cons.mp h).1

theorem denE_of_lt_head {a : Entry K} {es : List (Entry K)} {i : Nat}
    (h : Sorted (a :: es)) (hi : i < a.idx) : denE (a :: es) i = 0 := by
  apply denE_eq_zero_of_forall_ne
  intro e he
  rcases List.mem_cons.mp he with rfl | he
  · omega
  · have := h.head_lt e he; omega

theorem denE_tail_of_le_head {a : Entry K} {es : List (Entry K)} {i : Nat}
    (h : Sorted (a :: es)) (hi : i ≤ a.idx) : denE es i = 0 := by
  apply denE_eq_zero_of_forall_ne
  intro e he
  have := h.head_lt e he; omega

theorem denE_eq_zero_of_ge {n : Nat} {es : List (Entry K)} (h : ∀ e ∈ es, e.idx < n) {i : Nat}
    (hi : n ≤ i) : denE es i = 0 :=
  denE_eq_zero_of_forall_ne fun e he => Nat.ne_of_lt (Nat.lt_of_lt_of_le (h e he) hi)

theorem denE_of_mem {es : List (Entry K)} (h : Sorted es) {e : Entry K} (he : e ∈ es) :
    denE es e.idx = e.val := by
  induction es with
  | nil => cases he
  | cons a es ih =>
    rcases List.mem_cons.mp he with rfl | he'
    · simp [denE_tail_of_le_head h (Nat.le_refl _)]
    · have hlt := h.head_lt e he'
      have hne : a.idx ≠ e.idx := by omega
      simp [hne, ih h.tail he']

theorem exists_mem_of_denE_ne_zero {es : List (Entry K)} {i : Nat} (h : denE es i ≠ 0) :
    ∃ e ∈ es, e.idx = i := by
  by_contra hc
  apply h
  apply denE_eq_zero_of_forall_ne
  intro e he hi
  exact hc ⟨e, he, hi⟩

omit [Field K] [LinearOrder K] in
theorem getD_map_of_default {β γ : Type} {f : β → γ} {d : β} {d' : γ} (hf : f d = d')
    (l : List β) (i : Nat) : (l.map f).getD i d' = f (l.getD i d) := by
  rw [List.getD_eq_getElem?_getD, List.getD_eq_getElem?_getD, List.getElem?_map]
  cases l[i]? with
  | none => exact hf.symm
  | some r => rfl

/-! ### AddVec / SubVec -/

theorem denE_cons_add (e : Entry K) (es : List (Entry K)) (i : Nat) :
    denE (e :: es) i = (if e.idx = i then e.val else 0) + denE es i := by
  rw [denE_cons]; split
  · rfl
  · rw [zero_add]

theorem den_addEntries (e1 e2 : List (Entry K)) (i : Nat) :
    denE (addEntries e1 e2) i = denE e1 i + denE e2 i := by
  fun_induction addEntries e1 e2 with
  | case1 e2 => rw [denE_nil, zero_add]
  | case2 e1 _ => rw [denE_nil, add_zero]
  | case3 a e1 b e2 h ih => rw [denE_cons_add, ih, denE_cons_add a, add_assoc]
  | case4 a e1 b e2 h1 h2 ih => rw [denE_cons_add, ih, denE_cons_add b e2, add_left_comm]
  | case5 a e1 b e2 h1 h2 ih =>
    have hab : b.idx = a.idx := by omega
    rw [denE_cons_add, ih, denE_cons_add a, denE_cons_add b, hab, add_add_add_comm, s_add]
    split
    · rfl
    · rw [add_zero]

omit [Field K] [LinearOrder K] in
theorem negEntries_cons {α : Type} [Scalar α] (b : Entry α) (es : List (Entry α)) :
    negEntries (b :: es) = ⟨b.idx, Scalar.neg b.val⟩ :: negEntries es := rfl

@[simp] theorem den_negEntries (es : List (Entry K)) (i : Nat) :
    denE (negEntries es) i = - denE es i := by
  induction es with
  | nil => exact neg_zero.symm
  | cons e es ih =>
    rw [negEntries_cons, denE_cons_add, ih, denE_cons_add, neg_add, s_neg]
    split
    · rfl
    · rw [neg_zero]

/-- Needs a field: where both operands store an index the `SubVec` loop computes `sub a b`, the
    right-hand side `add a (neg b)`. -/
theorem subEntries_eq_add_neg (e1 e2 : List (Entry K)) :
    subEntries e1 e2 = addEntries e1 (negEntries e2) := by
  fun_induction subEntries e1 e2 with
  | case1 e2 => rw [addEntries]
  | case2 e1 h => exact (addEntries.eq_2 e1 h).symm
  | case3 a e1 b e2 h ih => rw [ih, negEntries_cons, addEntries, if_pos h]
  | case4 a e1 b e2 h1 h2 ih => rw [ih, negEntries_cons, addEntries, if_neg h1, if_pos h2]
  | case5 a e1 b e2 h1 h2 ih =>
    rw [ih, negEntries_cons, addEntries, if_neg h1, if_neg h2, s_sub, s_add, s_neg,
      sub_eq_add_neg]

theorem den_subEntries (e1 e2 : List (Entry K)) (i : Nat) :
    denE (subEntries e1 e2) i = denE e1 i - denE e2 i := by
  rw [subEntries_eq_add_neg, den_addEntries, den_negEntries, sub_eq_add_neg]

/-! ### structure of the merge loops, for any `Scalar` (in particular `Float`) -/

section generic
variable {α : Type} [Scalar α]

/-- every entry produced by the `AddVec` loop is an input entry or ONE `add` of two input
    values with equal index -/
theorem mem_addEntries {e1 e2 : List (Entry α)} {x : Entry α} (hx : x ∈ addEntries e1 e2) :
    x ∈ e1 ∨ x ∈ e2 ∨ ∃ a ∈ e1, ∃ b ∈ e2, a.idx = b.idx ∧ x = ⟨a.idx, Scalar.add a.val b.val⟩ := by
  fun_induction addEntries e1 e2 with
  | case1 e2 => exact Or.inr (Or.inl hx)
  | case2 e1 _ => exact Or.inl hx
  | case3 a e1 b e2 h ih =>
    rcases List.mem_cons.mp hx with rfl | hx
    · exact Or.inl (by simp)
    · rcases ih hx with h | h | ⟨a', ha', b', hb', h⟩
      · exact Or.inl (List.mem_cons_of_mem _ h)
      · exact Or.inr (Or.inl h)
      · exact Or.inr (Or.inr ⟨a', List.mem_cons_of_mem _ ha', b', hb', h⟩)
  | case4 a e1 b e2 h1 h2 ih =>
    rcases List.mem_cons.mp hx with rfl | hx
    · exact Or.inr (Or.inl (by simp))
    · rcases ih hx with h | h | ⟨a', ha', b', hb', h⟩
      · exact Or.inl h
      · exact Or.inr (Or.inl (List.mem_cons_of_mem _ h))
      · exact Or.inr (Or.inr ⟨a', ha', b', List.mem_cons_of_mem _ hb', h⟩)
  | case5 a e1 b e2 h1 h2 ih =>
    rcases List.mem_cons.mp hx with rfl | hx
    · exact Or.inr (Or.inr ⟨a, by simp, b, by simp, by omega, rfl⟩)
    · rcases ih hx with h | h | ⟨a', ha', b', hb', h⟩
      · exact Or.inl (List.mem_cons_of_mem _ h)
      · exact Or.inr (Or.inl (List.mem_cons_of_mem _ h))
      · exact Or.inr (Or.inr ⟨a', List.mem_cons_of_mem _ ha', b', List.mem_cons_of_mem _ hb', h⟩)

/-- every entry produced by the `SubVec` loop is an entry of the minuend, ONE `neg` of an
    entry of the subtrahend, or ONE `sub` of two input values with equal index -/
theorem mem_subEntries {e1 e2 : List (Entry α)} {x : Entry α} (hx : x ∈ subEntries e1 e2) :
    x ∈ e1 ∨ (∃ b ∈ e2, x = ⟨b.idx, Scalar.neg b.val⟩) ∨
      ∃ a ∈ e1, ∃ b ∈ e2, a.idx = b.idx ∧ x = ⟨a.idx, Scalar.sub a.val b.val⟩ := by
  fun_induction subEntries e1 e2 with
  | case1 e2 =>
    simp only [negEntries, List.mem_map] at hx
    obtain ⟨b, hb, rfl⟩ := hx
    exact Or.inr (Or.inl ⟨b, hb, rfl⟩)
  | case2 e1 _ => exact Or.inl hx
  | case3 a e1 b e2 h ih =>
    rcases List.mem_cons.mp hx with rfl | hx
    · exact Or.inl (by simp)
    · rcases ih hx with h | ⟨b', hb', h⟩ | ⟨a', ha', b', hb', h⟩
      · exact Or.inl (List.mem_cons_of_mem _ h)
      · exact Or.inr (Or.inl ⟨b', hb', h⟩)
      · exact Or.inr (Or.inr ⟨a', List.mem_cons_of_mem _ ha', b', hb', h⟩)
  | case4 a e1 b e2 h1 h2 ih =>
    rcases List.mem_cons.mp hx with rfl | hx
    · exact Or.inr (Or.inl ⟨b, by simp, rfl⟩)
    · rcases ih hx with h | ⟨b', hb', h⟩ | ⟨a', ha', b', hb', h⟩
      · exact Or.inl h
      · exact Or.inr (Or.inl ⟨b', List.mem_cons_of_mem _ hb', h⟩)
      · exact Or.inr (Or.inr ⟨a', ha', b', List.mem_cons_of_mem _ hb', h⟩)
  | case5 a e1 b e2 h1 h2 ih =>
    rcases List.mem_cons.mp hx with rfl | hx
    · exact Or.inr (Or.inr ⟨a, by simp, b, by simp, by omega, rfl⟩)
    · rcases ih hx with h | ⟨b', hb', h⟩ | ⟨a', ha', b', hb', h⟩
      · exact Or.inl (List.mem_cons_of_mem _ h)
      · exact Or.inr (Or.inl ⟨b', List.mem_cons_of_mem _ hb', h⟩)
      · exact Or.inr (Or.inr ⟨a', List.mem_cons_of_mem _ ha', b', List.mem_cons_of_mem _ hb', h⟩)

theorem idx_mem_addEntries {e1 e2 : List (Entry α)} {x : Entry α} (hx : x ∈ addEntries e1 e2) :
    ∃ y, (y ∈ e1 ∨ y ∈ e2) ∧ y.idx = x.idx := by
  rcases mem_addEntries hx with h | h | ⟨a, ha, b, hb, hab, rfl⟩
  · exact ⟨x, Or.inl h, rfl⟩
  · exact ⟨x, Or.inr h, rfl⟩
  · exact ⟨a, Or.inl ha, rfl⟩

theorem idx_mem_subEntries {e1 e2 : List (Entry α)} {x : Entry α} (hx : x ∈ subEntries e1 e2) :
    ∃ y, (y ∈ e1 ∨ y ∈ e2) ∧ y.idx = x.idx := by
  rcases mem_subEntries hx with h | ⟨b, hb, rfl⟩ | ⟨a, ha, b, hb, hab, rfl⟩
  · exact ⟨x, Or.inl h, rfl⟩
  · exact ⟨b, Or.inr hb, rfl⟩
  · exact ⟨a, Or.inl ha, rfl⟩

theorem vec_setDim_of_le (v : Vec α) {d : Nat} (h : v.dim ≤ d) : v.setDim d = ⟨d, v.entries⟩ := by
  unfold Vec.setDim; rw [if_neg (Nat.not_lt.mpr h)]

end generic

/-! ### well-formedness of AddVec / SubVec results -/

theorem sorted_negEntries {es : List (Entry K)} (h : Sorted es) : Sorted (negEntries es) := by
  unfold Sorted negEntries
  exact List.pairwise_map.mpr h

theorem lt_idx_addEntries {e1 e2 : List (Entry K)} {n : Nat} (h1 : ∀ e ∈ e1, n < e.idx)
    (h2 : ∀ e ∈ e2, n < e.idx) : ∀ x ∈ addEntries e1 e2, n < x.idx := by
  intro x hx
  obtain ⟨y, hy | hy, hyx⟩ := idx_mem_addEntries hx
  · exact hyx ▸ h1 y hy
  · exact hyx ▸ h2 y hy

theorem sorted_addEntries {e1 e2 : List (Entry K)} (h1 : Sorted e1) (h2 : Sorted e2) :
    Sorted (addEntries e1 e2) := by
  fun_induction addEntries e1 e2 with
  | case1 e2 => exact h2
  | case2 e1 _ => exact h1
  | case3 a e1 b e2 h ih =>
    exact Sorted.cons (lt_idx_addEntries h1.head_lt
      (List.forall_mem_cons.mpr ⟨h, fun y hy => h.trans (h2.head_lt y hy)⟩)) (ih h1.tail h2)
  | case4 a e1 b e2 hab hba ih =>
    exact Sorted.cons (lt_idx_addEntries
      (List.forall_mem_cons.mpr ⟨hba, fun y hy => hba.trans (h1.head_lt y hy)⟩) h2.head_lt)
      (ih h1 h2.tail)
  | case5 a e1 b e2 hab hba ih =>
    have e : a.idx = b.idx := by omega
    exact Sorted.cons (lt_idx_addEntries h1.head_lt (e ▸ h2.head_lt)) (ih h1.tail h2.tail)

theorem sorted_subEntries {e1 e2 : List (Entry K)} (h1 : Sorted e1) (h2 : Sorted e2) :
    Sorted (subEntries e1 e2) := by
  rw [subEntries_eq_add_neg]
  exact sorted_addEntries h1 (sorted_negEntries h2)

theorem wf_addEntries {dim : Nat} {e1 e2 : List (Entry K)} (h1 : WF dim e1) (h2 : WF dim e2) :
    WF dim (addEntries e1 e2) := by
  refine ⟨sorted_addEntries h1.1 h2.1, fun x hx => ?_⟩
  obtain ⟨y, hy | hy, hyx⟩ := idx_mem_addEntries hx
  · have := h1.2 y hy; omega
  · have := h2.2 y hy; omega

theorem wf_subEntries {dim : Nat} {e1 e2 : List (Entry K)} (h1 : WF dim e1) (h2 : WF dim e2) :
    WF dim (subEntries e1 e2) := by
  refine ⟨sorted_subEntries h1.1 h2.1, fun x hx => ?_⟩
  obtain ⟨y, hy | hy, hyx⟩ := idx_mem_subEntries hx
  · have := h1.2 y hy; omega
  · have := h2.2 y hy; omega

/-! ### ScaleVec -/

theorem scaleEntries_one (es : List (Entry K)) : scaleEntries (1 : K) es = es := by
  simp [scaleEntries]

/-- for a factor `≠ 1`, `scaleInPlace` multiplies every value and then drops the zero products -/
theorem scaleEntries_of_ne_one {a : K} (h1 : a ≠ 1) (es : List (Entry K)) :
    scaleEntries a es =
      (es.map fun e => (⟨e.idx, e.val * a⟩ : Entry K)).filter fun y => !decide (y.val = 0) := by
  unfold scaleEntries
  rw [if_neg (by simpa using h1), ← List.filterMap_eq_filter, List.filterMap_map]
  congr 1; funext e
  by_cases hz : e.val * a = 0 <;> simp [hz, Option.guard_apply]

theorem denE_filter_ne_zero (l : List (Entry K)) (i : Nat) :
    denE (l.filter fun y => !decide (y.val = 0)) i = denE l i := by
  induction l with
  | nil => rfl
  | cons y l ih =>
    by_cases hz : y.val = 0
    · rw [List.filter_cons_of_neg (by simpa using hz), ih, denE_cons_add, hz, ite_self, zero_add]
    · rw [List.filter_cons_of_pos (by simpa using hz), denE_cons_add, ih, ← denE_cons_add]

theorem denE_map_mul (a : K) (es : List (Entry K)) (i : Nat) :
    denE (es.map fun e => (⟨e.idx, e.val * a⟩ : Entry K)) i = denE es i * a := by
  induction es with
  | nil => exact (zero_mul a).symm
  | cons e es ih =>
    rw [List.map_cons, denE_cons_add, ih, denE_cons_add e, add_mul, ite_mul, zero_mul]

theorem den_scaleEntries (a : K) (es : List (Entry K)) (i : Nat) :
    denE (scaleEntries a es) i = a * denE es i := by
  by_cases h1 : a = 1
  · rw [h1, scaleEntries_one, one_mul]
  · rw [scaleEntries_of_ne_one h1, denE_filter_ne_zero, denE_map_mul, mul_comm]

theorem mem_scaleEntries {a : K} (h1 : a ≠ 1) {es : List (Entry K)} {x : Entry K} :
    x ∈ scaleEntries a es ↔ ∃ e ∈ es, e.val * a ≠ 0 ∧ x = ⟨e.idx, e.val * a⟩ := by
  rw [scaleEntries_of_ne_one h1, List.mem_filter, List.mem_map]
  constructor
  · rintro ⟨⟨e, he, rfl⟩, hz⟩
    exact ⟨e, he, of_decide_eq_false (Bool.not_eq_true' _ ▸ hz), rfl⟩
  · rintro ⟨e, he, hz, rfl⟩
    exact ⟨⟨e, he, rfl⟩, Bool.not_eq_true' _ ▸ decide_eq_false hz⟩

theorem scaleEntries_sublist_idx (a : K) (es : List (Entry K)) :
    ((scaleEntries a es).map (·.idx)).Sublist (es.map (·.idx)) := by
  by_cases h1 : a = 1
  · rw [h1, scaleEntries_one]; exact List.Sublist.refl _
  · rw [scaleEntries_of_ne_one h1]
    have := (List.filter_sublist (p := fun y : Entry K => !decide (y.val = 0))
      (l := es.map fun e => (⟨e.idx, e.val * a⟩ : Entry K))).map (·.idx)
    rwa [List.map_map] at this

/-- `ScaleVec` denotes the dense scaled vector, for every factor (`0` clears the entries) -/
theorem den_vecScale (a : K) (v : Vec K) (i : Nat) :
    denE (Vec.scale a v).entries i = a * denE v.entries i := by
  unfold Vec.scale
  by_cases h0 : a = 0
  · rw [if_pos (by simpa using h0), h0, zero_mul]; rfl
  · rw [if_neg (by simpa using h0)]
    exact den_scaleEntries a v.entries i

theorem vecScale_idx_sublist (a : K) (v : Vec K) :
    ((Vec.scale a v).entries.map (·.idx)).Sublist (v.entries.map (·.idx)) := by
  unfold Vec.scale
  split
  · exact List.nil_sublist _
  · exact scaleEntries_sublist_idx a v.entries

omit [Field K] [LinearOrder K] in
theorem sorted_iff_map_idx {es : List (Entry K)} :
    Sorted es ↔ (es.map (·.idx)).Pairwise (· < ·) := by
  unfold Sorted; rw [List.pairwise_map]

/-! ### sublists of sorted lists -/

omit [Field K] [LinearOrder K] in
theorem sorted_of_idx_sublist {es es' : List (Entry K)}
    (h : (es'.map (·.idx)).Sublist (es.map (·.idx))) (hs : Sorted es) : Sorted es' := by
  rw [sorted_iff_map_idx] at hs ⊢
  exact hs.sublist h

omit [Field K] [LinearOrder K] in
theorem sorted_sublist {es es' : List (Entry K)} (h : es'.Sublist es) (hs : Sorted es) :
    Sorted es' := List.Pairwise.sublist h hs

omit [Field K] [LinearOrder K] in
theorem wf_sublist {n : Nat} {es es' : List (Entry K)} (h : es'.Sublist es) (hs : WF n es) :
    WF n es' := ⟨sorted_sublist h hs.1, fun e he => hs.2 e (h.subset he)⟩

omit [Field K] [LinearOrder K] in
theorem wf_of_idx_sublist {n : Nat} {es es' : List (Entry K)}
    (h : (es'.map (·.idx)).Sublist (es.map (·.idx))) (hs : WF n es) : WF n es' := by
  refine ⟨sorted_of_idx_sublist h hs.1, fun e he => ?_⟩
  have : e.idx ∈ es.map (·.idx) := h.subset (List.mem_map_of_mem he)
  obtain ⟨e0, he0, h0⟩ := List.mem_map.mp this
  rw [← h0]; exact hs.2 e0 he0

theorem wf_scaleEntries {dim : Nat} (a : K) {es : List (Entry K)} (h : WF dim es) :
    WF dim (scaleEntries a es) :=
  wf_of_idx_sublist (scaleEntries_sublist_idx a es) h

end EtVerif
