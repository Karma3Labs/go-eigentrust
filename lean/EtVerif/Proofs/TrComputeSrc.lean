/-
  Refinement of the SECOND translation of `basic.Compute` (`Gen.Compute_src`, Gen/Translated.lean: the same Go
  function, calling the convergence checker TRANSLATED FROM THE SOURCE, with `math.Sqrt`, `math.IsNaN`,
  `math.IsInf` as uninterpreted parameters `sqrtO`, `nanO`, `infO`) to the hand-written model `compute`
  (Model/Basic.lean), under the hypothesis `OracleOK sqrtO nanO infO e` (Proofs/TrChecker.lean): on compensated sums
  of squares `x` — the only values the checker takes a root of —

    (nanO (sqrtO x) || infO (sqrtO x)) = nonFinite x      and      Scalar.le (sqrtO x) e = Scalar.sqrtLe x e.

  (Quantified over every scalar `x` the first is false of the real float functions; the theorems that assume the
  two facts in that form, `Compute_src_refines_ok_partial` and `Compute_src_refines_err_partial`, are instances
  through `OracleOK.of_forall`.)

  Structure: as Proofs/TrCompute.lean, whose lemmas about the model and about loops that follow `computeLoop`
  (`FollowsLoop`) are reused.  The invariant (`CInvS`) differs: the checker field is tied to the model's
  `ConvChecker` by the two facts of `CCRel` (Proofs/TrChecker.lean), and the flat-tail statistics carry `sqrtO` of
  the model's squared delta (`srcStats`).

  Main results:
  * `Compute_src_refines_ok_sq_partial`   — a properly ended run of the model is computed exactly;
  * `Compute_src_refines_err_sq_partial`  — when the model refuses, Go returns `nil, err` and never panics;
  * `Compute_src_refines_ok_root_partial` — the first in the shape "`DeltaNorm` is the root of the model's squared
                                             delta" (needs `sqrtO one = one`);
  * `Compute_src_refuses_validation`      — the second for a failing validation, no oracle hypothesis.
-/
import EtVerif.Proofs.TrCompute
import EtVerif.Proofs.TrChecker
namespace EtVerif.Tr
open EtVerif EtVerif.GoSem EtVerif.Gen Scalar
variable {α : Type} [Scalar α]
set_option linter.unusedSectionVars false

/-! ### the statistics of the source universe -/

/-- the model's statistics as the SOURCE universe leaves them: once a ranking has been recorded (every
    `FlatTailChecker.Update` records one), the delta is the root of the model's squared delta; before that it is
    the initial `1`. -/
def srcStats (sqrtO : α → α) (s : FlatTailStats α) : FlatTailStats α :=
  { s with deltaSq := if s.ranking.isSome then sqrtO s.deltaSq else s.deltaSq }

def toGStatsSrc (sqrtO : α → α) (s : FlatTailStats α) : GFlatTailStats α := toGStats (srcStats sqrtO s)

theorem srcStats_init (sqrtO : α → α) : srcStats sqrtO (FlatTailStats.init : FlatTailStats α) = FlatTailStats.init :=
  rfl

theorem srcStats_length (sqrtO : α → α) (s : FlatTailStats α) : (srcStats sqrtO s).length = s.length := rfl

theorem srcStats_update (sqrtO : α → α) (s : FlatTailStats α) (rk : List Nat) (d : α) :
    (srcStats sqrtO s).update rk (sqrtO d) = srcStats sqrtO (s.update rk d) := by
  by_cases h : s.ranking = some rk
  · simp [FlatTailStats.update, srcStats, h]
  · simp only [FlatTailStats.update, srcStats, h, if_false, Option.isSome_some, if_true]
    rfl

/-! ### the checker calls `Delta`, `Converged` (`Update`: `Update_src_fin`, `Update_src_nonfin` in Proofs/TrChecker.lean) -/

theorem Delta_src_eq (g : GConvergenceCheckerSrc α) :
    Gen.ConvergenceChecker_Delta_src g = .ok (⟨g⟩, g.d) := rfl

theorem Converged_src_eq (g : GConvergenceCheckerSrc α) :
    Gen.ConvergenceChecker_Converged_src g = .ok (⟨g⟩, Scalar.le g.d g.e) := rfl

/-! ### one iteration of the loop body, the calls abstracted by their results -/

section generic
variable (capO : Nat → Int) (fuel : Nat) (sqrtO : α → α) (nanO infO : α → Bool)

/-- not a check iteration: only the power step. -/
theorem src_body_nocheck_generic (s : Compute_src.St α)
    (hnc : Int.tmod (s.iter - s.minIters) s.checkFreq = 0 → ¬ (s.iter ≥ s.minIters))
    (r1 : Vector_MulVec.St α × Option GoError) (r2 : Vector_ScaleVec.St α × Unit)
    (r3 : Vector_AddVec.St α × Option GoError)
    (h1 : Gen.Vector_MulVec s.t1 s.ct s.t1 = .ok r1) (h1e : r1.2 = none)
    (h2 : Gen.Vector_ScaleVec r1.1.v (Scalar.sub (Scalar.one : α) s.a) r1.1.v true = .ok r2)
    (h3 : Gen.Vector_AddVec capO fuel r2.1.v r2.1.v s.ap = .ok r3) (h3e : r3.2 = none) :
    Compute_src.loop1_body capO fuel sqrtO nanO infO s = .ok ({ s with t1 := r3.1.v, err := none }, .next) := by
  by_cases hm : Int.tmod (s.iter - s.minIters) s.checkFreq = 0
  · have hge := hnc hm
    simp only [go_run, Compute_src.loop1_body, hm, hge, decide_true, decide_false, h1, h1e, h2, h3, h3e,
      Option.isNone_none, Bool.not_true]
  · simp only [go_run, Compute_src.loop1_body, hm, decide_false, h1, h1e, h2, h3, h3e, Option.isNone_none,
    Bool.not_true]

/-- a check iteration whose `Update` fails: `return nil, err`. -/
theorem src_body_nonfinite_generic (s : Compute_src.St α)
    (hm : Int.tmod (s.iter - s.minIters) s.checkFreq = 0) (hge : s.iter ≥ s.minIters)
    (ru : ConvergenceChecker_Update_src.St α × Option GoError) (msg : GoError)
    (hu : Gen.ConvergenceChecker_Update_src capO fuel sqrtO nanO infO s.convChecker s.t1 = .ok ru)
    (hue : ru.2 = some msg) :
    ∃ s', Compute_src.loop1_body capO fuel sqrtO nanO infO s = .ok (s', .ret (GVector.zero, some msg)) := by
  exact ⟨_, by
    simp only [go_run, Compute_src.loop1_body, hm, hge, decide_true, hu, hue, Option.isNone_some, Bool.not_false]
    rfl⟩

/-- a check iteration that meets the exit criteria: `break`. -/
theorem src_body_break_generic (s : Compute_src.St α)
    (hm : Int.tmod (s.iter - s.minIters) s.checkFreq = 0) (hge : s.iter ≥ s.minIters)
    (ru : ConvergenceChecker_Update_src.St α × Option GoError)
    (hu : Gen.ConvergenceChecker_Update_src capO fuel sqrtO nanO infO s.convChecker s.t1 = .ok ru)
    (hue : ru.2 = none)
    (rf : FlatTailChecker_Update.St α × Unit) (rr : FlatTailChecker_Reached.St α × Bool)
    (hf : Gen.FlatTailChecker_Update s.flatTailChecker s.t1 ru.1.c.d = .ok rf)
    (hle : Scalar.le ru.1.c.d ru.1.c.e = true)
    (hr : Gen.FlatTailChecker_Reached rf.1.c = .ok rr) (hrr : rr.2 = true) :
    Compute_src.loop1_body capO fuel sqrtO nanO infO s =
      .ok ({ s with convChecker := ru.1.c, err := none, flatTailChecker := rf.1.c }, .brk 1) := by
  simp only [go_run, Compute_src.loop1_body, hm, hge, decide_true, hu, hue, Delta_src_eq, Converged_src_eq,
    Option.isNone_none, Bool.not_true, hf, hle, if_true, hr, hrr]

/-- a check iteration that goes on: the checkers are updated, then the power step. -/
theorem src_body_check_generic (s : Compute_src.St α)
    (hm : Int.tmod (s.iter - s.minIters) s.checkFreq = 0) (hge : s.iter ≥ s.minIters)
    (ru : ConvergenceChecker_Update_src.St α × Option GoError)
    (hu : Gen.ConvergenceChecker_Update_src capO fuel sqrtO nanO infO s.convChecker s.t1 = .ok ru)
    (hue : ru.2 = none)
    (rf : FlatTailChecker_Update.St α × Unit)
    (hf : Gen.FlatTailChecker_Update s.flatTailChecker s.t1 ru.1.c.d = .ok rf)
    (hgo : Scalar.le ru.1.c.d ru.1.c.e = true →
      ∃ rr, Gen.FlatTailChecker_Reached rf.1.c = .ok rr ∧ rr.2 = false)
    (r1 : Vector_MulVec.St α × Option GoError) (r2 : Vector_ScaleVec.St α × Unit)
    (r3 : Vector_AddVec.St α × Option GoError)
    (h1 : Gen.Vector_MulVec s.t1 s.ct s.t1 = .ok r1) (h1e : r1.2 = none)
    (h2 : Gen.Vector_ScaleVec r1.1.v (Scalar.sub (Scalar.one : α) s.a) r1.1.v true = .ok r2)
    (h3 : Gen.Vector_AddVec capO fuel r2.1.v r2.1.v s.ap = .ok r3) (h3e : r3.2 = none) :
    Compute_src.loop1_body capO fuel sqrtO nanO infO s =
      .ok ({ s with convChecker := ru.1.c, err := none, flatTailChecker := rf.1.c, t1 := r3.1.v }, .next) := by
  cases hle : Scalar.le ru.1.c.d ru.1.c.e with
  | false =>
    simp only [go_run, Compute_src.loop1_body, hm, hge, decide_true, hu, hue, Delta_src_eq, Converged_src_eq,
      if_false, Bool.false_eq_true, Option.isNone_none, Bool.not_true, hf, hle, h1, h1e, h2, h3, h3e]
  | true =>
    obtain ⟨rr, hr, hrr⟩ := hgo hle
    simp only [go_run, Compute_src.loop1_body, hm, hge, decide_true, hu, hue, Delta_src_eq, Converged_src_eq,
      Option.isNone_none, Bool.not_true, hf, hle, if_true, hr, hrr, h1, h1e, h2, h3, h3e]
end generic

/-- the Go state inside the loop: the constants prepared by the prefix, and the loop-variant fields tied to
    the model's `LoopState`.  The checker: its vector and epsilon are the model's (the two facts of `CCRel`); its
    `d` and `iter` are free (`d` is the sentinel `2·e` before the first `Update`, and is only read right after an
    `Update`).  The statistics are the source view `srcStats` of the model's.  `tR` is the `WithResultIn` field. -/
structure CInvS (sqrtO : α → α) (n : Nat) (ct : CSM α) (ap : List (Entry α)) (a e : α) (freq minI : Nat)
    (M : Int) (fl nl : Nat) (tR : Option (GVector α)) (s : Compute_src.St α) (ls : LoopState α) : Prop where
  t1 : s.t1 = toGV ⟨n, ls.t1⟩
  convT : s.convChecker.t = toGV ⟨n, ls.conv.t⟩
  convE : s.convChecker.e = e
  ftc : s.flatTailChecker = ⟨(fl : Int), (nl : Int), some (toGStats (srcStats sqrtO ls.stats))⟩
  iter : s.iter = (ls.iter : Int)
  err : s.err = none
  ct : s.ct = toGM ct
  ap : s.ap = toGV ⟨n, ap⟩
  a : s.a = a
  checkFreq : s.checkFreq = (freq : Int)
  minIters : s.minIters = (minI : Int)
  maxIters : s.maxIters = M
  t : s.t = tR

/-! ### the loop of `Compute_src` follows `computeLoop` -/

/-- `L` bounds the length of the checker's vector, `ct.rows.length + ap.length` that of every iterate after the
    first step: the fuel must cover the `SubVec` merge of the two. -/
theorem Compute_src_follows (capO : Nat → Int) (fuel : Nat) (sqrtO : α → α) (nanO infO : α → Bool)
    {n : Nat} {ct : CSM α} {ap : List (Entry α)} {a e : α} {freq minI : Nat} {M : Int} {fl nl : Nat}
    (tR : Option (GVector α)) (L : Nat) (hO : OracleOK sqrtO nanO infO e)
    (hmaj : ct.major = n) (hmin : ct.minor = n) (hBL : ct.rows.length + ap.length + L ≤ fuel) (hnl : 0 < nl) :
    FollowsLoop (Compute_src.loop1_cond capO fuel sqrtO nanO infO) (Compute_src.loop1_body capO fuel sqrtO nanO infO)
      (Compute_src.loop1_post capO fuel sqrtO nanO infO) (CInvS sqrtO n ct ap a e freq minI M fl nl tR)
      ct.rows ap (Scalar.sub (Scalar.one : α) a) e minI freq M fl nl L where
  cond := fun h => by
    simp only [Compute_src.loop1_cond, pure, Except.pure, h.iter, h.maxIters]
  post := fun {s ls} h => by
    refine ⟨{ s with iter := s.iter + 1 }, ?_, ⟨h.t1, h.convT, h.convE, h.ftc, ?_, h.err, h.ct, h.ap, h.a,
      h.checkFreq, h.minIters, h.maxIters, h.t⟩⟩
    · simp only [Compute_src.loop1_post, Stm.set, pure, Except.pure]
    · show s.iter + 1 = ((ls.iter + 1 : Nat) : Int)
      rw [h.iter]
      rfl
  nocheck := fun {s ls} h hck => by
    obtain ⟨r1, r2, r3, h1, h1e, h2, h3, h3e, h3v⟩ :=
      step_calls capO fuel n ct ls.t1 ap a hmaj hmin (Nat.le_trans (Nat.le_add_right _ _) hBL)
    have hb := src_body_nocheck_generic capO fuel sqrtO nanO infO s
      (by rw [h.iter, h.minIters, h.checkFreq]; exact isCheck_false _ _ _ hck) r1 r2 r3
      (by rw [h.t1, h.ct]; exact h1) h1e (by rw [h.a]; exact h2) (by rw [h.ap]; exact h3) h3e
    exact ⟨_, hb, ⟨h3v, h.convT, h.convE, h.ftc, h.iter, rfl, h.ct, h.ap, h.a, h.checkFreq, h.minIters,
      h.maxIters, h.t⟩⟩
  nonfinite := fun {s ls} h hl1 hcl hck hnf => by
    obtain ⟨hm, hge⟩ := isCheck_true _ _ _ hck
    obtain ⟨ru, hu, hue, _⟩ := Update_src_nonfin capO fuel sqrtO nanO infO s.convChecker ls.conv n ls.t1
      h.convT (Nat.le_trans (Nat.add_le_add hl1 hcl) hBL) ((hO.nf (subEntries ls.t1 ls.conv.t)).trans hnf)
    obtain ⟨s', hb⟩ := src_body_nonfinite_generic capO fuel sqrtO nanO infO s
      (by rw [h.iter, h.minIters, h.checkFreq]; exact hm) (by rw [h.iter, h.minIters]; exact hge) ru _
      (by rw [h.t1]; exact hu) hue
    exact ⟨s', _, hb⟩
  criteria := fun {s ls} h hne hl1 hcl hck hnf hsq hreach => by
    obtain ⟨hm, hge⟩ := isCheck_true _ _ _ hck
    obtain ⟨ru, hu, hue, hut, hueps, hud, _⟩ := Update_src_fin capO fuel sqrtO nanO infO s.convChecker ls.conv e n
      ls.t1 h.convT h.convE (Nat.le_trans (Nat.add_le_add hl1 hcl) hBL) ((hO.nf (subEntries ls.t1 ls.conv.t)).trans hnf)
    obtain ⟨rf, hf, hfv⟩ := map_eq_ok (FlatTailChecker_Update_refines (fl : Int) nl (srcStats sqrtO ls.stats)
      ⟨n, ls.t1⟩ (sqrtO (ls.conv.update ls.t1).dsq) hne hnl)
    rw [srcStats_update] at hfv
    obtain ⟨rr, hr, hrv⟩ := map_eq_ok (FlatTailChecker_Reached_refines fl (nl : Int)
      (srcStats sqrtO (ls.stats.update (rankOf ls.t1 nl) (ls.conv.update ls.t1).dsq)))
    have hb := src_body_break_generic capO fuel sqrtO nanO infO s
      (by rw [h.iter, h.minIters, h.checkFreq]; exact hm) (by rw [h.iter, h.minIters]; exact hge) ru
      (by rw [h.t1]; exact hu) hue rf rr
      (by rw [h.ftc, h.t1, hud]; exact hf) (by rw [hud, hueps]; exact (hO.sq (subEntries ls.t1 ls.conv.t)).trans hsq)
      (by rw [hfv]; exact hr) (by rw [hrv]; exact decide_eq_true hreach)
    exact ⟨_, hb, ⟨h.t1, hut, hueps, hfv, h.iter, rfl, h.ct, h.ap, h.a, h.checkFreq, h.minIters, h.maxIters, h.t⟩⟩
  check := fun {s ls} h hne hl1 hcl hck hnf hgo => by
    obtain ⟨hm, hge⟩ := isCheck_true _ _ _ hck
    obtain ⟨ru, hu, hue, hut, hueps, hud, _⟩ := Update_src_fin capO fuel sqrtO nanO infO s.convChecker ls.conv e n
      ls.t1 h.convT h.convE (Nat.le_trans (Nat.add_le_add hl1 hcl) hBL) ((hO.nf (subEntries ls.t1 ls.conv.t)).trans hnf)
    obtain ⟨rf, hf, hfv⟩ := map_eq_ok (FlatTailChecker_Update_refines (fl : Int) nl (srcStats sqrtO ls.stats)
      ⟨n, ls.t1⟩ (sqrtO (ls.conv.update ls.t1).dsq) hne hnl)
    rw [srcStats_update] at hfv
    obtain ⟨rr, hr, hrv⟩ := map_eq_ok (FlatTailChecker_Reached_refines fl (nl : Int)
      (srcStats sqrtO (ls.stats.update (rankOf ls.t1 nl) (ls.conv.update ls.t1).dsq)))
    obtain ⟨r1, r2, r3, h1, h1e, h2, h3, h3e, h3v⟩ :=
      step_calls capO fuel n ct ls.t1 ap a hmaj hmin (Nat.le_trans (Nat.le_add_right _ _) hBL)
    have hb := src_body_check_generic capO fuel sqrtO nanO infO s
      (by rw [h.iter, h.minIters, h.checkFreq]; exact hm) (by rw [h.iter, h.minIters]; exact hge) ru
      (by rw [h.t1]; exact hu) hue rf
      (by rw [h.ftc, h.t1, hud]; exact hf)
      (by
        rw [hud, hueps, hfv]
        intro hle
        have hsq : Scalar.sqrtLe (ls.conv.update ls.t1).dsq e = true :=
          (hO.sq (subEntries ls.t1 ls.conv.t)).symm.trans hle
        refine ⟨rr, hr, ?_⟩
        rw [hrv]
        rw [hsq, Bool.true_and] at hgo
        exact hgo)
      r1 r2 r3 (by rw [h.t1, h.ct]; exact h1) h1e (by rw [h.a]; exact h2) (by rw [h.ap]; exact h3) h3e
    exact ⟨_, hb, ⟨h3v, hut, hueps, hfv, h.iter, rfl, h.ct, h.ap, h.a, h.checkFreq, h.minIters, h.maxIters, h.t⟩⟩

/-! ### the body of the translated function: validation and preparation, statement by statement -/

/-- The state in which `Compute_src` enters its loop: as `CStart`, the checker being the source one
    (previous vector = the initial trust, sentinel delta `2·e`, iteration counter 0). -/
structure CStartS (c : CSM α) (p : Vec α) (a e : α) (o : ComputeOpts α) (tRes : Option (Vec α)) (n : Nat)
    (S : Compute_src.St α) : Prop where
  t1 : S.t1 = toGV (o.t0.getD p)
  conv : S.convChecker =
    { iter := 0, t := toGV (o.t0.getD p), d := Scalar.mul (Scalar.ofNat 2) e, e := e }
  ftc : S.flatTailChecker = ⟨(o.flatTail : Int), ((if o.numLeaders = 0 then n else o.numLeaders : Nat) : Int),
    some (toGStats FlatTailStats.init)⟩
  iter : S.iter = 0
  err : S.err = none
  ct : S.ct = toGM c.transpose
  ap : S.ap = toGV (Vec.scale a p)
  a : S.a = a
  checkFreq : S.checkFreq = o.checkFreq.getD 1
  minIters : S.minIters = o.minIterations.getD (o.checkFreq.getD 1)
  maxIters : S.maxIters =
    if o.maxIterations.getD 0 = 0 then 9223372036854775807 else o.maxIterations.getD 0
  t : S.t = tRes.map toGV

/-- the initial state of `Compute_src` (as in `Gen.Compute_src`). -/
def initStS (c : CSM α) (p : Vec α) (a e : α) (o : ComputeOpts α) (tRes : Option (Vec α))
    (gs : Option (GFlatTailStats α)) : Compute_src.St α :=
  { c := toGM c, p := toGV p, a := a, e := e, o := toGOpts o tRes gs, t0 := (none : (Option (GVector α))), t := (none : (Option (GVector α))), flatTail := (0 : Int), numLeaders := (0 : Int), n := (0 : Int), err := (none : Option GoError), t1 := (GVector.zero : GVector α), ct := (GCSMatrix.zero : GCSMatrix α), ap := (GVector.zero : GVector α), checkFreq := (0 : Int), maxIters := (0 : Int), minIters := (0 : Int), convChecker := (GConvergenceCheckerSrc.zero : GConvergenceCheckerSrc α), flatTailChecker := (GFlatTailChecker.zero : GFlatTailChecker α), iter := (0 : Int), flatTailStats := (GFlatTailStats.zero : GFlatTailStats α) }

theorem Compute_src_eq_run (capO : Nat → Int) (fuel : Nat) (sqrtO : α → α) (nanO infO : α → Bool)
    (c : CSM α) (p : Vec α) (a e : α) (o : ComputeOpts α) (tRes : Option (Vec α))
    (gs : Option (GFlatTailStats α)) :
    Gen.Compute_src capO fuel sqrtO nanO infO (toGM c) (toGV p) a e (toGOpts o tRes gs) =
      Stm.run (Compute_src.body capO fuel sqrtO nanO infO) ((GVector.zero : GVector α), (none : Option GoError))
        (initStS c p a e o tRes gs) := rfl

/-- `Compute_body_elim` for `Compute_src`: the same statements, the checker being made by the translated
    `NewConvergenceChecker`; the loop starts in a state described by `CStartS`. -/
theorem Compute_src_body_elim (capO : Nat → Int) (fuel : Nat) (sqrtO : α → α) (nanO infO : α → Bool) (c : CSM α) (p : Vec α) (a e : α)
    (o : ComputeOpts α) (tRes : Option (Vec α)) (gs : Option (GFlatTailStats α))
    (hres : o.resultDim = tRes.map (·.dim))
    (hcols : c.colsInRange = true)
    {P : R (Compute_src.St α × Ctl (GVector α × Option GoError)) → Prop}
    (h_dim : ∀ er st msg, c.dim = .error er → P (.ok (st, .ret (GVector.zero, some msg))))
    (h_val : ∀ n st msg, c.dim = .ok n → Refusal p a e o n → P (.ok (st, .ret (GVector.zero, some msg))))
    (h_run : ∀ n (K : Stm (Compute_src.St α) (GVector α × Option GoError)) (S : Compute_src.St α),
      c.dim = .ok n → Valid p a e o n → CStartS c p a e o tRes n S →
      (∀ (S' : Compute_src.St α) (g : GFlatTailStats α) (v : Vec α), S'.t = tRes.map toGV →
        S'.flatTailChecker.stats = some g → S'.t1 = toGV v →
        ∃ st, K S' = .ok (st, .ret (toGV v, none)) ∧ st.flatTailStats = g) →
      P (Stm.seq (Stm.loop 1 (Compute_src.loop1_cond capO fuel sqrtO nanO infO) (Compute_src.loop1_body capO fuel sqrtO nanO infO)
        (Compute_src.loop1_post capO fuel sqrtO nanO infO) fuel) K S)) :
    P (Compute_src.body capO fuel sqrtO nanO infO (initStS c p a e o tRes gs)) := by
  unfold Compute_src.body initStS
  cstep []
  cstep []
  cstep []
  cstep []
  -- n, err := c.Dim()
  have hD0 := CSMatrix_Dim_refines c
  cases hdim : c.dim with
  | error er =>
    simp only [hdim] at hD0
    obtain ⟨rd, hD, hrd⟩ := map_eq_ok hD0
    cstep [hD, hrd]
    refine P_congr (seq_ite_ret rfl rfl) ?_
    exact h_dim er _ _ hdim
  | ok n =>
    simp only [hdim] at hD0
    obtain ⟨rd, hD, hrd⟩ := map_eq_ok hD0
    cstep [hD, hrd]
    refine P_congr (seq_ite_pass rfl) ?_
    -- if n == 0
    by_cases hn0 : n = 0
    · refine P_congr (seq_ite_ret (by simp only [hn0, pure, Except.pure]; rfl) rfl) ?_
      exact h_val n _ _ hdim (Or.inl hn0)
    have hn0' : ¬ ((n : Int) = 0) := by omega
    refine P_congr (seq_ite_pass (by simp only [hn0', decide_false, pure, Except.pure])) ?_
    -- dimension checks
    by_cases hdims : dimBad p o n = true
    · refine P_congr (seq_ite_ret ((dimCheck_eq p o tRes n hres).trans (congrArg _ hdims)) rfl) ?_
      exact h_val n _ _ hdim (Or.inr (Or.inl hdims))
    refine P_congr (seq_ite_pass
      ((dimCheck_eq p o tRes n hres).trans (congrArg _ (Bool.eq_false_iff.mpr hdims)))) ?_
    -- alpha, epsilon
    by_cases halpha : (Scalar.lt a Scalar.zero || Scalar.lt Scalar.one a) = true
    · refine P_congr (seq_ite_ret (by simp only [halpha, pure, Except.pure]) rfl) ?_
      exact h_val n _ _ hdim (Or.inr (Or.inr (Or.inl halpha)))
    refine P_congr (seq_ite_pass (by simp only [Bool.eq_false_iff.mpr halpha, pure, Except.pure])) ?_
    by_cases heps : Scalar.le e Scalar.zero = true
    · refine P_congr (seq_ite_ret (by simp only [heps, pure, Except.pure]) rfl) ?_
      exact h_val n _ _ hdim (Or.inr (Or.inr (Or.inr (Or.inl heps))))
    refine P_congr (seq_ite_pass (by simp only [Bool.eq_false_iff.mpr heps, pure, Except.pure])) ?_
    -- numLeaders, t0
    refine P_congr (seq_stepF
      (fun S => { S with numLeaders := ((if o.numLeaders = 0 then n else o.numLeaders : Nat) : Int) }) ?_) ?_
    · by_cases hnl0 : o.numLeaders = 0
      · simp [Stm.ite, Stm.set, pure, Except.pure, hnl0]
      · have : ¬ ((o.numLeaders : Int) = 0) := by omega
        simp only [Stm.ite, Stm.skip, pure, Except.pure, hnl0, this, decide_false, if_false]
    refine P_congr (seq_stepF (fun S => { S with t0 := some (toGV (o.t0.getD p)) }) ?_) ?_
    · rcases o.t0 with _ | t0v <;> simp [Stm.ite, Stm.set, Stm.skip, pure, Except.pure]
    cstep [goDeref_some, Vector_Clone_eq]
    obtain ⟨rt, hT, hrt⟩ := map_eq_ok (CSMatrix_Transpose_refines c hcols)
    cstep [hT, hrt]
    refine P_congr (seq_ite_pass rfl) ?_
    cstep []
    obtain ⟨rs, hS, hrs⟩ := map_eq_ok (Vector_ScaleVec_refines
      ({ Dim := (0 : Int), Entries := [] } : GVector α) a p false (by simp))
    cstep [hS, hrs]
    -- checkFreq
    cstep []
    refine P_congr (seq_ite_deref (fun S => { S with checkFreq := o.checkFreq.getD 1 })
      (by cases o.checkFreq <;> rfl)) ?_
    by_cases hfreq : o.checkFreq.getD 1 < 1
    · refine P_congr (seq_ite_ret (by simp only [hfreq, decide_true, pure, Except.pure]) rfl) ?_
      exact h_val n _ _ hdim (Or.inr (Or.inr (Or.inr (Or.inr (Or.inl hfreq)))))
    refine P_congr (seq_ite_pass (by simp only [hfreq, decide_false, pure, Except.pure])) ?_
    -- maxIters
    cstep []
    refine P_congr (seq_ite_deref (fun S => { S with maxIters := o.maxIterations.getD 0 })
      (by cases o.maxIterations <;> rfl)) ?_
    by_cases hmaxI : o.maxIterations.getD 0 < 0
    · refine P_congr (seq_ite_ret (by simp only [hmaxI, decide_true, pure, Except.pure]) rfl) ?_
      exact h_val n _ _ hdim (Or.inr (Or.inr (Or.inr (Or.inr (Or.inr (Or.inl hmaxI))))))
    refine P_congr (seq_ite_pass (by simp only [hmaxI, decide_false, pure, Except.pure])) ?_
    refine P_congr (seq_stepF (fun S =>
      { S with
        maxIters := if o.maxIterations.getD 0 = 0 then 9223372036854775807 else o.maxIterations.getD 0 })
      ?_) ?_
    · by_cases hm0 : o.maxIterations.getD 0 = 0
      · simp [Stm.ite, Stm.set, pure, Except.pure, hm0]
      · simp only [Stm.ite, Stm.skip, pure, Except.pure, hm0, decide_false, if_false]
    -- minIters
    cstep []
    refine P_congr (seq_ite_deref (fun S => { S with minIters := o.minIterations.getD (o.checkFreq.getD 1) })
      (by cases o.minIterations <;> rfl)) ?_
    by_cases hminI : o.minIterations.getD (o.checkFreq.getD 1) ≤ 0
    · refine P_congr (seq_ite_ret (by simp only [hminI, decide_true, pure, Except.pure]) rfl) ?_
      exact h_val n _ _ hdim (Or.inr (Or.inr (Or.inr (Or.inr (Or.inr (Or.inr hminI))))))
    refine P_congr (seq_ite_pass (by simp only [hminI, decide_false, pure, Except.pure])) ?_
    -- checkers, iter
    obtain ⟨rc, hC, hrc⟩ := map_eq_ok (NewConvergenceChecker_src_refines (o.t0.getD p) e)
    cstep [goDeref_some, hC, hrc]
    obtain ⟨rn, hN, hrn⟩ := map_eq_ok (NewFlatTailChecker_refines (o.flatTail : Int)
      ((if o.numLeaders = 0 then n else o.numLeaders : Nat) : Int) gs)
    cstep [hN, hrn]
    cstep []
    -- the loop and the epilogue
    refine h_run n _ _ hdim ⟨hn0, hdims, halpha, heps, hfreq, hmaxI, hminI⟩
      ⟨rfl, rfl, rfl, rfl, rfl, rfl, rfl, rfl, rfl, rfl, rfl, rfl⟩ ?_
    intro S' g v h1 h2 h3
    obtain ⟨rst, hSt, hst⟩ := map_eq_ok (FlatTailChecker_Stats_refines S'.flatTailChecker g h2)
    refine ⟨{ S' with flatTailStats := g, t := some (toGV v) }, ?_, rfl⟩
    refine (seq_next (s1 := { S' with flatTailStats := g }) ?_).trans ?_
    · simp only [go_run, hSt, hst]
    refine (seq_next (s1 := { S' with flatTailStats := g, t := some (toGV v) }) ?_).trans ?_
    · rcases tRes with _ | tv <;>
        simp [go_run, goDeref, Vector_Assign_eq, h1, h3]
    · simp [go_run, goDeref]

/-! ### success and refusal: `Compute_src` against the model's `compute` -/

theorem Compute_src_body_spec (capO : Nat → Int) (fuel : Nat) (sqrtO : α → α) (nanO infO : α → Bool)
    (c : CSM α) (p : Vec α) (a e : α) (hO : OracleOK sqrtO nanO infO e)
    (o : ComputeOpts α) (tRes : Option (Vec α)) (gs : Option (GFlatTailStats α))
    (hres : o.resultDim = tRes.map (·.dim))
    (hcols : c.colsInRange = true)
    (hap : (Vec.scale a p).entries ≠ [])
    (hfuel : c.major + p.entries.length +
      max (c.major + p.entries.length) (o.t0.getD p).entries.length ≤ fuel)
    (hfuel63 : fuel < 9223372036854775807) :
    ComputeSpec (·.flatTailStats) (toGStatsSrc sqrtO) (compute fuel c p a e o)
      (Compute_src.body capO fuel sqrtO nanO infO (initStS c p a e o tRes gs)) := by
  refine Compute_src_body_elim capO fuel sqrtO nanO infO c p a e o tRes gs hres hcols ?_ ?_ ?_
  · intro er st msg hdim
    exact ComputeSpec_refuse (fun r hr => by rw [compute_dim_err hdim] at hr; cases hr)
  · intro n st msg hdim href
    exact ComputeSpec_refuse (fun r hr => (compute_ok_inv hdim hr).1.not_refusal href)
  · intro n K S hdim hv hS hK
    obtain ⟨hmin, hmaj, hpn, ht0n⟩ := hv.dims_eq hdim
    have hA : c.transpose.rows.length + (Vec.scale a p).entries.length ≤ c.major + p.entries.length := by
      have := scale_entries_length_le a p
      rw [transpose_rows_length]
      omega
    have hnl : 0 < (if o.numLeaders = 0 then n else o.numLeaders) := by
      have := hv.n0
      split <;> omega
    obtain ⟨hcf, hmi, hmx, _⟩ := hv.schedule
    refine (Compute_src_follows capO fuel sqrtO nanO infO (tRes.map toGV)
      (max (c.major + p.entries.length) (o.t0.getD p).entries.length) hO hmin hmaj
      (Nat.le_trans (Nat.add_le_add_right hA _) hfuel) hnl).spec hdim hv
      hap (Nat.le_trans hA (Nat.le_max_left _ _)) (Nat.le_max_right _ _) hfuel63
      ⟨?_, ?_, ?_, hS.ftc, hS.iter, hS.err, hS.ct, ?_, hS.a, hS.checkFreq.trans hcf, hS.minIters.trans hmi,
        hS.maxIters.trans hmx, hS.t⟩
      (fun S' ls' hi => hK S' _ ⟨n, ls'.t1⟩ hi.t (by rw [hi.ftc]; rfl) hi.t1)
    · rw [hS.t1, ← ht0n]
    · rw [hS.conv, ← ht0n]
    · rw [hS.conv]
    · rw [hS.ap, ← hpn, ← scale_dim a p]

/-- Success.  A run of the model that ends properly (by the criteria or by `maxIterations`) is computed exactly by
    `Compute_src` (the translated Go code calling the convergence checker translated from the source) when the
    oracles agree with the model on sums of squares (`OracleOK`): same trust vector, no error, the model's flat-tail
    statistics with the delta under the root (`toGStatsSrc`: length, threshold and ranking are the model's;
    `DeltaNorm` is `sqrtO` of the model's squared delta once a ranking has been recorded, and the initial `1` before).
    `_partial`: (1) as `Compute_refines_ok_partial`, the hypothesis `hfuel63 : fuel < 2^63-1`;
    (2) the fuel hypothesis is stronger than `c.major + p.entries.length ≤ fuel`: the same `fuel` also bounds the
    merge loop of the `SubVec` inside `ConvergenceChecker.Update`, which runs over the current iterate (at most
    `c.major + p.entries.length` entries) and the previously checked vector (an earlier iterate, or the initial
    trust).  With less fuel `Compute_src` can end with the fuel error while the model succeeds. -/
theorem Compute_src_refines_ok_sq_partial (capO : Nat → Int) (fuel : Nat) (sqrtO : α → α) (nanO infO : α → Bool)
    (c : CSM α) (p : Vec α) (a e : α) (hO : OracleOK sqrtO nanO infO e)
    (o : ComputeOpts α) (tRes : Option (Vec α)) (gs : Option (GFlatTailStats α))
    (hres : o.resultDim = tRes.map (·.dim))
    (hcols : c.colsInRange = true)
    (hap : (Vec.scale a p).entries ≠ [])
    (r : ComputeResult α) (hr : compute fuel c p a e o = .ok r) (hend : r.endedBy ≠ .outOfFuel)
    (hfuel : c.major + p.entries.length +
      max (c.major + p.entries.length) (o.t0.getD p).entries.length ≤ fuel)
    (hfuel63 : fuel < 9223372036854775807) :
    (Gen.Compute_src capO fuel sqrtO nanO infO (toGM c) (toGV p) a e (toGOpts o tRes gs)).map
        (fun x => (x.2, x.1.flatTailStats)) = .ok ((toGV r.t, none), toGStatsSrc sqrtO r.stats) := by
  obtain ⟨st, h1, h2⟩ :=
    (Compute_src_body_spec capO fuel sqrtO nanO infO c p a e hO o tRes gs hres hcols hap hfuel hfuel63).1
      r hr hend
  rw [Compute_src_eq_run]
  simp only [Stm.run, h1, Except.map, h2]

/-- Refusal.  Whenever the model refuses (validation error, or a non-finite delta), `Compute_src` returns a nil vector
    and an error; it never panics.  `_partial`: hypotheses as in `Compute_src_refines_ok_sq_partial`. -/
theorem Compute_src_refines_err_sq_partial (capO : Nat → Int) (fuel : Nat) (sqrtO : α → α) (nanO infO : α → Bool)
    (c : CSM α) (p : Vec α) (a e : α) (hO : OracleOK sqrtO nanO infO e)
    (o : ComputeOpts α) (tRes : Option (Vec α)) (gs : Option (GFlatTailStats α))
    (hres : o.resultDim = tRes.map (·.dim))
    (hcols : c.colsInRange = true)
    (hap : (Vec.scale a p).entries ≠ [])
    (er : SErr) (hr : compute fuel c p a e o = .error er)
    (hfuel : c.major + p.entries.length +
      max (c.major + p.entries.length) (o.t0.getD p).entries.length ≤ fuel)
    (hfuel63 : fuel < 9223372036854775807) :
    ∃ st msg, Gen.Compute_src capO fuel sqrtO nanO infO (toGM c) (toGV p) a e (toGOpts o tRes gs) =
      .ok (st, (GVector.zero, some msg)) := by
  obtain ⟨st, msg, h1⟩ :=
    (Compute_src_body_spec capO fuel sqrtO nanO infO c p a e hO o tRes gs hres hcols hap hfuel hfuel63).2
      er hr
  refine ⟨st, msg, ?_⟩
  rw [Compute_src_eq_run]
  simp only [Stm.run, h1]

/-- Success under the oracle hypotheses quantified over every scalar (`hnf`, `hsq`); see
    `Compute_src_refines_ok_sq_partial` for the `_partial` (fuel) and for the weaker hypothesis `OracleOK`. -/
theorem Compute_src_refines_ok_partial (capO : Nat → Int) (fuel : Nat) (sqrtO : α → α) (nanO infO : α → Bool)
    (hnf : ∀ x : α, (nanO (sqrtO x) || infO (sqrtO x)) = nonFinite x)
    (hsq : ∀ x e : α, Scalar.le (sqrtO x) e = Scalar.sqrtLe x e)
    (c : CSM α) (p : Vec α) (a e : α)
    (o : ComputeOpts α) (tRes : Option (Vec α)) (gs : Option (GFlatTailStats α))
    (hres : o.resultDim = tRes.map (·.dim))
    (hcols : c.colsInRange = true)
    (hap : (Vec.scale a p).entries ≠ [])
    (r : ComputeResult α) (hr : compute fuel c p a e o = .ok r) (hend : r.endedBy ≠ .outOfFuel)
    (hfuel : c.major + p.entries.length +
      max (c.major + p.entries.length) (o.t0.getD p).entries.length ≤ fuel)
    (hfuel63 : fuel < 9223372036854775807) :
    (Gen.Compute_src capO fuel sqrtO nanO infO (toGM c) (toGV p) a e (toGOpts o tRes gs)).map
        (fun x => (x.2, x.1.flatTailStats)) = .ok ((toGV r.t, none), toGStatsSrc sqrtO r.stats) :=
  Compute_src_refines_ok_sq_partial capO fuel sqrtO nanO infO c p a e (OracleOK.of_forall hnf hsq e) o tRes gs hres
    hcols hap r hr hend hfuel hfuel63

/-- Refusal under the oracle hypotheses quantified over every scalar. -/
theorem Compute_src_refines_err_partial (capO : Nat → Int) (fuel : Nat) (sqrtO : α → α) (nanO infO : α → Bool)
    (hnf : ∀ x : α, (nanO (sqrtO x) || infO (sqrtO x)) = nonFinite x)
    (hsq : ∀ x e : α, Scalar.le (sqrtO x) e = Scalar.sqrtLe x e)
    (c : CSM α) (p : Vec α) (a e : α)
    (o : ComputeOpts α) (tRes : Option (Vec α)) (gs : Option (GFlatTailStats α))
    (hres : o.resultDim = tRes.map (·.dim))
    (hcols : c.colsInRange = true)
    (hap : (Vec.scale a p).entries ≠ [])
    (er : SErr) (hr : compute fuel c p a e o = .error er)
    (hfuel : c.major + p.entries.length +
      max (c.major + p.entries.length) (o.t0.getD p).entries.length ≤ fuel)
    (hfuel63 : fuel < 9223372036854775807) :
    ∃ st msg, Gen.Compute_src capO fuel sqrtO nanO infO (toGM c) (toGV p) a e (toGOpts o tRes gs) =
      .ok (st, (GVector.zero, some msg)) :=
  Compute_src_refines_err_sq_partial capO fuel sqrtO nanO infO c p a e (OracleOK.of_forall hnf hsq e) o tRes gs hres
    hcols hap er hr hfuel hfuel63

/-- Refusal by validation alone, without oracle, `hap` or fuel hypotheses: a failing `c.Dim()` or a failing validation
    makes `Compute_src` return a nil vector and an error. -/
theorem Compute_src_refuses_validation (capO : Nat → Int) (fuel : Nat) (sqrtO : α → α) (nanO infO : α → Bool)
    (c : CSM α) (p : Vec α) (a e : α)
    (o : ComputeOpts α) (tRes : Option (Vec α)) (gs : Option (GFlatTailStats α))
    (hres : o.resultDim = tRes.map (·.dim))
    (hcols : c.colsInRange = true)
    (h : (∃ er, c.dim = .error er) ∨ ∃ n, c.dim = .ok n ∧ Refusal p a e o n) :
    ∃ st msg, Gen.Compute_src capO fuel sqrtO nanO infO (toGM c) (toGV p) a e (toGOpts o tRes gs) =
      .ok (st, (GVector.zero, some msg)) := by
  have key : ∃ st msg, Compute_src.body capO fuel sqrtO nanO infO (initStS c p a e o tRes gs) =
      .ok (st, .ret (GVector.zero, some msg)) := by
    refine Compute_src_body_elim capO fuel sqrtO nanO infO c p a e o tRes gs hres hcols
      (P := fun x => ∃ st msg, x = .ok (st, .ret (GVector.zero, some msg))) ?_ ?_ ?_
    · intro er st msg _
      exact ⟨st, msg, rfl⟩
    · intro n st msg _ _
      exact ⟨st, msg, rfl⟩
    · intro n K S hdim hv _ _
      rcases h with ⟨er, h⟩ | ⟨n', h, hr⟩
      · rw [hdim] at h; cases h
      · rw [hdim] at h
        cases h
        exact absurd hr hv.not_refusal
  obtain ⟨st, msg, h1⟩ := key
  refine ⟨st, msg, ?_⟩
  rw [Compute_src_eq_run]
  simp only [Stm.run, h1]

/-! ### the statistics in the shape "`DeltaNorm` is the root of the model's squared delta" -/

/-- what the model's statistics satisfy as long as no ranking has been recorded: the delta is the initial `1`. -/
def StatsFresh (s : FlatTailStats α) : Prop := s.ranking = none → s.deltaSq = Scalar.one

theorem StatsFresh_update (s : FlatTailStats α) (rk : List Nat) (d : α) : StatsFresh (s.update rk d) := by
  intro hr
  by_cases heq : s.ranking = some rk
  · simp [FlatTailStats.update, heq] at hr
  · simp [FlatTailStats.update, heq] at hr

theorem computeLoop_StatsFresh (ct : List (Row α)) (ap : List (Entry α)) (x e : α) (minI freq : Nat)
    (maxI : Option Nat) (fl nl : Nat) :
    ∀ (k : Nat) (ls : LoopState α), StatsFresh ls.stats →
      StatsFresh (computeLoop ct ap x e minI freq maxI fl nl k ls).1.stats := by
  intro k
  induction k with
  | zero => intro ls h; exact h
  | succ k ih =>
    intro ls h
    have hu := StatsFresh_update ls.stats (rankOf ls.t1 nl) (ls.conv.update ls.t1).dsq
    cases hcl : computeLoop ct ap x e minI freq maxI fl nl (k + 1) ls with
    | mk ls' by_ =>
    rcases computeLoop_succ_cases hcl with ⟨_, rfl, _⟩ | ⟨_, ht⟩
    · exact h
    cases ht with
    | nocheck _ hR => exact hR ▸ ih _ h
    | nonfinite _ _ => exact hu
    | criteria _ _ _ _ => exact hu
    | check _ _ _ hR => exact hR ▸ ih _ hu

theorem toGStatsSrc_root (sqrtO : α → α) (hs1 : sqrtO (Scalar.one : α) = Scalar.one) (s : FlatTailStats α)
    (h : StatsFresh s) : toGStatsSrc sqrtO s = { toGStats s with DeltaNorm := sqrtO (toGStats s).DeltaNorm } := by
  cases hr : s.ranking with
  | none =>
    have := h hr
    simp only [toGStatsSrc, srcStats, toGStats, hr, Option.isSome_none, Bool.false_eq_true, if_false, this, hs1]
  | some rk =>
    simp only [toGStatsSrc, srcStats, toGStats, hr, Option.isSome_some, if_true]

/-- Success with the extra oracle hypothesis `sqrtO 1 = 1`: the Go statistics record is the model's with the squared
    delta under the root, in every case (`DeltaNorm = sqrtO deltaSq`). -/
theorem Compute_src_refines_ok_root_partial (capO : Nat → Int) (fuel : Nat) (sqrtO : α → α) (nanO infO : α → Bool)
    (hs1 : sqrtO (Scalar.one : α) = Scalar.one)
    (c : CSM α) (p : Vec α) (a e : α) (hO : OracleOK sqrtO nanO infO e)
    (o : ComputeOpts α) (tRes : Option (Vec α)) (gs : Option (GFlatTailStats α))
    (hres : o.resultDim = tRes.map (·.dim))
    (hcols : c.colsInRange = true)
    (hap : (Vec.scale a p).entries ≠ [])
    (r : ComputeResult α) (hr : compute fuel c p a e o = .ok r) (hend : r.endedBy ≠ .outOfFuel)
    (hfuel : c.major + p.entries.length +
      max (c.major + p.entries.length) (o.t0.getD p).entries.length ≤ fuel)
    (hfuel63 : fuel < 9223372036854775807) :
    (Gen.Compute_src capO fuel sqrtO nanO infO (toGM c) (toGV p) a e (toGOpts o tRes gs)).map
        (fun x => (x.2, x.1.flatTailStats)) =
      .ok ((toGV r.t, none), { toGStats r.stats with DeltaNorm := sqrtO (toGStats r.stats).DeltaNorm }) := by
  have hfresh : StatsFresh r.stats := by
    cases hdim : c.dim with
    | error er => rw [compute_dim_err hdim] at hr; cases hr
    | ok n =>
      obtain ⟨_, _, rfl⟩ := compute_ok_inv hdim hr
      exact computeLoop_StatsFresh _ _ _ _ _ _ _ _ _ _ _ (fun _ => rfl)
  rw [← toGStatsSrc_root sqrtO hs1 r.stats hfresh]
  exact Compute_src_refines_ok_sq_partial capO fuel sqrtO nanO infO c p a e hO o tRes gs hres hcols hap r hr hend
    hfuel hfuel63

end EtVerif.Tr
