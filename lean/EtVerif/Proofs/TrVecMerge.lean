/-
  Refinement of the translated Vector.Merge to the model Vec.merge.
-/
import EtVerif.Proofs.TrMergeSpan
import EtVerif.Proofs.TrVecSmall
namespace EtVerif.Tr
open EtVerif EtVerif.GoSem EtVerif.Gen Scalar
variable {α : Type} [Scalar α]
set_option linter.unusedSectionVars false
/-- Go `Vector.Merge` = the model's `Vec.merge`: receiver becomes the overlay, the argument is reset. -/
theorem Vector_Merge_refines (fuel : Nat) (v v2 : Vec α)
    (hf : v.entries.length + v2.entries.length ≤ fuel) :
    (Vector_Merge fuel (toGV v) (toGV v2)).map (fun r => (r.1.v, r.1.v2)) =
      .ok (toGV (v.merge v2).1, toGV (v.merge v2).2) := by
  have hmax : max ((v.dim : Nat) : Int) (v2.dim : Int) = ((max v.dim v2.dim : Nat) : Int) := by
    omega
  obtain ⟨r1, e1, f1⟩ := map_eq_ok
    (Vector_SetDim_grow (toGV v) (max (toGV v).Dim (toGV v2).Dim) (by simp only [toGV_Dim]; omega))
  obtain ⟨r2, e2, f2⟩ := map_eq_ok (mergeSpan_refines fuel v.entries v2.entries hf)
  have hsd : ¬ (max v.dim v2.dim < v.dim) := by omega
  simp only [Vector_Merge, Vector_Merge.body, Stm.run, go_run, Except.map, e1, f1, toGV_Entries, e2, f2,
    Vector_Reset_eq]
  simp [Vec.merge, Vec.setDim, hsd, toGV, hmax]

end EtVerif.Tr
