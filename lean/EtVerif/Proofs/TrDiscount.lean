/-
  Refinement of the translated `basic.DiscountTrustVector` to the model's `discountTrustVector`.
-/
import EtVerif.Proofs.TrAddSub
import EtVerif.Proofs.TrScaleVec
namespace EtVerif.Tr
open EtVerif EtVerif.GoSem EtVerif.Gen Scalar
variable {α : Type} [Scalar α]

/-- The inner `T1Loop`: from cursor `pre.length` it skips the entries of the clone whose index is below the
    distruster `d` and ends with `break DiscountsLoop` (cursor exhausted), normally (`break T1Loop`, match) or
    with `continue DiscountsLoop` (current index above the distruster). The model's `discountLoop` does the
    same skipping. -/
theorem discount_inner (capO : Nat → Int) (fuel : Nat) (d : Nat) :
    ∀ (rem pre : List (Entry α)) (n : Nat) (s : DiscountTrustVector.St α),
      s.t1.Entries = toGs (pre ++ rem) → s.i1 = (pre.length : Int) → s.distruster = (d : Int) →
      rem.length + 1 ≤ n →
      ∃ (pre' rem' : List (Entry α)) (c : Ctl (Option GoError)),
        pre ++ rem = pre' ++ rem' ∧
        (∀ (row : Row α) (rows : List (Row α × Nat)) (cur : List (Entry α)),
          discountLoop rem ((row, d) :: rows) cur = discountLoop rem' ((row, d) :: rows) cur) ∧
        Stm.loop 2 (DiscountTrustVector.loop2_cond capO fuel) (DiscountTrustVector.loop2_body capO fuel)
          (DiscountTrustVector.loop2_post capO fuel) n s = .ok ({ s with i1 := (pre'.length : Int) }, c) ∧
        ((rem' = [] ∧ c = .brk 1) ∨
         (∃ e rest, rem' = e :: rest ∧ e.idx = d ∧ c = .next) ∨
         (∃ e rest, rem' = e :: rest ∧ d < e.idx ∧ c = .cont 1)) := by
  intro rem
  have hc : ∀ s : DiscountTrustVector.St α, DiscountTrustVector.loop2_cond capO fuel s = .ok true :=
    fun _ => rfl
  induction rem with
  | nil =>
    intro pre n s h1 h2 h3 hn
    obtain ⟨m, rfl⟩ : ∃ m, n = m + 1 := ⟨n - 1, by omega⟩
    refine ⟨pre, [], .brk 1, rfl, fun _ _ _ => rfl, ?_, Or.inl ⟨rfl, rfl⟩⟩
    have hb : DiscountTrustVector.loop2_body capO fuel s = .ok (s, .brk 1) := by
      simp [DiscountTrustVector.loop2_body, go_run, h1, h2]
    rw [loop_leave (l := 2) (c := .brk 1) (c' := .brk 1) (hc s) hb rfl]
    rw [← h2]
  | cons e rem ih =>
    intro pre n s h1 h2 h3 hn
    obtain ⟨m, rfl⟩ : ∃ m, n = m + 1 := ⟨n - 1, by omega⟩
    have hi : goIdx s.t1.Entries s.i1 = .ok (toG e) :=
      goIdx_mid _ _ (toGs pre) (toG e) (toGs rem) (by rw [h1]; simp) (by simp [h2])
    rw [h1, h2] at hi
    have hlen : ¬ ((pre.length : Int) ≥ ((pre ++ e :: rem).length : Int)) := by
      simp only [List.length_append, List.length_cons]; omega
    by_cases hlt : e.idx < d
    · have hlt' : ((e.idx : Int) < (d : Int)) := by omega
      have hb : DiscountTrustVector.loop2_body capO fuel s = .ok ({ s with i1 := s.i1 + 1 }, .cont 2) := by
        simp only [DiscountTrustVector.loop2_body, go_run, hi, h1, h2, h3, goLen_eq, toGs_length, hlen,
          decide_false, toG_Index, hlt', decide_true]
      obtain ⟨pre', rem', c, e1, e2, e3, e4⟩ := ih (pre ++ [e]) m { s with i1 := s.i1 + 1 }
        (by simp [h1]) (by simp [h2]) h3 (by simp at hn; omega)
      refine ⟨pre', rem', c, by simpa using e1, ?_, ?_, e4⟩
      · intro row rows cur
        rw [← e2 row rows cur]
        rw [discountLoop]
        simp [hlt]
      · rw [loop_step_cont (s1 := { s with i1 := s.i1 + 1 }) (s2 := { s with i1 := s.i1 + 1 }) (hc s) hb rfl]
        exact e3
    · have hlt' : ¬ ((e.idx : Int) < (d : Int)) := by omega
      by_cases heq : e.idx = d
      · have heq' : ((e.idx : Int) = (d : Int)) := by omega
        have hb : DiscountTrustVector.loop2_body capO fuel s = .ok (s, .brk 2) := by
          simp only [DiscountTrustVector.loop2_body, go_run, hi, h1, h2, h3, goLen_eq, toGs_length, hlen,
            decide_false, toG_Index, heq', Int.lt_irrefl, decide_true]
        refine ⟨pre, e :: rem, .next, rfl, fun _ _ _ => rfl, ?_, Or.inr (Or.inl ⟨e, rem, rfl, heq, rfl⟩)⟩
        rw [loop_brk (hc s) hb]
        rw [← h2]
      · have heq' : ¬ ((e.idx : Int) = (d : Int)) := by omega
        have hgt' : ((e.idx : Int) > (d : Int)) := by omega
        have hb : DiscountTrustVector.loop2_body capO fuel s = .ok (s, .cont 1) := by
          simp only [DiscountTrustVector.loop2_body, go_run, hi, h1, h2, h3, goLen_eq, toGs_length, hlen,
            decide_false, toG_Index, hlt', heq', hgt', decide_true]
        refine ⟨pre, e :: rem, .cont 1, rfl, fun _ _ _ => rfl, ?_,
          Or.inr (Or.inr ⟨e, rem, rfl, by omega, rfl⟩)⟩
        rw [loop_leave (l := 2) (c := .cont 1) (c' := .cont 1) (hc s) hb rfl]
        rw [← h2]

/-- One iteration of the outer loop in which the inner loop ended at a match: everything after `T1Loop`,
    with the three calls (`goIdx`, `ScaleVec`, `SubVec`) abstracted by their results. -/
theorem discount_body_generic (capO : Nat → Int) (fuel : Nat) (s0 s1 : DiscountTrustVector.St α)
    (g : GEntry α) (r2 : Vector_ScaleVec.St α × Unit) (r3 : Vector_SubVec.St α × Option GoError)
    (hL : Stm.loop 2 (DiscountTrustVector.loop2_cond capO fuel) (DiscountTrustVector.loop2_body capO fuel)
      (DiscountTrustVector.loop2_post capO fuel) fuel s0 = .ok (s1, .next))
    (hi : goIdx s1.t1.Entries s1.i1 = .ok g)
    (h2 : Gen.Vector_ScaleVec ({ Dim := (0 : Int), Entries := [] } : GVector α) g.Value
      ({ Dim := s1.t.Dim, Entries := s1.distrusts } : GVector α) false = .ok r2)
    (h3 : Gen.Vector_SubVec capO fuel s1.t s1.t r2.1.v = .ok r3)
    (h4 : r3.2 = none) :
    DiscountTrustVector.loop1_body capO fuel s0 =
      .ok ({ s1 with scaledDistrustVec := r2.1.v, t := r3.1.v, err := none, i1 := s1.i1 + 1 }, .next) := by
  obtain ⟨t, discounts, i1, t1, distruster, distrusts, sc, err⟩ := s1
  simp only at hi h2 h3
  simp only [DiscountTrustVector.loop1_body, go_run, hL, hi, h2, h3, h4, Option.isNone_none, Bool.not_true]

/-- The outer `DiscountsLoop` mirrors `discountLoop`. -/
theorem discount_outer (capO : Nat → Int) (fuel : Nat) (dim : Nat) :
    ∀ (rows : List (Row α)) (rem pre cur : List (Entry α)) (n : Nat) (s : DiscountTrustVector.St α),
      s.t = toGV ⟨dim, cur⟩ → s.t1.Entries = toGs (pre ++ rem) → s.i1 = (pre.length : Int) →
      cur.length + (rows.map List.length).sum + 1 ≤ fuel → (pre ++ rem).length + 1 ≤ fuel →
      ∃ s', Stm.range 1 (DiscountTrustVector.loop1_bind capO fuel) (DiscountTrustVector.loop1_body capO fuel)
          (n : Int) (rows.map toGs) s = .ok (s', .next) ∧
        s'.t = toGV ⟨dim, discountLoop rem (rows.zipIdx n) cur⟩ := by
  intro rows
  induction rows with
  | nil =>
    intro rem pre cur n s ht h1 h2 hf1 hf2
    refine ⟨s, rfl, ?_⟩
    rw [ht]
    cases rem <;> simp [discountLoop]
  | cons row rows ih =>
    intro rem pre cur n s ht h1 h2 hf1 hf2
    simp only [List.map_cons, List.sum_cons, List.length_append] at hf1 hf2
    obtain ⟨s0, hs0⟩ : ∃ s0, s0 = DiscountTrustVector.loop1_bind capO fuel (n : Int) (toGs row) s := ⟨_, rfl⟩
    have ht0 : s0.t = toGV ⟨dim, cur⟩ := by rw [hs0]; exact ht
    have h10 : s0.t1.Entries = toGs (pre ++ rem) := by rw [hs0]; exact h1
    have h20 : s0.i1 = (pre.length : Int) := by rw [hs0]; exact h2
    have hd0 : s0.distruster = (n : Int) := by rw [hs0]; rfl
    have hr0 : s0.distrusts = toGs row := by rw [hs0]; rfl
    obtain ⟨pre', rem', c, e1, e2, e3, e4⟩ := discount_inner capO fuel n rem pre fuel s0 h10 h20 hd0 (by omega)
    simp only [List.map_cons, List.zipIdx_cons]
    rw [e2]
    have hn1 : ((n + 1 : Nat) : Int) = (n : Int) + 1 := by omega
    rcases e4 with ⟨rfl, rfl⟩ | ⟨e, rest, rfl, hd, rfl⟩ | ⟨e, rest, rfl, hd, rfl⟩
    · -- cursor exhausted: `break DiscountsLoop`
      refine ⟨{ s0 with i1 := (pre'.length : Int) }, ?_, ?_⟩
      · apply range_cons_brk
        rw [← hs0]
        simp only [DiscountTrustVector.loop1_body, Stm.seq, e3]
      · simp only [ht0]
        simp [discountLoop]
    · -- match
      have hi : goIdx s0.t1.Entries (pre'.length : Int) = .ok (toG e) :=
        goIdx_mid _ _ (toGs pre') (toG e) (toGs rest) (by rw [h10, e1]; simp) (by simp)
      obtain ⟨r2, hr2, hr2v⟩ := map_eq_ok
        (Vector_ScaleVec_refines ({ Dim := (0 : Int), Entries := [] } : GVector α) e.val ⟨dim, row⟩ false (by simp))
      have hlen := scale_entries_length_le e.val (⟨dim, row⟩ : Vec α)
      have hsub := Vector_SubVec_refines capO fuel (toGV ⟨dim, cur⟩) ⟨dim, cur⟩ (Vec.scale e.val ⟨dim, row⟩)
        (by simp only at hlen ⊢; omega)
      simp only [Vec.subVec, scale_dim, ne_eq, not_true_eq_false, ite_false] at hsub
      obtain ⟨r3, hr3, hr3v⟩ := map_eq_ok hsub
      simp only [Prod.mk.injEq] at hr3v
      have hb := discount_body_generic capO fuel s0 { s0 with i1 := (pre'.length : Int) } (toG e) r2 r3 e3 hi
        (by simp only [ht0, hr0]; exact hr2) (by simp only [ht0, hr2v]; exact hr3) hr3v.2
      obtain ⟨s', l1, l2⟩ := ih rest (pre' ++ [e])
        (subEntries cur (Vec.scale e.val ⟨dim, row⟩).entries) (n + 1)
        { s0 with scaledDistrustVec := r2.1.v, t := r3.1.v, err := none, i1 := (pre'.length : Int) + 1 }
        hr3v.1 (by simp [h10, e1]) (by simp)
        (by have := subEntries_length_le cur (Vec.scale e.val ⟨dim, row⟩).entries
            simp only at hlen; omega)
        (by rw [List.append_assoc, List.singleton_append, ← e1]; simpa using hf2)
      rw [hn1] at l1
      refine ⟨s', ?_, ?_⟩
      · subst hs0
        rw [range_cons_next hb]
        exact l1
      rw [l2, discountLoop]
      simp [hd, scale_entries_dim e.val dim row]
    · -- `continue DiscountsLoop`
      have hb : DiscountTrustVector.loop1_body capO fuel s0 =
          .ok ({ s0 with i1 := (pre'.length : Int) }, .cont 1) := by
        simp only [DiscountTrustVector.loop1_body, Stm.seq, e3]
      obtain ⟨s', l1, l2⟩ := ih (e :: rest) pre' cur (n + 1) { s0 with i1 := (pre'.length : Int) }
        ht0 (by simp [h10, e1]) rfl (by omega) (by rw [← e1]; simpa using hf2)
      rw [hn1] at l1
      refine ⟨s', ?_, ?_⟩
      · subst hs0
        rw [range_cons_cont hb]
        exact l1
      rw [l2, discountLoop]
      have h1 : ¬ e.idx < n := by omega
      have h2 : ¬ e.idx = n := by omega
      simp [h1, h2]

/-- Go `basic.DiscountTrustVector` = the model's `discountTrustVector`. -/
theorem DiscountTrustVector_refines (capO : Nat → Int) (fuel : Nat) (t : Vec α) (d : CSM α)
    (hf : t.entries.length + (d.rows.map List.length).sum + 1 ≤ fuel) :
    (Gen.DiscountTrustVector capO fuel (toGV t) (toGM d)).map (fun r => (r.1.t, r.2)) =
      .ok (toGV (discountTrustVector t d), none) := by
  obtain ⟨s', l1, l2⟩ := discount_outer capO fuel t.dim d.rows t.entries [] t.entries 0
    { t := toGV t, discounts := toGM d, i1 := 0, t1 := toGV t, distruster := 0, distrusts := [],
      scaledDistrustVec := GVector.zero, err := none } rfl rfl rfl hf (by simp only [List.nil_append]; omega)
  simp only [Gen.DiscountTrustVector, DiscountTrustVector.body, Stm.run, go_run, Stm.rangeOver,
    DiscountTrustVector.loop1_xs, Vector_Clone_eq, toGM_Entries, Int.natCast_zero] at l1 ⊢
  simp only [l1, Except.map, l2, discountTrustVector]

end EtVerif.Tr
