/-
  Helper lemmas for the gRPC front-end model (Model/Grpc.lean): the qword encoding of big
  unsigned integers, the association-list store, one-step facts about the TrustMatrix /
  TrustVector services, and the staged form of `basicCompute`.
-/
import EtVerif.Model.Grpc
import EtVerif.Proofs.Assoc
import EtVerif.Props.C04
import EtVerif.Props.C05
import EtVerif.Props.C10
import EtVerif.Props.C11
import Mathlib.Data.List.Find

namespace EtVerif.GrpcL
open EtVerif EtVerif.Grpc Scalar

/-! ## biguintqwords.go -/

section qwords

/-- value of a little-endian (least significant first) base-2^64 digit list -/
def leVal : List Nat → Nat
  | [] => 0
  | d :: ds => d + base64 * leVal ds

theorem base64_pos : 0 < base64 := by unfold base64; exact Nat.pos_of_ne_zero (by simp)

theorem qwords2Nat_append (ws : List Nat) (w : Nat) :
    qwords2Nat (ws ++ [w]) = qwords2Nat ws * base64 + w := by
  unfold qwords2Nat
  rw [List.foldl_append]
  rfl

theorem qwords2Nat_reverse (ds : List Nat) : qwords2Nat ds.reverse = leVal ds := by
  induction ds with
  | nil => rfl
  | cons d ds ih =>
    rw [List.reverse_cons, qwords2Nat_append, ih, leVal, Nat.mul_comm, Nat.add_comm]

theorem foldl_shift (ws : List Nat) (a : Nat) :
    ws.foldl (fun v w => v * base64 + w) a =
      a * base64 ^ ws.length + ws.foldl (fun v w => v * base64 + w) 0 := by
  induction ws generalizing a with
  | nil => simp
  | cons w ws ih =>
    rw [List.foldl_cons, ih, List.foldl_cons, ih (0 * base64 + w), List.length_cons, Nat.pow_succ]
    simp only [Nat.zero_mul, Nat.zero_add, Nat.add_mul]
    rw [Nat.mul_assoc, Nat.mul_comm base64, Nat.add_assoc]

theorem qwords2Nat_cons (w : Nat) (ws : List Nat) :
    qwords2Nat (w :: ws) = w * base64 ^ ws.length + qwords2Nat ws := by
  unfold qwords2Nat
  rw [List.foldl_cons, foldl_shift]
  simp

/-- induction along the digits `qwordsLE` produces, given enough fuel -/
theorem qwordsLE_rec {P : Nat → List Nat → Prop} (h0 : P 0 [])
    (hs : ∀ n ds, n ≠ 0 → P (n / base64) ds → P n (n % base64 :: ds)) :
    ∀ fuel n, n ≤ fuel → P n (qwordsLE fuel n) := by
  intro fuel
  induction fuel with
  | zero => intro n h; obtain rfl := Nat.le_zero.mp h; exact h0
  | succ f ih =>
    intro n h
    unfold qwordsLE
    split
    · rename_i hn; subst hn; exact h0
    · rename_i hn
      have hlt : n / base64 < n :=
        Nat.div_lt_self (Nat.pos_of_ne_zero hn) (by unfold base64; decide)
      exact hs n _ hn (ih _ (by omega))

theorem leVal_qwordsLE (fuel n : Nat) (h : n ≤ fuel) : leVal (qwordsLE fuel n) = n :=
  qwordsLE_rec (P := fun n ds => leVal ds = n) rfl
    (fun n ds _ ih => by rw [leVal, ih]; exact Nat.mod_add_div n base64) fuel n h

theorem qwordsLE_lt (fuel n : Nat) : ∀ d ∈ qwordsLE fuel n, d < base64 := by
  induction fuel generalizing n with
  | zero => intro d hd; simp [qwordsLE] at hd
  | succ f ih =>
    intro d hd
    unfold qwordsLE at hd
    split at hd
    · simp at hd
    · rcases List.mem_cons.mp hd with rfl | hd
      · exact Nat.mod_lt _ base64_pos
      · exact ih _ d hd

/-- canonical little-endian digit list: the last digit is the most significant one -/
def CanonLE (ds : List Nat) : Prop := (∀ d ∈ ds, d < base64) ∧ ds.getLast? ≠ some 0

theorem canonLE_qwordsLE (fuel n : Nat) (h : n ≤ fuel) : CanonLE (qwordsLE fuel n) := by
  refine ⟨qwordsLE_lt fuel n, ?_⟩
  refine (qwordsLE_rec (P := fun n ds => ds.getLast? ≠ some 0 ∧ leVal ds = n) ⟨nofun, rfl⟩
    (fun n ds hn ih => ⟨?_, (congrArg (n % base64 + base64 * ·) ih.2).trans
      (Nat.mod_add_div n base64)⟩) fuel n h).1
  cases ds with
  | nil =>
    -- no higher digit: `n / base64 = 0`, so the digit is `n ≠ 0`
    have : n / base64 = 0 := ih.2.symm
    rw [List.getLast?_singleton, Nat.mod_eq_of_lt ((Nat.div_eq_zero_iff_lt base64_pos).mp this)]
    exact fun h => hn (Option.some.inj h)
  | cons d ds => rw [List.getLast?_cons_cons]; exact ih.1

theorem canonLE_tail {d : Nat} {ds : List Nat} (h : CanonLE (d :: ds)) : CanonLE ds := by
  refine ⟨fun x hx => h.1 x (List.mem_cons_of_mem _ hx), ?_⟩
  cases ds with
  | nil => simp
  | cons d' ds => have := h.2; rwa [List.getLast?_cons_cons] at this

theorem canonLE_cons_ne_zero {d : Nat} {ds : List Nat} (h : CanonLE (d :: ds)) :
    leVal (d :: ds) ≠ 0 := by
  induction ds generalizing d with
  | nil => exact fun h0 => h.2 (congrArg some (Nat.eq_zero_of_add_eq_zero_right h0))
  | cons d' ds ih =>
    intro h0
    rcases Nat.mul_eq_zero.mp (Nat.eq_zero_of_add_eq_zero_left h0) with h1 | h1
    · exact absurd h1 (Nat.ne_of_gt base64_pos)
    · exact ih (canonLE_tail h) h1

theorem leVal_injective {ds1 ds2 : List Nat} (h1 : CanonLE ds1) (h2 : CanonLE ds2)
    (h : leVal ds1 = leVal ds2) : ds1 = ds2 := by
  induction ds1 generalizing ds2 with
  | nil =>
    cases ds2 with
    | nil => rfl
    | cons d ds => exact absurd h.symm (canonLE_cons_ne_zero h2)
  | cons d ds ih =>
    cases ds2 with
    | nil => exact absurd h (canonLE_cons_ne_zero h1)
    | cons d' ds' =>
      have hd : d < base64 := h1.1 d (by simp)
      have hd' : d' < base64 := h2.1 d' (by simp)
      simp only [leVal] at h
      have e1 : d = d' := by
        have := congrArg (· % base64) h
        simpa only [Nat.add_mul_mod_self_left, Nat.mod_eq_of_lt hd, Nat.mod_eq_of_lt hd'] using this
      subst e1
      rw [ih (canonLE_tail h1) (canonLE_tail h2)
        (Nat.eq_of_mul_eq_mul_left base64_pos (Nat.add_left_cancel h))]

theorem qwordsLE_length_bounds (fuel n : Nat) (h : n ≤ fuel) :
    n < base64 ^ (qwordsLE fuel n).length ∧
      (n ≠ 0 → base64 ^ ((qwordsLE fuel n).length - 1) ≤ n) := by
  refine (qwordsLE_rec (P := fun n ds => (n = 0 → ds = []) ∧ n < base64 ^ ds.length ∧
      (n ≠ 0 → base64 ^ (ds.length - 1) ≤ n))
    ⟨fun _ => rfl, Nat.pow_pos base64_pos, fun h => absurd rfl h⟩ (fun n ds hn ih => ?_) fuel n h).2
  obtain ⟨i0, i1, i2⟩ := ih
  have hb := base64_pos
  rw [List.length_cons, Nat.add_sub_cancel, Nat.pow_succ]
  refine ⟨fun h => absurd h hn, (Nat.div_lt_iff_lt_mul hb).mp i1, fun _ => ?_⟩
  cases ds with
  | nil => exact Nat.pos_of_ne_zero hn
  | cons d ds =>
    -- a further digit exists, so `n / base64 ≠ 0`
    have hq : n / base64 ≠ 0 := fun h0 => nomatch i0 h0
    rw [List.length_cons, Nat.pow_succ]
    exact (Nat.le_div_iff_mul_le hb).mp (i2 hq)

end qwords

/-! ## the association-list store -/

section store
variable {β : Type}

@[simp] theorem lookup_nil (id : String) : lookup ([] : List (String × β)) id = none := rfl

theorem lookup_erase (l : List (String × β)) (id id' : String) :
    lookup (erase l id) id' = if id' = id then none else lookup l id' :=
  Assoc.find_filter l id id'

theorem lookup_store (l : List (String × β)) (id id' : String) (b : β) :
    lookup (store l id b) id' = if id' = id then some b else lookup l id' :=
  Assoc.find_cons_filter l id id' b

theorem lookup_store_self (l : List (String × β)) (id : String) (b : β) :
    lookup (store l id b) id = some b := by rw [lookup_store, if_pos rfl]

theorem lookup_store_ne (l : List (String × β)) {id id' : String} (b : β) (h : id' ≠ id) :
    lookup (store l id b) id' = lookup l id' := by rw [lookup_store, if_neg h]

end store

variable {K : Type} [Field K] [LinearOrder K]

set_option linter.unusedSectionVars false

/-! ## TrustMatrix service: one step -/

/-- invariant of every stored trust matrix -/
def GoodM (tm : TM K) : Prop := WFM tm.m ∧ HiddenClean tm.m ∧ tm.m.major = tm.m.minor

theorem goodM_empty (ts : Nat) : GoodM (⟨CSM.empty, ts⟩ : TM K) := by
  refine ⟨⟨rfl, ?_⟩, ?_, rfl⟩
  · intro r hr; simp [CSM.empty] at hr
  · intro r hr; simp [CSM.empty] at hr

/-- the entry stream of `Get`, rows numbered from `k` -/
def entriesFrom (k : Nat) (rows : List (Row K)) : List (Nat × Nat × K) :=
  ((rows.zipIdx k).map fun (r, i) =>
    (r.filter fun e => !isZero e.val).map fun e => (i, e.idx, e.val)).flatten

/-- the entry stream of `Get` -/
def mEntries (m : CSM K) : List (Nat × Nat × K) := entriesFrom 0 m.rows

theorem tmGet_eq (s : GState K) (id : String) :
    tmGet s id = (lookup s.mats id).map fun tm => (tm.ts, mEntries tm.m) := rfl

def rowEntries (i : Nat) (r : Row K) : List (Nat × Nat × K) :=
  (r.filter fun e => !isZero e.val).map fun e => (i, e.idx, e.val)

theorem entriesFrom_nil (k : Nat) : entriesFrom k ([] : List (Row K)) = [] := rfl

theorem entriesFrom_cons (k : Nat) (r : Row K) (rows : List (Row K)) :
    entriesFrom k (r :: rows) = rowEntries k r ++ entriesFrom (k + 1) rows := by
  simp [entriesFrom, rowEntries, List.zipIdx_cons]

theorem mem_rowEntries {i : Nat} {r : Row K} {x : Nat × Nat × K} :
    x ∈ rowEntries i r ↔ x.1 = i ∧ x.2.2 ≠ 0 ∧ (⟨x.2.1, x.2.2⟩ : Entry K) ∈ r := by
  obtain ⟨a, b, c⟩ := x
  unfold rowEntries
  simp only [List.mem_map, List.mem_filter, s_isZero, Bool.not_eq_true', decide_eq_false_iff_not,
    Prod.mk.injEq]
  constructor
  · rintro ⟨e, ⟨he, hz⟩, rfl, rfl, rfl⟩
    exact ⟨rfl, hz, he⟩
  · rintro ⟨rfl, hz, he⟩
    exact ⟨⟨b, c⟩, ⟨he, hz⟩, rfl, rfl, rfl⟩

theorem mem_entriesFrom {k : Nat} {rows : List (Row K)} {x : Nat × Nat × K} :
    x ∈ entriesFrom k rows ↔
      k ≤ x.1 ∧ x.2.2 ≠ 0 ∧ (⟨x.2.1, x.2.2⟩ : Entry K) ∈ rows.getD (x.1 - k) [] := by
  induction rows generalizing k with
  | nil =>
    refine ⟨fun h => (nomatch h), fun h => ?_⟩
    rw [List.getD_nil] at h
    exact nomatch h.2.2
  | cons r rows ih =>
    have sub_succ : ∀ {a k : Nat}, k < a → a - k = (a - (k + 1)) + 1 := fun h => by
      rw [Nat.sub_add_eq, Nat.sub_add_cancel (Nat.sub_pos_of_lt h)]
    rw [entriesFrom_cons, List.mem_append, mem_rowEntries, ih]
    constructor
    · rintro (⟨h1, h2, h3⟩ | ⟨h1, h2, h3⟩)
      · rw [h1, Nat.sub_self]
        exact ⟨Nat.le_refl _, h2, h3⟩
      · rw [sub_succ h1]
        exact ⟨Nat.le_of_succ_le h1, h2, h3⟩
    · rintro ⟨h1, h2, h3⟩
      rcases Nat.eq_or_lt_of_le h1 with hk | hk
      · left
        rw [← hk, Nat.sub_self] at h3
        exact ⟨hk.symm, h2, h3⟩
      · right
        rw [sub_succ hk] at h3
        exact ⟨hk, h2, h3⟩

theorem mem_sorted_iff {r : List (Entry K)} (hs : Sorted r) (j : Nat) {v : K} (hv : v ≠ 0) :
    (⟨j, v⟩ : Entry K) ∈ r ↔ v = denE r j := by
  constructor
  · intro h; exact (Mg.denE_of_mem hs h).symm
  · intro h
    obtain ⟨⟨ej, ev⟩, he, rfl⟩ := exists_mem_of_denE_ne_zero (h ▸ hv)
    rw [h, Mg.denE_of_mem hs he]
    exact he

theorem mem_mEntries {m : CSM K} (hw : WFM m) (i j : Nat) (v : K) :
    (i, j, v) ∈ mEntries m ↔ v ≠ 0 ∧ v = denRows m.rows i j := by
  unfold mEntries
  rw [mem_entriesFrom]
  simp only [Nat.zero_le, true_and, Nat.sub_zero]
  exact and_congr_right fun hv => mem_sorted_iff (Mx.WFM.row hw i).1 j hv

def coordLt (a b : Nat × Nat × K) : Prop := a.1 < b.1 ∨ (a.1 = b.1 ∧ a.2.1 < b.2.1)

theorem rowEntries_pairwise {i : Nat} {r : Row K} (hs : Sorted r) :
    (rowEntries i r).Pairwise coordLt := by
  unfold rowEntries
  rw [List.pairwise_map]
  have : (r.filter fun e => !isZero e.val).Pairwise (fun a b => a.idx < b.idx) :=
    List.Pairwise.sublist List.filter_sublist hs
  exact this.imp (fun h => Or.inr ⟨rfl, h⟩)

theorem entriesFrom_pairwise {k : Nat} {rows : List (Row K)} (hs : ∀ r ∈ rows, Sorted r) :
    (entriesFrom k rows).Pairwise coordLt := by
  induction rows generalizing k with
  | nil => exact List.Pairwise.nil
  | cons r rows ih =>
    rw [entriesFrom_cons]
    refine List.pairwise_append.mpr ⟨rowEntries_pairwise (hs r (by simp)),
      ih (fun r' hr' => hs r' (by simp [hr'])), ?_⟩
    intro a ha b hb
    have h1 := (mem_rowEntries.mp ha).1
    have h2 := (mem_entriesFrom.mp hb).1
    exact Or.inl (by omega)

theorem mEntries_pairwise {m : CSM K} (hw : WFM m) : (mEntries m).Pairwise coordLt :=
  entriesFrom_pairwise (fun r hr => (hw.2 r hr).1)

theorem coordLt_nodup {l : List (Nat × Nat × K)} (h : l.Pairwise coordLt) :
    (l.map fun x => (x.1, x.2.1)).Nodup := by
  unfold List.Nodup
  rw [List.pairwise_map]
  refine h.imp ?_
  intro a b hab heq
  have := Prod.mk.inj heq
  rcases hab with h1 | ⟨_, h2⟩ <;> omega

theorem mEntries_empty : mEntries (CSM.empty : CSM K) = [] := rfl

/-! ### Update -/

theorem foldl_max_ge {γ : Type} (f : γ → Nat) (l : List γ) (a : Nat) :
    a ≤ l.foldl (fun r e => max r (f e)) a ∧ ∀ e ∈ l, f e ≤ l.foldl (fun r e => max r (f e)) a := by
  induction l generalizing a with
  | nil => exact ⟨Nat.le_refl _, fun _ h => nomatch h⟩
  | cons x l ih =>
    obtain ⟨h1, h2⟩ := ih (max a (f x))
    rw [List.foldl_cons]
    refine ⟨(Nat.le_max_left _ _).trans h1, fun e he => ?_⟩
    rcases List.mem_cons.mp he with rfl | he
    · exact (Nat.le_max_right _ _).trans h1
    · exact h2 e he

/-- the squared dimension `Update` gives its batch -/
def dimOf (coos : List (Coo K)) : Nat :=
  max (coos.foldl (fun r e => max r (e.row + 1)) 0) (coos.foldl (fun c e => max c (e.col + 1)) 0)

theorem lt_dimOf {coos : List (Coo K)} {e : Coo K} (he : e ∈ coos) :
    e.row < dimOf coos ∧ e.col < dimOf coos := by
  have h1 := (foldl_max_ge (fun e : Coo K => e.row + 1) coos 0).2 e he
  have h2 := (foldl_max_ge (fun e : Coo K => e.col + 1) coos 0).2 e he
  exact ⟨Nat.lt_of_lt_of_le h1 (Nat.le_max_left _ _), Nat.lt_of_lt_of_le h2 (Nat.le_max_right _ _)⟩

/-- the stored object after a successful `Update` -/
def updM (tm : TM K) (ts : Nat) (coos : List (Coo K)) : TM K :=
  ⟨(tm.m.merge (CSM.newCSR (dimOf coos) (dimOf coos) coos true)).1, max tm.ts ts⟩

theorem tmUpdate_eq (s : GState K) (id : String) (ts : Nat) (entries : List (MEntry K)) :
    tmUpdate s id ts entries =
      match lookup s.mats id with
      | none => (s, .notFound)
      | some tm =>
        match parseMEntries entries with
        | .error c => (s, c)
        | .ok coos => ({ s with mats := store s.mats id (updM tm ts coos) }, .ok) := rfl

theorem updM_good {tm : TM K} (hg : GoodM tm) (ts : Nat) {coos : List (Coo K)}
    (hd : (coos.map fun e => (e.row, e.col)).Nodup) :
    GoodM (updM tm ts coos) ∧
      denRows (updM tm ts coos).m.rows = coos.foldl C11.assign (denRows tm.m.rows) := by
  obtain ⟨hw, hc, hsq⟩ := hg
  have hB : WFM (CSM.newCSR (dimOf coos) (dimOf coos) coos true) :=
    Mx.newCSR_wfm hd (fun e he _ => (lt_dimOf he).2)
  obtain ⟨h1, h2, _, h4, h5, h6⟩ := C11.merge_matrix tm.m _ hw hc hB
  refine ⟨⟨h4, h5, ?_⟩, ?_⟩
  · show (tm.m.merge _).1.major = (tm.m.merge _).1.minor
    rw [h1, h2, hsq]; rfl
  · show denRows (tm.m.merge _).1.rows = _
    rw [← C11.overlay_newCSR (denRows tm.m.rows) (dimOf coos) (dimOf coos) coos hd
      (fun x hx => (lt_dimOf hx).1)]
    funext i j
    exact h6 i j

/-! ## TrustVector service: one step -/

/-- invariant of every stored trust vector -/
def GoodV (tv : TV K) : Prop := WF tv.v.dim tv.v.entries

theorem goodV_empty (ts : Nat) : GoodV (⟨⟨0, []⟩, ts⟩ : TV K) := Mg.wf_nil 0

/-- the entry stream of the vector `Get` -/
def vEntries (v : Vec K) : List (Nat × K) :=
  (v.entries.filter fun e => !isZero e.val).map fun e => (e.idx, e.val)

theorem tvGet_eq (s : GState K) (id : String) :
    tvGet s id = (lookup s.vecs id).map fun tv => (tv.ts, vEntries tv.v) := rfl

theorem mem_vEntries {v : Vec K} (hs : Sorted v.entries) (i : Nat) (x : K) :
    (i, x) ∈ vEntries v ↔ x ≠ 0 ∧ x = denE v.entries i := by
  rw [← and_congr_right fun hx => mem_sorted_iff hs i hx]
  unfold vEntries
  simp only [List.mem_map, List.mem_filter, s_isZero, Bool.not_eq_true', decide_eq_false_iff_not,
    Prod.mk.injEq]
  constructor
  · rintro ⟨e, ⟨he, hz⟩, rfl, rfl⟩
    exact ⟨hz, he⟩
  · rintro ⟨h1, h2⟩
    exact ⟨⟨i, x⟩, ⟨h2, h1⟩, rfl, rfl⟩

theorem vEntries_pairwise {v : Vec K} (hs : Sorted v.entries) :
    (vEntries v).Pairwise (fun a b => a.1 < b.1) := by
  unfold vEntries
  rw [List.pairwise_map]
  exact List.Pairwise.sublist List.filter_sublist hs

/-- the size `Update` gives its batch -/
def sizeOf (es : List (Entry K)) : Nat := es.foldl (fun r e => max r (e.idx + 1)) 0

theorem lt_sizeOf {es : List (Entry K)} {e : Entry K} (he : e ∈ es) : e.idx < sizeOf es := by
  have h1 := (foldl_max_ge (fun e : Entry K => e.idx + 1) es 0).2 e he
  unfold sizeOf
  omega

/-- the stored object after a successful vector `Update` -/
def updV (tv : TV K) (ts : Nat) (es : List (Entry K)) : TV K :=
  ⟨(tv.v.merge (Vec.new (sizeOf es) es)).1, max tv.ts ts⟩

theorem tvUpdate_eq (s : GState K) (id : String) (ts : Nat) (entries : List (VEntry K)) :
    tvUpdate s id ts entries =
      match lookup s.vecs id with
      | none => (s, .notFound)
      | some tv =>
        match parseVEntries entries with
        | .error c => (s, c)
        | .ok es => ({ s with vecs := store s.vecs id (updV tv ts es) }, .ok) := rfl

/-- one single-index assignment `idx := val` on a dense vector (`val = 0` erases) -/
def assignV (f : Nat → K) (e : Entry K) : Nat → K := fun i => if e.idx = i then e.val else f i

theorem assignV_fold_of_not_mem (b : List (Entry K)) (f : Nat → K) {i : Nat}
    (h : ∀ x ∈ b, x.idx ≠ i) : b.foldl assignV f i = f i := by
  induction b generalizing f with
  | nil => rfl
  | cons a b ih =>
    rw [List.foldl_cons, ih _ (fun x hx => h x (by simp [hx]))]
    unfold assignV
    rw [if_neg (h a (by simp))]

theorem assignV_fold_of_mem (b : List (Entry K)) (f : Nat → K)
    (hd : (b.map (·.idx)).Nodup) {x : Entry K} (hx : x ∈ b) :
    b.foldl assignV f x.idx = x.val := by
  induction b generalizing f with
  | nil => simp at hx
  | cons a b ih =>
    rw [List.map_cons, List.nodup_cons] at hd
    rw [List.foldl_cons]
    rcases List.mem_cons.mp hx with rfl | hx'
    · rw [assignV_fold_of_not_mem b _ (fun y hy hyx => hd.1 (List.mem_map.mpr ⟨y, hy, hyx⟩))]
      unfold assignV
      rw [if_pos rfl]
    · exact ih _ hd.2 hx'

theorem updV_good {tv : TV K} (hg : GoodV tv) (ts : Nat) {es : List (Entry K)}
    (hd : (es.map (·.idx)).Nodup) :
    GoodV (updV tv ts es) ∧
      denE (updV tv ts es).v.entries = es.foldl assignV (denE tv.v.entries) := by
  have hs : Sorted (sortByIdx es) := Mx.sorted_sortByIdx hd
  have h2 : WF (Vec.new (sizeOf es) es).dim (Vec.new (sizeOf es) es).entries :=
    ⟨hs, fun e he => lt_sizeOf ((Mx.sortByIdx_perm es).mem_iff.mp he)⟩
  obtain ⟨_, _, h3, h4⟩ := C11.merge_vec tv.v _ hg h2
  refine ⟨h3, ?_⟩
  funext i
  show denE (tv.v.merge _).1.entries i = _
  rw [h4 i]
  show (if ∃ e ∈ sortByIdx es, e.idx = i then denE (sortByIdx es) i else denE tv.v.entries i) = _
  by_cases h : ∃ e ∈ sortByIdx es, e.idx = i
  · rw [if_pos h]
    obtain ⟨e, he, rfl⟩ := h
    rw [Mg.denE_of_mem hs he,
      assignV_fold_of_mem es _ hd ((Mx.sortByIdx_perm es).mem_iff.mp he)]
  · rw [if_neg h, assignV_fold_of_not_mem es _ (fun x hx hxi =>
      h ⟨x, (Mx.sortByIdx_perm es).mem_iff.mpr hx, hxi⟩)]

/-! ## Compute service: the staged form of `basicCompute` -/

/-- what `ComputeServer.BasicCompute` (compute.go) has in hand when it calls `basic.Compute` -/
structure BcEff (K : Type) where
  ltm : TM K
  pre : Option (TV K)
  gt : TV K
  c2 : CSM K
  p2 : Vec K
  t2 : Vec K
  c4 : CSM K
  p3 : Vec K
  t3 : Vec K
  d4 : CSM K
  a : K
  e : K
  ts2 : Nat

def bcLoadPre (s : GState K) (q : Params K) : Option (Option (TV K)) :=
  if q.preTrustId == "" then some none
  else match lookup s.vecs q.preTrustId with
    | none => none
    | some pt => some (some pt)

def bcAlignPre (c0 : CSM K) (ts0 : Nat) : Option (TV K) → CSM K × Vec K × Nat
  | none => (c0, Vec.new c0.major [], ts0)
  | some pt =>
    if pt.v.dim < c0.major then (c0, pt.v.setDim c0.major, max ts0 pt.ts)
    else if c0.major < pt.v.dim then (c0.setDim pt.v.dim pt.v.dim, pt.v, max ts0 pt.ts)
    else (c0, pt.v, max ts0 pt.ts)

def bcAlignGt (c1 : CSM K) (p1 : Vec K) (gt : TV K) : CSM K × Vec K × Vec K :=
  if gt.v.dim < p1.dim then (c1, p1, gt.v.setDim p1.dim)
  else if p1.dim < gt.v.dim then (c1.setDim gt.v.dim gt.v.dim, p1.setDim gt.v.dim, gt.v)
  else (c1, p1, gt.v)

def bcParamsOK (q : Params K) : Bool :=
  (match q.alpha with | some a => !(lt a zero || lt one a) | none => true) &&
  (match q.epsilon with | some e => !(le e zero || lt one e) | none => true)

def bcFinish (k : Consts K) (q : Params K) (ltm : TM K) (pre : Option (TV K)) (gt : TV K)
    (c2 : CSM K) (p2 t2 : Vec K) (ts2 : Nat) : Except Code (BcEff K) :=
  let p3 := canonicalizeTrustVector p2
  let t3 := canonicalizeTrustVector t2
  match extractDistrust c2 with
  | .error _ => .error .internal
  | .ok (c3, d3) =>
    match canonicalizeLocalTrust c3 (some p3), canonicalizeLocalTrust d3 none with
    | .ok c4, .ok d4 =>
      .ok { ltm := ltm, pre := pre, gt := gt, c2 := c2, p2 := p2, t2 := t2, c4 := c4, p3 := p3,
            t3 := t3, d4 := d4, a := q.alpha.getD k.half,
            e := q.epsilon.getD (div k.epsNum (ofNat c2.major)), ts2 := ts2 }
    | _, _ => .error .internal

def bcPrep (k : Consts K) (s : GState K) (q : Params K) : Except Code (BcEff K) :=
  match lookup s.mats q.localTrustId with
  | none => .error .notFound
  | some ltm =>
    if ltm.m.major ≠ ltm.m.minor then .error .internal else
    match bcLoadPre s q with
    | none => .error .notFound
    | some preOpt =>
      match lookup s.vecs q.globalTrustId with
      | none => .error .notFound
      | some gt =>
        let x := bcAlignPre ltm.m ltm.ts preOpt
        let y := bcAlignGt x.1 x.2.1 gt
        if !bcParamsOK q then .error .invalidArgument
        else bcFinish k q ltm preOpt gt y.1 y.2.1 y.2.2 (max x.2.2 gt.ts)

def bcOpts (q : Params K) (E : BcEff K) : ComputeOpts K :=
  { t0 := some E.t3, resultDim := some E.t3.dim,
    maxIterations := if q.maxIterations = 0 then none else some (q.maxIterations : Int) }

def bcWrite (s : GState K) (q : Params K) (E : BcEff K) (res : ComputeResult K) : GState K :=
  let vecs1 :=
    if q.positiveGlobalTrustId == "" then s.vecs
    else match lookup s.vecs q.positiveGlobalTrustId with
      | none => s.vecs
      | some gtp => store s.vecs q.positiveGlobalTrustId ⟨res.t, max gtp.ts E.ts2⟩
  let gtNow := (lookup vecs1 q.globalTrustId).getD E.gt
  { s with vecs := store vecs1 q.globalTrustId ⟨discountTrustVector res.t E.d4, max gtNow.ts E.ts2⟩ }

theorem basicCompute_eq (fuel : Nat) (k : Consts K) (s : GState K) (q : Params K) :
    basicCompute fuel k s (some q) =
      match bcPrep k s q with
      | .error c => (s, c)
      | .ok E =>
        match compute fuel E.c4 E.p3 E.a E.e (bcOpts q E) with
        | .error _ => (s, .unavailable)
        | .ok res => (bcWrite s q E res, .ok) := by
  unfold basicCompute bcPrep
  conv_lhs =>
    simp_match
    zeta
  -- Case analysis along the stages.  After each split only the `match` at the head of either side
  -- is reduced (`simp_match`; `FeL.basicCompute_eq` does the same step by `with_reducible whnf`).
  -- A `simp` over the unfolded handler would turn its tuple patterns into projections of the
  -- alignment terms and square the goal.
  cases h1 : lookup s.mats q.localTrustId with
  | none => rfl
  | some ltm =>
    conv => congr <;> simp_match
    by_cases hsq : ltm.m.major ≠ ltm.m.minor
    · rw [if_pos hsq, if_pos hsq]
    · rw [if_neg hsq, if_neg hsq]
      change (match bcLoadPre s q with | none => _ | some pre => _) = _
      cases hp : bcLoadPre s q with
      | none => rfl
      | some pre =>
        conv => congr <;> simp_match
        split
        rename_i c1 p1 ts1 hx
        have hx : bcAlignPre ltm.m ltm.ts pre = (c1, p1, ts1) := hx
        conv_rhs => simp only [hx]
        cases hg : lookup s.vecs q.globalTrustId with
        | none => rfl
        | some gt =>
          conv => congr <;> simp_match
          split
          rename_i c2 p2 t2 hy
          have hy : bcAlignGt c1 p1 gt = (c2, p2, t2) := hy
          conv_rhs => simp only [hy]
          rw [← Bool.not_and]
          change (if (!bcParamsOK q) = true then _ else _) = _
          cases bcParamsOK q with
          | false => rfl
          | true =>
            have hn : ¬ (!true) = true := by decide
            rw [if_neg hn, if_neg hn]
            unfold bcFinish
            conv_rhs => zeta
            cases extractDistrust c2 with
            | error _ => rfl
            | ok cd =>
              obtain ⟨c3, d3⟩ := cd
              conv => congr <;> simp_match
              cases canonicalizeLocalTrust c3 (some (canonicalizeTrustVector p2)) <;>
                cases canonicalizeLocalTrust d3 none <;> rfl

def bcEffective (k : Consts K) (s : GState K) (q : Params K) : Option (BcEff K) :=
  match bcPrep k s q with
  | .ok E => some E
  | .error _ => none

/-- the timestamp of the optional pre-trust (`0` when none is named) -/
def preTs (pre : Option (TV K)) : Nat := match pre with | none => 0 | some pt => pt.ts
def preDim (pre : Option (TV K)) : Nat := match pre with | none => 0 | some pt => pt.v.dim
def preEntries (pre : Option (TV K)) : List (Entry K) :=
  match pre with | none => [] | some pt => pt.v.entries

/-! ### the alignment -/

/-- the two dimension-alignment `switch`es of `BasicCompute` -/
def bcAligned (ltm : TM K) (pre : Option (TV K)) (gt : TV K) : CSM K × Vec K × Vec K :=
  bcAlignGt (bcAlignPre ltm.m ltm.ts pre).1 (bcAlignPre ltm.m ltm.ts pre).2.1 gt

theorem bcAlignPre_eq (c0 : CSM K) (ts0 : Nat) (pre : Option (TV K)) :
    bcAlignPre c0 ts0 pre = (Mx.grow c0 (max c0.major (preDim pre)),
      ⟨max c0.major (preDim pre), preEntries pre⟩, max ts0 (preTs pre)) := by
  cases pre with
  | none =>
    show _ = (Mx.grow c0 (max c0.major 0), (⟨max c0.major 0, []⟩ : Vec K), max ts0 0)
    rw [Nat.max_zero, Nat.max_zero, Mx.grow, if_neg (Nat.lt_irrefl _)]
    rfl
  | some pt =>
    show _ = (Mx.grow c0 (max c0.major pt.v.dim), (⟨max c0.major pt.v.dim, pt.v.entries⟩ : Vec K),
      max ts0 pt.ts)
    rw [bcAlignPre, Mx.grow]
    rcases Nat.lt_trichotomy pt.v.dim c0.major with h | h | h
    · rw [if_pos h, Nat.max_eq_left h.le, if_neg (Nat.lt_irrefl _), C11.setDim_of_le _ h.le]
    · rw [← h, if_neg (Nat.lt_irrefl _), if_neg (Nat.lt_irrefl _), Nat.max_self,
        if_neg (Nat.lt_irrefl _)]
    · rw [if_neg (Nat.lt_asymm h), if_pos h, Nat.max_eq_right h.le, if_pos h]

theorem bcAlignGt_eq (c1 : CSM K) (pes : List (Entry K)) {n : Nat} (hc : c1.major = n)
    (gt : TV K) :
    bcAlignGt c1 ⟨n, pes⟩ gt = (Mx.grow c1 (max n gt.v.dim), ⟨max n gt.v.dim, pes⟩,
      ⟨max n gt.v.dim, gt.v.entries⟩) := by
  subst hc
  rw [bcAlignGt, Mx.grow]
  rcases Nat.lt_trichotomy gt.v.dim c1.major with h | h | h
  · rw [if_pos h, Nat.max_eq_left h.le, if_neg (Nat.lt_irrefl _), C11.setDim_of_le _ h.le]
  · rw [← h, if_neg (Nat.lt_irrefl _), if_neg (Nat.lt_irrefl _), Nat.max_self,
      if_neg (Nat.lt_irrefl _)]
  · rw [if_neg (Nat.lt_asymm h), if_pos h, Nat.max_eq_right h.le, if_pos h,
      C11.setDim_of_le _ h.le]

theorem bcAligned_eq (ltm : TM K) (pre : Option (TV K)) (gt : TV K) :
    bcAligned ltm pre gt =
      (Mx.grow (Mx.grow ltm.m (max ltm.m.major (preDim pre)))
          (max ltm.m.major (max (preDim pre) gt.v.dim)),
        ⟨max ltm.m.major (max (preDim pre) gt.v.dim), preEntries pre⟩,
        ⟨max ltm.m.major (max (preDim pre) gt.v.dim), gt.v.entries⟩) := by
  rw [bcAligned, bcAlignPre_eq,
    bcAlignGt_eq _ _ (Mx.grow_major (Nat.le_max_left ltm.m.major (preDim pre))), Nat.max_assoc]

theorem bcAligned_spec (ltm : TM K) (hsq : ltm.m.major = ltm.m.minor) (pre : Option (TV K))
    (gt : TV K) :
    (bcAligned ltm pre gt).1.major = max ltm.m.major (max (preDim pre) gt.v.dim) ∧
    (bcAligned ltm pre gt).1.minor = max ltm.m.major (max (preDim pre) gt.v.dim) ∧
    (bcAligned ltm pre gt).2.1 = ⟨max ltm.m.major (max (preDim pre) gt.v.dim), preEntries pre⟩ ∧
    (bcAligned ltm pre gt).2.2 = ⟨max ltm.m.major (max (preDim pre) gt.v.dim), gt.v.entries⟩ ∧
    (GoodM ltm → WFM (bcAligned ltm pre gt).1 ∧ HiddenClean (bcAligned ltm pre gt).1 ∧
      denRows (bcAligned ltm pre gt).1.rows = denRows ltm.m.rows) := by
  obtain ⟨a1, a2, a3⟩ := Mx.grow_spec hsq (Nat.le_max_left ltm.m.major (preDim pre))
  obtain ⟨b1, b2, b3⟩ := Mx.grow_spec (n := max ltm.m.major (max (preDim pre) gt.v.dim))
    (a1.trans a2.symm) (by rw [a1, ← Nat.max_assoc]; exact Nat.le_max_left _ _)
  rw [bcAligned_eq]
  refine ⟨b1, b2, rfl, rfl, fun hg => ?_⟩
  obtain ⟨x1, x2, x3⟩ := a3 hg.1 hg.2.1
  obtain ⟨y1, y2, y3⟩ := b3 x1 x2
  exact ⟨y1, y2, y3.trans x3⟩

/-! ### the preparation -/

/-- three cases: an object is missing (`NotFound`), the local trust is not square (`Internal`),
    or all three are loaded and the parameter check and `bcFinish` remain -/
theorem bcPrep_load (k : Consts K) (s : GState K) (q : Params K) :
    (bcPrep k s q = .error .notFound ∧
      (lookup s.mats q.localTrustId = none ∨
        ∃ ltm, lookup s.mats q.localTrustId = some ltm ∧ ltm.m.major = ltm.m.minor ∧
          (bcLoadPre s q = none ∨ lookup s.vecs q.globalTrustId = none))) ∨
    bcPrep k s q = .error .internal ∨
    ∃ ltm pre gt, lookup s.mats q.localTrustId = some ltm ∧ ltm.m.major = ltm.m.minor ∧
      bcLoadPre s q = some pre ∧ lookup s.vecs q.globalTrustId = some gt ∧
      bcPrep k s q =
        if bcParamsOK q then
          bcFinish k q ltm pre gt (bcAligned ltm pre gt).1 (bcAligned ltm pre gt).2.1
            (bcAligned ltm pre gt).2.2 (max (max ltm.ts (preTs pre)) gt.ts)
        else .error .invalidArgument := by
  unfold bcPrep
  cases h1 : lookup s.mats q.localTrustId with
  | none => exact Or.inl ⟨rfl, Or.inl rfl⟩
  | some ltm =>
    by_cases hsq : ltm.m.major = ltm.m.minor
    · simp only [ne_eq, hsq, not_true_eq_false, if_false]
      cases hp : bcLoadPre s q with
      | none => exact Or.inl ⟨rfl, Or.inr ⟨ltm, rfl, hsq, Or.inl rfl⟩⟩
      | some pre =>
        cases hg : lookup s.vecs q.globalTrustId with
        | none => exact Or.inl ⟨rfl, Or.inr ⟨ltm, rfl, hsq, Or.inr rfl⟩⟩
        | some gt =>
          refine Or.inr (Or.inr ⟨ltm, pre, gt, rfl, hsq, rfl, rfl, ?_⟩)
          rw [show max ltm.ts (preTs pre) = (bcAlignPre ltm.m ltm.ts pre).2.2 by rw [bcAlignPre_eq]]
          cases bcParamsOK q <;> rfl
    · exact Or.inr (Or.inl (by simp only [ne_eq, hsq, not_false_eq_true, if_true]))

theorem bcFinish_ok {k : Consts K} {q : Params K} {ltm : TM K} {pre : Option (TV K)} {gt : TV K}
    {c2 : CSM K} {p2 t2 : Vec K} {ts2 : Nat} {E : BcEff K}
    (h : bcFinish k q ltm pre gt c2 p2 t2 ts2 = .ok E) :
    E.ltm = ltm ∧ E.pre = pre ∧ E.gt = gt ∧ E.c2 = c2 ∧ E.p2 = p2 ∧ E.t2 = t2 ∧ E.ts2 = ts2 ∧
    E.p3 = canonicalizeTrustVector E.p2 ∧ E.t3 = canonicalizeTrustVector E.t2 ∧
    (∃ c3 d3, extractDistrust E.c2 = .ok (c3, d3) ∧
      canonicalizeLocalTrust c3 (some E.p3) = .ok E.c4 ∧
      canonicalizeLocalTrust d3 none = .ok E.d4) ∧
    E.a = q.alpha.getD k.half ∧ E.e = q.epsilon.getD (k.epsNum / (E.c2.major : K)) := by
  unfold bcFinish at h
  cases hx : extractDistrust c2 with
  | error _ => rw [hx] at h; cases h
  | ok cd =>
    obtain ⟨c3, d3⟩ := cd
    rw [hx] at h
    cases h4 : canonicalizeLocalTrust c3 (some (canonicalizeTrustVector p2)) with
    | error _ => simp only [h4] at h; cases h
    | ok c4 =>
      cases h5 : canonicalizeLocalTrust d3 none with
      | error _ => simp only [h4, h5] at h; cases h
      | ok d4 =>
        simp only [h4, h5, Except.ok.injEq] at h
        subst h
        exact ⟨rfl, rfl, rfl, rfl, rfl, rfl, rfl, rfl, rfl, ⟨c3, d3, hx, h4, h5⟩, rfl, rfl⟩

theorem bcFinish_error {k : Consts K} {q : Params K} {ltm : TM K} {pre : Option (TV K)}
    {gt : TV K} {c2 : CSM K} {p2 t2 : Vec K} {ts2 : Nat} {c : Code}
    (h : bcFinish k q ltm pre gt c2 p2 t2 ts2 = .error c) : c = .internal := by
  unfold bcFinish at h
  cases hx : extractDistrust c2 with
  | error _ => rw [hx] at h; cases h; rfl
  | ok cd =>
    obtain ⟨c3, d3⟩ := cd
    rw [hx] at h
    cases h4 : canonicalizeLocalTrust c3 (some (canonicalizeTrustVector p2)) with
    | error _ => simp only [h4] at h; cases h; rfl
    | ok c4 =>
      cases h5 : canonicalizeLocalTrust d3 none with
      | error _ => simp only [h4, h5] at h; cases h; rfl
      | ok d4 => simp only [h4, h5] at h; cases h

theorem bcPrep_ok {k : Consts K} {s : GState K} {q : Params K} {E : BcEff K}
    (h : bcPrep k s q = .ok E) :
    lookup s.mats q.localTrustId = some E.ltm ∧ E.ltm.m.major = E.ltm.m.minor ∧
    bcLoadPre s q = some E.pre ∧ lookup s.vecs q.globalTrustId = some E.gt ∧
    bcParamsOK q = true ∧
    bcFinish k q E.ltm E.pre E.gt (bcAligned E.ltm E.pre E.gt).1 (bcAligned E.ltm E.pre E.gt).2.1
      (bcAligned E.ltm E.pre E.gt).2.2 (max (max E.ltm.ts (preTs E.pre)) E.gt.ts) = .ok E := by
  rcases bcPrep_load k s q with ⟨he, _⟩ | he | ⟨ltm, pre, gt, h1, hsq, hp, hg, he⟩
  · rw [he] at h; cases h
  · rw [he] at h; cases h
  · rw [h] at he
    cases hpar : bcParamsOK q with
    | false => rw [hpar] at he; cases he
    | true =>
      rw [hpar, if_pos rfl] at he
      obtain ⟨rfl, rfl, rfl, _⟩ := bcFinish_ok he.symm
      exact ⟨h1, hsq, hp, hg, rfl, he.symm⟩

theorem bcEffective_eq_some {k : Consts K} {s : GState K} {q : Params K} {E : BcEff K} :
    bcEffective k s q = some E ↔ bcPrep k s q = .ok E := by
  unfold bcEffective
  cases bcPrep k s q <;> simp

/-! ### the write-back -/

theorem bcWrite_mats (s : GState K) (q : Params K) (E : BcEff K) (res : ComputeResult K) :
    (bcWrite s q E res).mats = s.mats := rfl

theorem bcWrite_lookup_other (s : GState K) (q : Params K) (E : BcEff K) (res : ComputeResult K)
    {id : String} (h1 : id ≠ q.globalTrustId) (h2 : id ≠ q.positiveGlobalTrustId) :
    lookup (bcWrite s q E res).vecs id = lookup s.vecs id := by
  unfold bcWrite
  simp only
  rw [lookup_store_ne _ _ h1]
  split
  · rfl
  · split
    · rfl
    · rw [lookup_store_ne _ _ h2]

theorem bcWrite_gt (s : GState K) (q : Params K) (E : BcEff K) (res : ComputeResult K)
    (hg : lookup s.vecs q.globalTrustId = some E.gt) :
    lookup (bcWrite s q E res).vecs q.globalTrustId =
      some ⟨discountTrustVector res.t E.d4, max E.gt.ts E.ts2⟩ := by
  unfold bcWrite
  simp only
  rw [lookup_store_self]
  refine congrArg (fun t => some (⟨_, t⟩ : TV K)) ?_
  split
  · rw [hg]; rfl
  · split
    · rw [hg]; rfl
    · rename_i gtp hp
      by_cases he : q.globalTrustId = q.positiveGlobalTrustId
      · rw [he, lookup_store_self]
        rw [he, hp] at hg
        cases hg
        simp only [Option.getD_some]
        rw [Nat.max_assoc, Nat.max_self]
      · rw [lookup_store_ne _ _ he, hg]; rfl

theorem bcWrite_pos (s : GState K) (q : Params K) (E : BcEff K) (res : ComputeResult K)
    {gtp : TV K} (h0 : q.positiveGlobalTrustId ≠ "")
    (hne : q.positiveGlobalTrustId ≠ q.globalTrustId)
    (hp : lookup s.vecs q.positiveGlobalTrustId = some gtp) :
    lookup (bcWrite s q E res).vecs q.positiveGlobalTrustId =
      some ⟨res.t, max gtp.ts E.ts2⟩ := by
  unfold bcWrite
  simp only
  rw [lookup_store_ne _ _ hne]
  have : (q.positiveGlobalTrustId == "") = false := beq_false_of_ne h0
  rw [this, hp]
  simp only [Bool.false_eq_true, if_false]
  rw [lookup_store_self]

end EtVerif.GrpcL
