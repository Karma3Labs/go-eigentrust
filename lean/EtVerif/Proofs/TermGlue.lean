/-
  Glue for the termination clause of C05 (Props/C05b.lean): a dense statement "some check at an
  iteration count `1 ≤ K ≤ B` succeeds" (Props/C05a.lean) makes the MODEL's `compute`, run under
  the default check schedule over ℝ, end by its exit criteria within `B` iterations
  (`compute_terminates_of_dense`).  Lemmas in `EtVerif.TG` ("termination glue").
-/
import EtVerif.Props.C01b
import EtVerif.Props.C05a
import EtVerif.Proofs.NatFirst

namespace EtVerif
open Scalar

/-- the options leave the default check schedule in force: no flat-tail requirement, no
    iteration limit (`maxIterations` unset or 0), `checkFreq` and `minIterations` unset or 1 -/
def DefaultSchedule {α : Type} (o : ComputeOpts α) : Prop :=
  o.flatTail = 0 ∧ o.maxIterations.getD 0 = 0 ∧ o.checkFreq.getD 1 = 1 ∧
    o.minIterations.getD 1 = 1

namespace TG

section real
open EtVerif.Dense EtVerif.C01b

variable (n : Nat) (c : CSM ℝ) (p : Vec ℝ) (a e : ℝ)

/-- the success predicate of the dense analysis (Props/C05a.lean) at iteration count `K` -/
def DenseOK (t0 : List (Entry ℝ)) (K : Nat) : Prop :=
  l2 ((F (denseC n c) (toDense n p.entries) a)^[K] (toDense n t0)
      - (F (denseC n c) (toDense n p.entries) a)^[K - 1] (toDense n t0)) ≤ e

/-- default schedule: `Converged()` at the check after iteration `k ≥ 1` is
    `‖F^[k] t0 − F^[k−1] t0‖₂ ≤ e` -/
theorem convergedAt_default_iff (hc : Canon n c p) (he : 0 ≤ e) (t0 : List (Entry ℝ))
    (ht0 : WF n t0) (k : Nat) (hk : 1 ≤ k) :
    convergedAt c.transpose.rows (Vec.scale a p).entries (1 - a) e 1 1 t0 k = true ↔
      DenseOK n c p a e t0 k := by
  unfold convergedAt dsqAt DenseOK
  rw [lastChk_default k hk]
  have hwf := SR.wf_iterate hc a ht0
  rw [check_iff_l2 n _ _ (hwf k) (hwf (k - 1)) e he,
    iterate_refines n c p hc a t0 ht0.1,
    iterate_refines n c p hc a t0 ht0.1]

/-- The literal arguments `1 1 none 0` of `computeLoop` are the default schedule:
    `minI = freq = 1`, no iteration limit, `flatTail = 0`. -/
theorem loop_terminates (hc : Canon n c p) (he : 0 < e) (nl : Nat) (t0 : List (Entry ℝ))
    (ht0 : WF n t0) (B : Nat) (hd : ∃ K, 1 ≤ K ∧ K ≤ B ∧ DenseOK n c p a e t0 K)
    (fuel : Nat) (hfuel : B < fuel) (s : LoopState ℝ) (by_ : EndedBy)
    (h : computeLoop c.transpose.rows (Vec.scale a p).entries (1 - a) e 1 1 none 0 nl fuel
      (initState t0) = (s, by_)) :
    by_ = .criteria ∧ 1 ≤ s.iter ∧ s.iter ≤ B ∧ DenseOK n c p a e t0 s.iter ∧
      ∀ K', 1 ≤ K' → K' < s.iter → ¬ DenseOK n c p a e t0 K' := by
  obtain ⟨K0, hK1, hKB, hKP, hKmin⟩ := first_of_exists _ B hd
  have hnf : ∀ k, nonFiniteAt c.transpose.rows (Vec.scale a p).entries (1 - a) 1 1 t0 k = false :=
    fun k => nonFinite_false _
  have hflat : ∀ k, flatAt c.transpose.rows (Vec.scale a p).entries (1 - a) 1 1 0 nl t0 k
      = true := fun k => decide_eq_true (Nat.zero_le _)
  have hbefore : ∀ k, k < K0 → maxHit none k = false ∧
      stopAt c.transpose.rows (Vec.scale a p).entries (1 - a) e 1 1 0 nl t0 k = false := by
    intro k hk
    refine ⟨rfl, (stopAt_eq_false_iff ..).mpr fun hck => ⟨hnf k, fun hcv => ?_⟩⟩
    rcases Nat.eq_zero_or_pos k with rfl | hpos
    · rw [isCheck_default_zero] at hck
      cases hck
    · exact hKmin k hpos hk
        ((convergedAt_default_iff n c p a e hc he.le t0 ht0 k hpos).mp hcv.1)
  have hat : stopAt c.transpose.rows (Vec.scale a p).entries (1 - a) e 1 1 0 nl t0 K0 = true :=
    (stopAt_eq_true_iff ..).mpr ⟨isCheck_default K0 hK1, Or.inr
      ⟨(convergedAt_default_iff n c p a e hc he.le t0 ht0 K0 hK1).mpr hKP, hflat K0⟩⟩
  obtain ⟨hi, hby⟩ := loop_first_criteria fuel t0 K0 (by omega) hbefore
    rfl (hnf K0) hat s by_ h
  rw [hi]
  exact ⟨hby, hK1, hKB, hKP, hKmin⟩

/-- What C05b uses: a successful dense check at some `1 ≤ K ≤ B` makes `compute` (any fuel `> B`)
    succeed, end by its criteria, and report the first such `K` as its iteration count. -/
theorem compute_terminates_of_dense (hn : 1 ≤ n) (o : ComputeOpts ℝ) (hc : Canon n c p)
    (ha0 : 0 ≤ a) (ha1 : a ≤ 1) (he : 0 < e) (hs : DefaultSchedule o)
    (ht0 : ∀ t0, o.t0 = some t0 → t0.dim = n ∧ WF n t0.entries)
    (hrd : ∀ d, o.resultDim = some d → d = n) (B : Nat)
    (hd : ∃ K, 1 ≤ K ∧ K ≤ B ∧ DenseOK n c p a e (o.t0.getD p).entries K)
    (fuel : Nat) (hfuel : B < fuel) :
    ∃ r, compute fuel c p a e o = .ok r ∧ r.endedBy = .criteria ∧ 1 ≤ r.iters ∧ r.iters ≤ B ∧
      DenseOK n c p a e (o.t0.getD p).entries r.iters ∧
      ∀ K', 1 ≤ K' → K' < r.iters → ¬ DenseOK n c p a e (o.t0.getD p).entries K' := by
  obtain ⟨h1, h2, h3, h4⟩ := hs
  have hv : ValidInput c p a e o := by
    refine ⟨by rw [hc.major_eq, hc.minor_eq], by rw [hc.major_eq]; omega,
      by rw [hc.major_eq]; exact hc.dim_eq,
      fun t0 h => by rw [hc.major_eq]; exact (ht0 t0 h).1,
      fun d h => by rw [hc.major_eq]; exact hrd d h,
      ?_, ?_, ?_, by rw [h3], by rw [h2], by rw [h3, h4]; decide⟩
    · exact decide_eq_false (not_lt.mpr ha0)
    · exact decide_eq_false (not_lt.mpr ha1)
    · exact decide_eq_false (not_le.mpr he)
  have hstart : WF n (o.t0.getD p).entries := by
    cases h0 : o.t0 with
    | none => exact hc.dist.1
    | some t0 => exact (ht0 t0 h0).2
  cases hl : loopOf fuel c p a e o with
  | mk s by_ =>
    have hl' : computeLoop c.transpose.rows (Vec.scale a p).entries (1 - a) e 1 1 none 0
        (if o.numLeaders = 0 then c.major else o.numLeaders) fuel
        (initState (o.t0.getD p).entries) = (s, by_) := by
      have := hl
      unfold loopOf at this
      rw [h3, h4, h2, h1] at this
      exact this
    obtain ⟨hby, r1, r2, r3, r4⟩ := loop_terminates n c p a e hc he _ _ hstart B hd fuel hfuel
      s by_ hl'
    subst hby
    exact ⟨_, compute_ok_of_loop fuel c p a e o hv s _ hl (by decide), rfl, r1, r2, r3, r4⟩

end real

end TG

end EtVerif
