/-
  Refinement of the translated `VecDot` (Gen/Translated.lean) to the model's `vecDot`.
-/
import EtVerif.Proofs.TrKbn
namespace EtVerif.Tr
open EtVerif EtVerif.GoSem EtVerif.Gen Scalar
variable {α : Type} [Scalar α]

theorem drop_cons_info {β : Type} {l : List β} {k : Nat} {b : β} {bs : List β}
    (h : l.drop k = b :: bs) :
    l.length = k + 1 + bs.length ∧ l.drop (k + 1) = bs ∧ l[k]? = some b := by
  have hl := congrArg List.length h
  simp at hl
  refine ⟨by omega, ?_, ?_⟩
  · have h2 : l.drop (k + 1) = (l.drop k).drop 1 := by simp [List.drop_drop]
    rw [h2, h]; rfl
  · have h2 : l[k]? = (l.drop k)[0]? := by simp [List.getElem?_drop]
    rw [h2, h]; rfl

theorem dotTerms_lt {x b : Entry α} (xs bs : List (Entry α)) (h : b.idx < x.idx) :
    dotTerms (x :: xs) (b :: bs) = dotTerms (x :: xs) bs := by
  rw [dotTerms]; simp [h]

theorem dotTerms_eq {x b : Entry α} (xs bs : List (Entry α)) (h : b.idx = x.idx) :
    dotTerms (x :: xs) (b :: bs) = mul x.val b.val :: dotTerms (x :: xs) bs := by
  rw [dotTerms]; simp [h]

theorem dotTerms_gt {x b : Entry α} (xs bs : List (Entry α)) (h : x.idx < b.idx) :
    dotTerms (x :: xs) (b :: bs) = dotTerms xs (b :: bs) := by
  rw [dotTerms]
  have h1 : ¬ b.idx < x.idx := by omega
  have h2 : ¬ b.idx = x.idx := by omega
  simp [h1, h2]

theorem dotTerms_nil_right (a : List (Entry α)) : dotTerms a [] = [] := by
  cases a <;> simp [dotTerms]

/-- the cursor `(i2, e2)` of the Go code points at `b`, the head of `b0.drop k`. -/
structure VecDotInv (b0 : List (Entry α)) (k : Nat) (b : Entry α) (bs : List (Entry α))
    (s : VecDot.St α) : Prop where
  hv : s.v2.Entries = toGs b0
  hn : s.n2 = (b0.length : Int)
  hi : s.i2 = (k : Int)
  hd : b0.drop k = b :: bs
  he : s.e2 = toG b

/-- the products pushed by one inner iteration at cursor `b` for the outer entry `x`. -/
def vecDotStepTerms (x b : Entry α) : List α := if b.idx = x.idx then [mul x.val b.val] else []

theorem dotTerms_le {x b : Entry α} (xs bs : List (Entry α)) (h : b.idx ≤ x.idx) :
    dotTerms (x :: xs) (b :: bs) = vecDotStepTerms x b ++ dotTerms (x :: xs) bs := by
  unfold vecDotStepTerms
  by_cases he : b.idx = x.idx
  · simp [he, dotTerms_eq xs bs he]
  · simp [he, dotTerms_lt xs bs (by omega : b.idx < x.idx)]

/-- inner body at the last entry of `v2`: breaks the overall loop. -/
theorem vecDot_body_last (fuel : Nat) {b0 : List (Entry α)} {k : Nat} {b x : Entry α} {s : VecDot.St α}
    (hI : VecDotInv b0 k b [] s) (he1 : s.e1 = toG x) :
    ∃ s1, VecDot.loop2_body fuel s = .ok (s1, .brk 1) ∧
      s1.summer = toGK ((vecDotStepTerms x b).foldl KBN.push (ofGK s.summer)) := by
  obtain ⟨hv, hn, hi, hd, he⟩ := hI
  obtain ⟨hlen, _, _⟩ := drop_cons_info hd
  simp only [List.length_nil, Nat.add_zero] at hlen
  unfold vecDotStepTerms
  by_cases heq : b.idx = x.idx
  · obtain ⟨st, h1, h2⟩ := KBNSummer_Add_ok s.summer (mul x.val b.val)
    simp [VecDot.loop2_body, go_run, he1, he, heq, h1, h2, hi, hn, hlen]
  · have heq' : ¬ (x.idx : Int) = (b.idx : Int) := by omega
    simp [VecDot.loop2_body, go_run, he1, he, heq, heq', hi, hn, hlen]

/-- inner body when `v2` has a further entry: the cursor advances. -/
theorem vecDot_body_adv (fuel : Nat) {b0 : List (Entry α)} {k : Nat} {b b' x : Entry α}
    {bs' : List (Entry α)} {s : VecDot.St α}
    (hI : VecDotInv b0 k b (b' :: bs') s) (he1 : s.e1 = toG x) :
    ∃ s1, VecDot.loop2_body fuel s = .ok (s1, .next) ∧ VecDotInv b0 (k + 1) b' bs' s1 ∧ s1.e1 = toG x ∧
      s1.summer = toGK ((vecDotStepTerms x b).foldl KBN.push (ofGK s.summer)) := by
  obtain ⟨hv, hn, hi, hd, he⟩ := hI
  obtain ⟨hlen, hd', _⟩ := drop_cons_info hd
  obtain ⟨_, _, hget⟩ := drop_cons_info hd'
  simp only [List.length_cons] at hlen
  have hne : ¬ ((k : Int) + 1 = (b0.length : Int)) := by omega
  have hidx : goIdx (toGs b0) ((k : Int) + 1) = .ok (toG b') := by
    have : ((k : Int) + 1) = ((k + 1 : Nat) : Int) := by simp
    rw [this]
    have hnn : ¬ ((k : Int) + 1 < 0) := by omega
    simp [goIdx, toGs, hget]
    omega
  unfold vecDotStepTerms
  by_cases heq : b.idx = x.idx
  · obtain ⟨st, h1, h2⟩ := KBNSummer_Add_ok s.summer (mul x.val b.val)
    refine ⟨{ s with value := mul x.val b.val, summer := st.s, i2 := (k : Int) + 1, e2 := toG b' },
      ?_, ⟨hv, hn, by simp, hd', rfl⟩, he1, by simp [heq, h2]⟩
    simp [VecDot.loop2_body, go_run, he1, he, heq, h1, hi, hn, hne, hv, hidx]
  · have heq' : ¬ (x.idx : Int) = (b.idx : Int) := by omega
    refine ⟨{ s with i2 := (k : Int) + 1, e2 := toG b' },
      ?_, ⟨hv, hn, by simp, hd', rfl⟩, he1, by simp [heq]⟩
    simp [VecDot.loop2_body, go_run, he1, he, heq', hi, hn, hne, hv, hidx]

/-- what the outer `range` does with the result of the inner loop. -/
def vecDotK (fuel : Nat) (i : Int) (xs : List (GEntry α)) (r : R (VecDot.St α × Ctl α)) :
    R (VecDot.St α × Ctl α) :=
  match r with
  | .error e => .error e
  | .ok (s1, c) =>
    match Stm.afterBody 1 c with
    | some c' => .ok (s1, c')
    | none => Stm.range 1 (VecDot.loop1_bind fuel) (VecDot.loop1_body fuel) i xs s1

theorem range_cons_K (fuel : Nat) (i : Int) (x : GEntry α) (xs : List (GEntry α)) (s : VecDot.St α) :
    Stm.range 1 (VecDot.loop1_bind fuel) (VecDot.loop1_body fuel) i (x :: xs) s =
      vecDotK fuel (i + 1) xs (Stm.loop 2 (VecDot.loop2_cond fuel) (VecDot.loop2_body fuel)
        (VecDot.loop2_post fuel) fuel (VecDot.loop1_bind fuel i x s)) := by
  simp only [Stm.range, vecDotK, VecDot.loop1_body]
  cases Stm.loop 2 (VecDot.loop2_cond fuel) (VecDot.loop2_body fuel) (VecDot.loop2_post fuel) fuel
    (VecDot.loop1_bind fuel i x s) with
  | error e => rfl
  | ok r => rfl

theorem VecDot_loops (fuel : Nat) (b0 : List (Entry α)) (hf : b0.length ≤ fuel) :
    ∀ (m : Nat) (x : Entry α) (xs : List (Entry α)) (b : Entry α) (bs : List (Entry α)),
      xs.length + bs.length < m →
      ∀ (k : Nat) (s : VecDot.St α) (n : Nat) (i : Int),
        VecDotInv b0 k b bs s → s.e1 = toG x → bs.length + 1 ≤ n →
        ∃ s', vecDotK fuel i (toGs xs) (Stm.loop 2 (VecDot.loop2_cond fuel) (VecDot.loop2_body fuel)
            (VecDot.loop2_post fuel) n s) = .ok (s', .next) ∧
          s'.summer = toGK ((dotTerms (x :: xs) (b :: bs)).foldl KBN.push (ofGK s.summer)) := by
  intro m
  induction m with
  | zero => intro x xs b bs h; omega
  | succ m ih =>
    intro x xs b bs hm k s n i hI he1 hn
    by_cases hle : b.idx ≤ x.idx
    · -- the inner loop runs one more iteration
      have hc : VecDot.loop2_cond fuel s = .ok true := by
        simp [VecDot.loop2_cond, pure, Except.pure, hI.he, he1, hle]
      obtain ⟨n', rfl⟩ : ∃ n', n = n' + 1 := ⟨n - 1, by omega⟩
      rw [dotTerms_le xs bs hle, List.foldl_append]
      cases bs with
      | nil =>
        obtain ⟨s1, hb, hs⟩ := vecDot_body_last fuel hI he1
        refine ⟨s1, ?_, ?_⟩
        · rw [loop_leave (c' := .brk 1) hc hb (by simp [Stm.afterBody])]
          simp [vecDotK, Stm.afterBody]
        · simp [hs, dotTerms_nil_right]
      | cons b' bs' =>
        obtain ⟨s1, hb, hI1, he11, hs⟩ := vecDot_body_adv fuel hI he1
        have hp : VecDot.loop2_post fuel s1 = .ok (s1, .next) := rfl
        rw [loop_step hc hb hp]
        obtain ⟨s', h1, h2⟩ := ih x xs b' bs' (by simp at hm; omega) (k + 1) s1 n' i hI1 he11
          (by simp at hn; omega)
        exact ⟨s', h1, by rw [h2, hs, ofGK_toGK]⟩
    · -- the inner loop is over; the outer loop moves on
      have hc : VecDot.loop2_cond fuel s = .ok false := by
        simp [VecDot.loop2_cond, pure, Except.pure, hI.he, he1, hle]
      rw [loop_exit hc, dotTerms_gt xs bs (by omega)]
      cases xs with
      | nil => exact ⟨s, by simp [vecDotK, Stm.afterBody], by simp [dotTerms]⟩
      | cons x' xs' =>
        have hlen := (drop_cons_info hI.hd).1
        have hI' : VecDotInv b0 k b bs (VecDot.loop1_bind fuel (i) (toG x') s) :=
          ⟨hI.hv, hI.hn, hI.hi, hI.hd, hI.he⟩
        obtain ⟨s', h1, h2⟩ := ih x' xs' b bs (by simp at hm; omega) k _ fuel (i + 1) hI' rfl
          (by omega)
        refine ⟨s', ?_, h2⟩
        simp only [vecDotK, Stm.afterBody, toGs_cons]
        rw [range_cons_K]
        exact h1

theorem VecDot_range (fuel : Nat) (a : List (Entry α)) (b : Entry α) (bs : List (Entry α))
    (hf : (b :: bs).length ≤ fuel) (s : VecDot.St α) (hI : VecDotInv (b :: bs) 0 b bs s) :
    ∃ s', Stm.range 1 (VecDot.loop1_bind fuel) (VecDot.loop1_body fuel) 0 (toGs a) s = .ok (s', .next) ∧
      s'.summer = toGK ((dotTerms a (b :: bs)).foldl KBN.push (ofGK s.summer)) := by
  cases a with
  | nil => exact ⟨s, rfl, by simp [dotTerms]⟩
  | cons x xs =>
    have hI' : VecDotInv (b :: bs) 0 b bs (VecDot.loop1_bind fuel 0 (toG x) s) :=
      ⟨hI.hv, hI.hn, hI.hi, hI.hd, hI.he⟩
    obtain ⟨s', h1, h2⟩ := VecDot_loops fuel (b :: bs) hf (xs.length + bs.length + 1) x xs b bs
      (by omega) 0 _ fuel (0 + 1) hI' rfl (by simpa using hf)
    refine ⟨s', ?_, h2⟩
    rw [toGs_cons, range_cons_K]
    exact h1

theorem VecDot_refines_cons (fuel : Nat) (v1 v2 : Vec α) (b : Entry α) (bs : List (Entry α))
    (hv2 : v2.entries = b :: bs) (hf : v2.entries.length ≤ fuel) :
    (Gen.VecDot fuel (toGV v1) (toGV v2)).map (fun r => r.2) = .ok (vecDot v1.entries v2.entries) := by
  rw [hv2] at hf
  obtain ⟨s', h1, h2⟩ := VecDot_range fuel v1.entries b bs hf
    { v1 := toGV v1, v2 := toGV v2, n2 := ((b :: bs).length : Int), i2 := 0, e2 := toG b,
      summer := GKBNSummer.zero, e1 := GEntry.zero, value := Scalar.zero }
    ⟨by simp [hv2], rfl, rfl, rfl, rfl⟩
  obtain ⟨st, hst⟩ := KBNSummer_Sum_ok s'.summer
  have hdec : decide ((bs.length : Int) + 1 = 0) = false := by
    rw [decide_eq_false_iff_not]; omega
  simp only [toGK_zero, List.length_cons, Int.natCast_add, Int.natCast_one] at h1
  simp only [VecDot, VecDot.body, Stm.run, go_run, Stm.rangeOver, VecDot.loop1_xs, toGK_zero, toGV_Entries, hv2,
    toGs_cons, goLen_eq, List.length_cons, goIdx_zero_cons, Int.natCast_add, Int.natCast_one, hdec, toGs_length]
  simp only [h1, Stm.ret, hst, Except.map]
  simp [h2, vecDot, kbnSum, ofGK, toGK, KBN.init, GKBNSummer.zero]

/-! ### the empty second operand

Go returns the literal `0` without touching the summer (`if n2 == 0 { return 0 }`), the model returns
`kbnSum [] = add zero zero`.  The `Scalar` class carries no laws, so these differ for a lawless
instance (they agree for `Float`, `Rat` and every field: `0 + 0 = 0`). -/

theorem VecDot_nil (fuel : Nat) (v1 v2 : Vec α) (hv2 : v2.entries = []) :
    (Gen.VecDot fuel (toGV v1) (toGV v2)).map (fun r => r.2) = .ok (zero : α) := by
  simp [VecDot, VecDot.body, Stm.run, go_run, hv2, Except.map]

theorem vecDot_nil (a : List (Entry α)) : vecDot a [] = add (zero : α) zero := by
  simp [vecDot, dotTerms_nil_right, kbnSum, KBN.init, KBN.result]

/-- Go `VecDot` computes exactly the model's `vecDot`, for every pair of entry lists (sorted or not) and
    every fuel ≥ the length of the second operand — provided that, when the second operand is empty,
    `0 + 0 = 0` in the scalar type (the only case in which the Go code returns a literal instead of
    `summer.Sum()`).  Without `h0` the statement is false, see `VecDot_refines_iff` and
    `VecDot_refines_false`. -/
theorem VecDot_refines_partial (fuel : Nat) (v1 v2 : Vec α) (hf : v2.entries.length ≤ fuel)
    (h0 : v2.entries = [] → add (zero : α) zero = zero) :
    (Gen.VecDot fuel (toGV v1) (toGV v2)).map (fun r => r.2) = .ok (vecDot v1.entries v2.entries) := by
  cases hv2 : v2.entries with
  | nil => rw [VecDot_nil fuel v1 v2 hv2, vecDot_nil, h0 hv2]
  | cons b bs => rw [← hv2]; exact VecDot_refines_cons fuel v1 v2 b bs hv2 hf

/-- the hypothesis of `VecDot_refines_partial` is exactly what is needed. -/
theorem VecDot_refines_iff (fuel : Nat) (v1 v2 : Vec α) (hf : v2.entries.length ≤ fuel) :
    ((Gen.VecDot fuel (toGV v1) (toGV v2)).map (fun r => r.2) = .ok (vecDot v1.entries v2.entries)) ↔
      (v2.entries = [] → add (zero : α) zero = zero) := by
  refine ⟨fun h hv2 => ?_, VecDot_refines_partial fuel v1 v2 hf⟩
  rw [VecDot_nil fuel v1 v2 hv2, hv2, vecDot_nil] at h
  exact (Except.ok.inj h).symm

/-- a lawless scalar with `0 + 0 ≠ 0`. -/
@[reducible] def badScalar : Scalar Bool where
  zero := false
  one := true
  add := fun _ _ => true
  sub := fun a _ => a
  mul := and
  div := fun a _ => a
  neg := id
  abs := id
  lt := fun _ _ => false
  le := fun _ _ => true
  eq := fun a b => a == b
  ofNat := fun n => n != 0
  sqrtLe := fun _ _ => true

/-- the unconditional refinement statement is false over the law-free `Scalar` class:
    counterexample `α = Bool` with `badScalar`, both vectors empty, any fuel. -/
theorem VecDot_refines_false :
    ¬ ∀ (α : Type) [Scalar α] (fuel : Nat) (v1 v2 : Vec α), v2.entries.length ≤ fuel →
      (Gen.VecDot fuel (toGV v1) (toGV v2)).map (fun r => r.2) = .ok (vecDot v1.entries v2.entries) := by
  intro h
  have h1 := (@VecDot_refines_iff Bool badScalar 0 ⟨0, []⟩ ⟨0, []⟩ (Nat.le_refl _)).1
    (@h Bool badScalar 0 ⟨0, []⟩ ⟨0, []⟩ (Nat.le_refl _)) rfl
  exact absurd h1 (by decide)

end EtVerif.Tr
