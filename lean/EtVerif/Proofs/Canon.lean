/-
  Helper lemmas for property C04 (Canonicalize, CanonicalizeLocalTrust, CanonicalizeTrustVector).
-/
import EtVerif.Proofs.VecDot
import EtVerif.Model.Basic
import Mathlib.Algebra.Order.BigOperators.Group.List

namespace EtVerif.Canon
open EtVerif Scalar

/-! ### generic `Scalar`: the compensated sum commutes with an arithmetic-preserving map -/

section generic
variable {α : Type} [Scalar α]

theorem kbn_push_equivariant (σ : α → α)
    (hadd : ∀ x y, σ (Scalar.add x y) = Scalar.add (σ x) (σ y))
    (hsub : ∀ x y, σ (Scalar.sub x y) = Scalar.sub (σ x) (σ y))
    (hlt : ∀ x y, Scalar.lt (Scalar.abs (σ x)) (Scalar.abs (σ y))
      = Scalar.lt (Scalar.abs x) (Scalar.abs y))
    (s : KBN α) (v : α) :
    KBN.push ⟨σ s.sum, σ s.comp⟩ (σ v) = ⟨σ (KBN.push s v).sum, σ (KBN.push s v).comp⟩ := by
  simp only [KBN.push, hlt, hadd, hsub, apply_ite σ]

theorem kbn_foldl_equivariant (σ : α → α)
    (hadd : ∀ x y, σ (Scalar.add x y) = Scalar.add (σ x) (σ y))
    (hsub : ∀ x y, σ (Scalar.sub x y) = Scalar.sub (σ x) (σ y))
    (hlt : ∀ x y, Scalar.lt (Scalar.abs (σ x)) (Scalar.abs (σ y))
      = Scalar.lt (Scalar.abs x) (Scalar.abs y))
    (xs : List α) (s : KBN α) :
    (xs.map σ).foldl KBN.push ⟨σ s.sum, σ s.comp⟩
      = ⟨σ (xs.foldl KBN.push s).sum, σ (xs.foldl KBN.push s).comp⟩ := by
  induction xs generalizing s with
  | nil => rfl
  | cons x xs ih =>
    simp only [List.map_cons, List.foldl_cons]
    rw [kbn_push_equivariant σ hadd hsub hlt, ih]

theorem kbnSum_equivariant (σ : α → α)
    (hadd : ∀ x y, σ (Scalar.add x y) = Scalar.add (σ x) (σ y))
    (hsub : ∀ x y, σ (Scalar.sub x y) = Scalar.sub (σ x) (σ y))
    (hlt : ∀ x y, Scalar.lt (Scalar.abs (σ x)) (Scalar.abs (σ y))
      = Scalar.lt (Scalar.abs x) (Scalar.abs y))
    (hzero : σ (Scalar.zero : α) = Scalar.zero)
    (xs : List α) : kbnSum (xs.map σ) = σ (kbnSum xs) := by
  unfold kbnSum
  have h0 : (⟨σ (KBN.init : KBN α).sum, σ (KBN.init : KBN α).comp⟩ : KBN α) = KBN.init := by
    simp [KBN.init, hzero]
  have key := kbn_foldl_equivariant σ hadd hsub hlt xs KBN.init
  rw [h0] at key
  rw [key]
  simp only [KBN.result, hadd]

theorem canonTV_dim (v : Vec α) : (canonicalizeTrustVector v).dim = v.dim := by
  unfold canonicalizeTrustVector; split <;> rfl

end generic

variable {K : Type} [Field K] [LinearOrder K]

/-! ### Canonicalize -/

abbrev vsum (es : List (Entry K)) : K := (es.map (·.val)).sum

theorem canonicalize_eq (es : List (Entry K)) :
    canonicalize es =
      if vsum es = 0 then .error .zeroSum
      else .ok (es.map fun e => ⟨e.idx, e.val / vsum es⟩) := by
  unfold canonicalize vsum
  simp only [kbnSum_eq_sum, s_isZero, s_div, decide_eq_true_eq]

omit [LinearOrder K] in
theorem vsum_map_val (f : K → K) (h0 : f 0 = 0) (hadd : ∀ x y, f (x + y) = f x + f y)
    (es : List (Entry K)) : vsum (es.map fun e => ⟨e.idx, f e.val⟩) = f (vsum es) := by
  induction es with
  | nil => exact h0.symm
  | cons e es ih =>
    unfold vsum at ih ⊢
    rw [List.map_cons, List.map_cons, List.sum_cons, ih, List.map_cons, List.sum_cons, hadd]

theorem denE_map_val (f : K → K) (h0 : f 0 = 0) (hadd : ∀ x y, f (x + y) = f x + f y)
    (es : List (Entry K)) (i : Nat) :
    denE (es.map fun e => ⟨e.idx, f e.val⟩) i = f (denE es i) := by
  induction es with
  | nil => exact h0.symm
  | cons e es ih =>
    rw [List.map_cons, denE_cons, denE_cons, ih]
    split
    · exact (hadd _ _).symm
    · rfl

omit [LinearOrder K] in
theorem vsum_map_div (es : List (Entry K)) (s : K) :
    vsum (es.map fun e => ⟨e.idx, e.val / s⟩) = vsum es / s :=
  vsum_map_val (· / s) (zero_div s) (fun x y => add_div x y s) es

omit [LinearOrder K] in
theorem vsum_map_mul (es : List (Entry K)) (c : K) :
    vsum (es.map fun e => ⟨e.idx, c * e.val⟩) = c * vsum es :=
  vsum_map_val (c * ·) (mul_zero c) (mul_add c) es

theorem denE_map_div (es : List (Entry K)) (s : K) (i : Nat) :
    denE (es.map fun e => ⟨e.idx, e.val / s⟩) i = denE es i / s :=
  denE_map_val (· / s) (zero_div s) (fun x y => add_div x y s) es i

theorem canonicalize_scale (es : List (Entry K)) {c : K} (hc : c ≠ 0) :
    canonicalize (es.map fun e => ⟨e.idx, c * e.val⟩) = canonicalize es := by
  rw [canonicalize_eq, canonicalize_eq, vsum_map_mul]
  simp only [mul_eq_zero, hc, false_or, List.map_map, Function.comp_def, mul_div_mul_left _ _ hc]

/-! ### CanonicalizeLocalTrust -/

def scaleRows (s : Nat → K) (m : CSM K) : CSM K :=
  { m with rows := m.rows.zipIdx.map fun p => p.1.map fun e => ⟨e.idx, s p.2 * e.val⟩ }

def scaleVecBy (c : K) (v : Vec K) : Vec K := ⟨v.dim, v.entries.map fun e => ⟨e.idx, c * e.val⟩⟩

/-- `hz`: without a pre-trust a zero-sum row is left as it is, so it has to be all-zero for its
    scaled copy to be the same row. -/
theorem canonRow_scale (p : Option (Vec K)) (r : Row K) {c : K} (hc : c ≠ 0)
    (hz : p = none → vsum r = 0 → ∀ e ∈ r, e.val = 0) :
    canonRow p (r.map fun e => ⟨e.idx, c * e.val⟩) = canonRow p r := by
  unfold canonRow
  rw [canonicalize_scale r hc, canonicalize_eq]
  split_ifs with hs
  · cases p with
    | some q => rfl
    | none =>
      refine (List.map_congr_left fun e he => ?_).trans (List.map_id r)
      obtain ⟨i, v⟩ := e
      show (⟨i, c * v⟩ : Entry K) = ⟨i, v⟩
      rw [show v = 0 from hz rfl hs _ he, mul_zero]
  · rfl

omit [Field K] [LinearOrder K] in
theorem map_zipIdx_congr {β : Type} (rows : List (Row K)) (k : Nat) (f : Row K × Nat → β)
    (g : Row K → β) (h : ∀ r ∈ rows, ∀ i, f (r, i) = g r) :
    (rows.zipIdx k).map f = rows.map g := by
  induction rows generalizing k with
  | nil => rfl
  | cons r rows ih =>
    rw [List.zipIdx_cons, List.map_cons, List.map_cons, h r (by simp) k,
      ih (k + 1) (fun r hr i => h r (by simp [hr]) i)]

theorem all_zero_of_nonneg_of_vsum_zero [IsStrictOrderedRing K] (r : Row K)
    (hn : ∀ e ∈ r, 0 ≤ e.val) (hs : vsum r = 0) : ∀ e ∈ r, e.val = 0 := fun _ he =>
  List.all_zero_of_le_zero_le_of_sum_eq_zero (List.forall_mem_map.mpr hn) hs
    (List.mem_map_of_mem he)

/-! ### uniform vector -/

theorem vsum_uniform [IsStrictOrderedRing K] {n : Nat} (hn : 0 < n) :
    vsum (uniformEntries n : List (Entry K)) = 1 := by
  have h : vsum (uniformEntries n : List (Entry K))
      = ((List.range n).map fun _ => 1 / (n : K)).sum := congrArg List.sum (List.map_map ..)
  rw [h, List.map_const', List.sum_replicate, List.length_range, nsmul_eq_mul]
  exact mul_one_div_cancel (Nat.cast_ne_zero.mpr hn.ne')

theorem wf_uniform (n : Nat) : WF n (uniformEntries n : List (Entry K)) := by
  unfold uniformEntries
  constructor
  · unfold Sorted
    rw [List.pairwise_map]
    exact List.pairwise_lt_range
  · intro e he
    obtain ⟨i, hi, rfl⟩ := List.mem_map.mp he
    exact List.mem_range.mp hi

/-! ### ExtractDistrust commutes with positive row scaling -/

theorem splitRow_scale [IsStrictOrderedRing K] (r : Row K) {c : K} (hc : 0 < c) :
    splitRow (r.map fun e => (⟨e.idx, c * e.val⟩ : Entry K))
      = ((splitRow r).1.map (fun e => ⟨e.idx, c * e.val⟩),
         (splitRow r).2.map (fun e => ⟨e.idx, c * e.val⟩)) := by
  -- the sign test is unchanged by a positive factor, and scaling commutes with negation
  simp only [splitRow, Scalar.ge, s_le, s_zero, s_neg, List.filter_map, List.map_map,
    Function.comp_def, mul_nonneg_iff_of_pos_left hc, mul_neg]

theorem extractDistrust_scaleRows [IsStrictOrderedRing K] (s : Nat → K) (hs : ∀ i, 0 < s i)
    (L : CSM K) :
    extractDistrust (scaleRows s L)
      = (extractDistrust L).map fun PD => (scaleRows s PD.1, scaleRows s PD.2) := by
  have hdim : (scaleRows s L).dim = L.dim := rfl
  unfold extractDistrust
  rw [hdim]
  cases L.dim with
  | error e => rfl
  | ok n =>
    simp only [Except.map, scaleRows, List.map_map, List.zipIdx_map, Function.comp_def, Prod.map,
      id, splitRow_scale _ (hs _)]

end EtVerif.Canon
