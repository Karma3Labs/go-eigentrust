/-
  `Oapi.prepare` (Model/Oapi.lean; the part of `StrictServerImpl.compute` in openapi.go before
  the call of `basic.Compute`) in named stages, for any `Scalar`: three loads, two dimension
  alignments, two groups of guards, canonicalisation.  `prepare_eq` (by `rfl`) composes the
  stages; `prepare_eq_some_iff`, `prepare_eq_none_of`, `prepare_eq_none_iff` and `prepare_congr`
  are used instead of unfolding `prepare`.
-/
import EtVerif.Model.Oapi

namespace EtVerif.OapiL
open EtVerif EtVerif.Oapi Scalar


section stages
variable {α : Type} [Scalar α]

/-- outer `none` = loader error; an absent reference loads to `some none` -/
def loadOptVec : Option (VectorRef α) → Option (Option (Vec α))
  | none => some none
  | some ref => (loadVector ref).map some

/-- `compute`: the `preTrust == nil` default and the `switch` that aligns `p` with `cDim` -/
def alignPre (c0 : CSM α) : Option (Vec α) → CSM α × Vec α × Nat
  | none => (c0, Vec.new c0.major [], c0.major)
  | some p =>
    if p.dim < c0.major then (c0, p.setDim c0.major, c0.major)
    else if c0.major < p.dim then (c0.setDim p.dim p.dim, p, p.dim)
    else (c0, p, c0.major)

/-- `compute`: the `switch` that aligns `t0` with `cDim` (and `c`, `p` with `t0`) -/
def alignInit (x : CSM α × Vec α × Nat) : Option (Vec α) → CSM α × Vec α × Option (Vec α) × Nat
  | none => (x.1, x.2.1, none, x.2.2)
  | some t0 =>
    if t0.dim < x.2.2 then (x.1, x.2.1, some (t0.setDim x.2.2), x.2.2)
    else if x.2.2 < t0.dim then (x.1.setDim t0.dim t0.dim, x.2.1.setDim t0.dim, some t0, t0.dim)
    else (x.1, x.2.1, some t0, x.2.2)

/-- `true` = `compute` answers 400 for `alpha` outside [0,1] or `epsilon` outside (0,1] -/
def guardA (r : ComputeReq α) : Bool :=
  !(match r.alpha with | some a => !(lt a zero || lt one a) | none => true) ||
   !(match r.epsilon with | some e => !(le e zero || lt one e) | none => true)

/-- `true` = one of the iteration options is below its minimum (0, 0, 0, 1, 1) -/
def guardB (r : ComputeReq α) : Bool :=
  optBad r.flatTail 0 || optBad r.numLeaders 0 || optBad r.maxIterations 0 ||
    optBad r.minIterations 1 || optBad r.checkFreq 1

/-- `compute`: the defaults of `alpha`, `epsilon`; `ExtractDistrust`; the canonicalisations -/
def finish (k : Consts α) (r : ComputeReq α) (x : CSM α × Vec α × Option (Vec α) × Nat) :
    Option (Effective α) :=
  let a := r.alpha.getD k.half
  let e := r.epsilon.getD (div k.epsNum (ofNat x.2.2.2))
  let p3 := canonicalizeTrustVector x.2.1
  let t3 := x.2.2.1.map canonicalizeTrustVector
  match extractDistrust x.1 with
  | .error _ => none
  | .ok (c3, d3) =>
    match canonicalizeLocalTrust c3 (some p3), canonicalizeLocalTrust d3 none with
    | .ok c4, .ok d4 =>
      some { c := c4, p := p3, t0 := t3, discounts := d4, a := a, e := e,
             opts := { t0 := t3, flatTail := (r.flatTail.getD 0).toNat,
                       numLeaders := (r.numLeaders.getD 0).toNat,
                       maxIterations := r.maxIterations, minIterations := r.minIterations,
                       checkFreq := r.checkFreq } }
    | _, _ => none

/-- stated on the bare `match` so that the gRPC front-end, which has the same test, can use it -/
theorem paramsOK_false {al ep : Option α} :
    ((∃ a, al = some a ∧ (lt a zero = true ∨ lt one a = true)) ∨
      ∃ e, ep = some e ∧ (le e zero = true ∨ lt one e = true)) →
    ((match al with | some a => !(lt a zero || lt one a) | none => true) &&
      (match ep with | some e => !(le e zero || lt one e) | none => true)) = false := by
  intro h
  rcases h with ⟨a, rfl, hb | hb⟩ | ⟨e, rfl, hb | hb⟩ <;>
    simp only [hb, Bool.or_true, Bool.true_or, Bool.not_true, Bool.false_and, Bool.and_false]

theorem guardA_of_bad {r : ComputeReq α}
    (h : (∃ a, r.alpha = some a ∧ (lt a zero = true ∨ lt one a = true)) ∨
      ∃ e, r.epsilon = some e ∧ (le e zero = true ∨ lt one e = true)) :
    guardA r = true := by
  unfold guardA
  rw [← Bool.not_and]
  exact congrArg (!·) (paramsOK_false h)

theorem optBad_of_lt {o : Option Int} {lo x : Int} (ho : o = some x) (hx : x < lo) :
    optBad o lo = true := by
  subst ho
  exact decide_eq_true hx

omit [Scalar α] in
theorem guardB_of_bad {r : ComputeReq α}
    (h : (∃ x, r.flatTail = some x ∧ x < 0) ∨ (∃ x, r.numLeaders = some x ∧ x < 0) ∨
      (∃ x, r.maxIterations = some x ∧ x < 0) ∨ (∃ x, r.minIterations = some x ∧ x < 1) ∨
      (∃ x, r.checkFreq = some x ∧ x < 1)) : guardB r = true := by
  unfold guardB
  rcases h with ⟨x, hr, hx⟩ | ⟨x, hr, hx⟩ | ⟨x, hr, hx⟩ | ⟨x, hr, hx⟩ | ⟨x, hr, hx⟩
  all_goals simp only [optBad_of_lt hr hx, Bool.or_true, Bool.true_or]

theorem finish_some {k : Consts α} {r : ComputeReq α} {x : CSM α × Vec α × Option (Vec α) × Nat}
    {eff : Effective α} (h : finish k r x = some eff) :
    ∃ c3 d3, extractDistrust x.1 = .ok (c3, d3) ∧
      canonicalizeLocalTrust c3 (some (canonicalizeTrustVector x.2.1)) = .ok eff.c ∧
      canonicalizeLocalTrust d3 none = .ok eff.discounts ∧
      eff.p = canonicalizeTrustVector x.2.1 ∧ eff.t0 = x.2.2.1.map canonicalizeTrustVector ∧
      eff.opts.t0 = eff.t0 ∧ eff.opts.maxIterations = r.maxIterations ∧
      eff.opts.minIterations = r.minIterations ∧ eff.opts.checkFreq = r.checkFreq ∧
      eff.opts.resultDim = none ∧ eff.a = r.alpha.getD k.half := by
  unfold finish at h
  simp only at h
  split at h
  · cases h
  · rename_i c3 d3 hx
    split at h
    · rename_i c4 d4 h4 h5
      cases h
      exact ⟨c3, d3, hx, h4, h5, rfl, rfl, rfl, rfl, rfl, rfl, rfl, rfl⟩
    · cases h

variable (k : Consts α) (s : Store α) (r : ComputeReq α)

theorem prepare_eq :
    prepare k s r =
      match loadMatrix s r.localTrust with
      | none => none
      | some c0 =>
        match loadOptVec r.preTrust with
        | none => none
        | some pOpt =>
          match loadOptVec r.initialTrust with
          | none => none
          | some tOpt =>
            if guardA r then none else if guardB r then none
            else finish k r (alignInit (alignPre c0 pOpt) tOpt) :=
  rfl

variable {k s r}

theorem loadOptVec_eq_none_iff {o : Option (VectorRef α)} :
    loadOptVec o = none ↔ ∃ ref, o = some ref ∧ loadVector ref = none := by
  cases o with
  | none => exact ⟨nofun, nofun⟩
  | some ref =>
    rw [loadOptVec, Option.map_eq_none_iff]
    exact ⟨fun h => ⟨ref, rfl, h⟩, fun ⟨_, h1, h2⟩ => Option.some.inj h1 ▸ h2⟩

theorem prepare_eq_some_iff {eff : Effective α} :
    prepare k s r = some eff ↔
      ∃ c0 pOpt tOpt, loadMatrix s r.localTrust = some c0 ∧ loadOptVec r.preTrust = some pOpt ∧
        loadOptVec r.initialTrust = some tOpt ∧ guardA r = false ∧ guardB r = false ∧
        finish k r (alignInit (alignPre c0 pOpt) tOpt) = some eff := by
  rw [prepare_eq]
  constructor
  · intro h
    cases h1 : loadMatrix s r.localTrust with
    | none => rw [h1] at h; cases h
    | some c0 =>
      cases h2 : loadOptVec r.preTrust with
      | none => rw [h1, h2] at h; cases h
      | some pOpt =>
        cases h3 : loadOptVec r.initialTrust with
        | none => rw [h1, h2, h3] at h; cases h
        | some tOpt =>
          cases hA : guardA r with
          | true => rw [h1, h2, h3, hA] at h; cases h
          | false =>
            cases hB : guardB r with
            | true => rw [h1, h2, h3, hA, hB] at h; cases h
            | false =>
              rw [h1, h2, h3, hA, hB] at h
              exact ⟨c0, pOpt, tOpt, rfl, rfl, rfl, rfl, rfl, h⟩
  · rintro ⟨c0, pOpt, tOpt, h1, h2, h3, hA, hB, h⟩
    rw [h1, h2, h3, hA, hB]
    exact h

theorem prepare_eq_none_of
    (h : loadMatrix s r.localTrust = none ∨ loadOptVec r.preTrust = none ∨
      loadOptVec r.initialTrust = none ∨ guardA r = true ∨ guardB r = true) :
    prepare k s r = none := by
  refine Option.eq_none_iff_forall_ne_some.mpr fun eff he => ?_
  obtain ⟨c0, pOpt, tOpt, h1, h2, h3, hA, hB, _⟩ := prepare_eq_some_iff.mp he
  rcases h with h | h | h | h | h
  · rw [h] at h1; cases h1
  · rw [h] at h2; cases h2
  · rw [h] at h3; cases h3
  · rw [h] at hA; cases hA
  · rw [h] at hB; cases hB

/-- the converse of `prepare_eq_none_of`; `hfin` holds where the loaders deliver square matrices
    (`finish_isSome` in OapiLemmas) -/
theorem prepare_eq_none_iff
    (hfin : ∀ c0 pOpt tOpt, loadMatrix s r.localTrust = some c0 →
      finish k r (alignInit (alignPre c0 pOpt) tOpt) ≠ none) :
    prepare k s r = none ↔
      loadMatrix s r.localTrust = none ∨ loadOptVec r.preTrust = none ∨
        loadOptVec r.initialTrust = none ∨ guardA r = true ∨ guardB r = true := by
  refine ⟨fun h => ?_, prepare_eq_none_of⟩
  cases h1 : loadMatrix s r.localTrust with
  | none => exact .inl rfl
  | some c0 =>
    cases h2 : loadOptVec r.preTrust with
    | none => exact .inr (.inl rfl)
    | some pOpt =>
      cases h3 : loadOptVec r.initialTrust with
      | none => exact .inr (.inr (.inl rfl))
      | some tOpt =>
        cases hA : guardA r with
        | true => exact .inr (.inr (.inr (.inl rfl)))
        | false =>
          cases hB : guardB r with
          | true => exact .inr (.inr (.inr (.inr rfl)))
          | false =>
            rw [prepare_eq, h1, h2, h3, hA, hB] at h
            exact absurd h (hfin c0 pOpt tOpt h1)

theorem prepare_congr {s' : Store α} {lt' : MatrixRef α}
    (h : loadMatrix s r.localTrust = loadMatrix s' lt') :
    prepare k s r = prepare k s' { r with localTrust := lt' } := by
  rw [prepare_eq, prepare_eq, h]
  rfl

/-- the endpoints see store and request only through `prepare` -/
theorem endpoints_congr {s' : Store α} {r' : ComputeReq α} (h : prepare k s r = prepare k s' r')
    (fuel : Nat) :
    computeCore fuel k s r = computeCore fuel k s' r' ∧
    handleCompute fuel k s r = handleCompute fuel k s' r' ∧
    handleComputeWithStats fuel k s r = handleComputeWithStats fuel k s' r' := by
  have hc : computeCore fuel k s r = computeCore fuel k s' r' := by
    unfold computeCore
    rw [h]
  refine ⟨hc, ?_, ?_⟩
  · unfold handleCompute
    rw [hc]
  · unfold handleComputeWithStats
    rw [hc]

theorem badRequest_of_prepare_none (fuel : Nat) (h : prepare k s r = none) :
    handleCompute fuel k s r = .badRequest ∧
    handleComputeWithStats fuel k s r = .badRequest := by
  unfold handleCompute handleComputeWithStats computeCore
  rw [h]
  exact ⟨rfl, rfl⟩

theorem computeCore_ok {fuel : Nat} {out : ComputeOut α} (h : computeCore fuel k s r = .ok out) :
    ∃ eff res, prepare k s r = some eff ∧
      compute fuel eff.c eff.p eff.a eff.e eff.opts = .ok res ∧
      out = { scores := discountTrustVector res.t eff.discounts, stats := res.stats,
              iters := res.iters } := by
  unfold computeCore at h
  cases hp : prepare k s r with
  | none =>
    rw [hp] at h
    cases h
  | some eff =>
    rw [hp] at h
    dsimp only at h
    cases hc : compute fuel eff.c eff.p eff.a eff.e eff.opts with
    | error e =>
      rw [hc] at h
      cases h
    | ok res =>
      rw [hc] at h
      cases h
      exact ⟨eff, res, rfl, hc, rfl⟩

end stages

end EtVerif.OapiL
