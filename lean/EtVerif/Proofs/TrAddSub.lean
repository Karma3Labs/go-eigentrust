/-
  Refinement of the translated `Vector.AddVec` / `Vector.SubVec` (Gen/Translated.lean: one merge loop over two sorted
  entry slices, `zip_loop`) to the model's `addEntries` / `subEntries`, and the length bounds of the two merges.
-/
import EtVerif.Proofs.TrBridge
namespace EtVerif.Tr
open EtVerif EtVerif.GoSem EtVerif.Gen Scalar
variable {α : Type} [Scalar α]

@[simp] theorem addEntries_nil_right (a : List (Entry α)) : addEntries a [] = a := by
  cases a <;> simp [addEntries]

@[simp] theorem subEntries_nil_right (a : List (Entry α)) : subEntries a [] = a := by
  cases a <;> simp [subEntries, negEntries]

theorem addEntries_length_le (a b : List (Entry α)) : (addEntries a b).length ≤ a.length + b.length := by
  fun_induction addEntries a b with
  | case1 e2 => exact Nat.le_add_left _ _
  | case2 e1 _ => exact Nat.le_add_right _ _
  | case3 a e1 b e2 h ih => exact Nat.succ_le_succ (Nat.le_trans ih (Nat.le_of_eq (Nat.succ_add e1.length e2.length).symm))
  | case4 a e1 b e2 h1 h2 ih => exact Nat.succ_le_succ ih
  | case5 a e1 b e2 h1 h2 ih => exact Nat.succ_le_succ (Nat.le_trans ih (Nat.add_le_add_right (Nat.le_succ _) _))

theorem subEntries_length_le (a b : List (Entry α)) : (subEntries a b).length ≤ a.length + b.length := by
  fun_induction subEntries a b with
  | case1 e2 => exact (List.length_map _).symm ▸ Nat.le_add_left _ _
  | case2 e1 _ => exact Nat.le_add_right _ _
  | case3 a e1 b e2 h ih => exact Nat.succ_le_succ (Nat.le_trans ih (Nat.le_of_eq (Nat.succ_add e1.length e2.length).symm))
  | case4 a e1 b e2 h1 h2 ih => exact Nat.succ_le_succ ih
  | case5 a e1 b e2 h1 h2 ih => exact Nat.succ_le_succ (Nat.le_trans ih (Nat.add_le_add_right (Nat.le_succ _) _))

/-- The merge loop shared by `Vector.AddVec` and `Vector.SubVec`, for any state type: two cursors `e1`, `e2`
    consumed from the front, an output `out` appended to, and a model merge `f` that emits one entry per
    iteration (`hbody`).  `keep` is whatever else of the state the caller wants to know unchanged. -/
theorem zip_loop {σ ρ γ : Type} {l : Nat} {cond : σ → R Bool} {body : Stm σ ρ} (e1 e2 out : σ → List (GEntry α))
    (keep : σ → γ) (f : List (Entry α) → List (Entry α) → List (Entry α)) (hnil : f [] [] = [])
    (hcond : ∀ s, cond s = .ok (decide (goLen (e1 s) > 0) || decide (goLen (e2 s) > 0)))
    (hbody : ∀ s a b, e1 s = toGs a → e2 s = toGs b → 0 < a.length + b.length →
      ∃ x a' b' s1, body s = .ok (s1, .next) ∧ e1 s1 = toGs a' ∧ e2 s1 = toGs b' ∧
        out s1 = out s ++ [toG x] ∧ keep s1 = keep s ∧
        f a b = x :: f a' b' ∧ a'.length + b'.length < a.length + b.length)
    (n : Nat) (s : σ) (a b : List (Entry α)) (h1 : e1 s = toGs a) (h2 : e2 s = toGs b)
    (hn : a.length + b.length ≤ n) :
    ∃ s', Stm.loop l cond body Stm.skip n s = .ok (s', .next) ∧ out s' = out s ++ toGs (f a b) ∧
      keep s' = keep s := by
  replace hcond : ∀ s, cond s = .ok (decide (0 < (e1 s).length + (e2 s).length)) := by
    intro s
    rw [hcond s, Except.ok.injEq, Bool.eq_iff_iff]
    unfold goLen
    simp only [Bool.or_eq_true, decide_eq_true_iff]
    constructor <;> intro h <;> omega
  obtain ⟨s', _, hl, ⟨a', b', f1, f2, f3, f4, f5⟩, hc⟩ := loop_inv (l := l) (cond := cond) (body := body)
    (post := Stm.skip)
    (fun m t => ∃ a' b', e1 t = toGs a' ∧ e2 t = toGs b' ∧
      out t ++ toGs (f a' b') = out s ++ toGs (f a b) ∧ keep t = keep s ∧ a'.length + b'.length = m)
    (fun m t ⟨a', b', f1, f2, f3, f4, f5⟩ => by
      rw [hcond t, f1, f2, toGs_length, toGs_length, f5]
      by_cases hne : 0 < m
      · obtain ⟨x, a'', b'', t1, g0, g1, g2, g3, g4, g5, g6⟩ := hbody t a' b' f1 f2 (f5 ▸ hne)
        refine Or.inr ⟨t1, _, by rw [decide_eq_true hne], by rw [seq_next g0]; rfl,
          ⟨a'', b'', g1, g2, ?_, g4.trans f4, rfl⟩, f5 ▸ g6⟩
        rw [g3, ← f3, g5, toGs_cons, List.append_assoc, List.singleton_append]
      · exact Or.inl (by rw [decide_eq_false hne]))
    n _ s ⟨a, b, h1, h2, rfl, rfl, rfl⟩ hn
  rw [hcond s', f1, f2, toGs_length, toGs_length] at hc
  have hz : a'.length + b'.length = 0 := Nat.eq_zero_of_not_pos (of_decide_eq_false (Except.ok.inj hc))
  rw [List.eq_nil_of_length_eq_zero (Nat.eq_zero_of_add_eq_zero_right hz),
    List.eq_nil_of_length_eq_zero (Nat.eq_zero_of_add_eq_zero_left hz), hnil, toGs_nil,
    List.append_nil] at f3
  exact ⟨s', hl, f3, f4⟩

theorem AddVec_body_step (capO : Nat → Int) (fuel : Nat) (s : Vector_AddVec.St α) (a b : List (Entry α))
    (h1 : s.e1 = toGs a) (h2 : s.e2 = toGs b) (hne : 0 < a.length + b.length) :
    ∃ (x : Entry α) (a' b' : List (Entry α)) (s1 : Vector_AddVec.St α),
      Vector_AddVec.loop1_body capO fuel s = .ok (s1, .next) ∧
      s1.e1 = toGs a' ∧ s1.e2 = toGs b' ∧ s1.entries = s.entries ++ [toG x] ∧
      (s1.v, s1.v1) = (s.v, s.v1) ∧
      addEntries a b = x :: addEntries a' b' ∧ a'.length + b'.length < a.length + b.length := by
  obtain ⟨v, v1, v2, e1, e2, entries, newEntries, e⟩ := s
  simp only at h1 h2
  subst h1 h2
  -- the capacity check at the head of the body can only change `newEntries`
  rw [Vector_AddVec.loop1_body, seq_next (s1 := ⟨v, v1, v2, toGs a, toGs b, entries,
    if (entries.length : Int) = capO entries.length then [] else newEntries, e⟩)]
  · cases a with
    | nil =>
      cases b with
      | nil => simp at hne
      | cons y b =>
        refine ⟨y, [], b, ?_⟩
        simp [go_run, goSlice_tail', addEntries]
    | cons x a =>
      cases b with
      | nil =>
        refine ⟨x, a, [], ?_⟩
        simp [go_run, goSlice_tail', natCast_succ_ne_zero]
      | cons y b =>
        by_cases hxy : x.idx < y.idx
        · refine ⟨x, a, y :: b, ?_⟩
          simp [go_run, goSlice_tail', natCast_succ_ne_zero, addEntries, hxy]
        · by_cases hyx : y.idx < x.idx
          · refine ⟨y, x :: a, b, ?_⟩
            simp [go_run, goSlice_tail', natCast_succ_ne_zero, addEntries, hxy, hyx]
          · refine ⟨⟨x.idx, add x.val y.val⟩, a, b, ?_⟩
            simp [go_run, goSlice_tail', natCast_succ_ne_zero, addEntries, hxy, hyx, toG]
            omega
  · by_cases hcap : (entries.length : Int) = capO entries.length <;>
      simp [go_run, hcap]

theorem AddVec_loop (capO : Nat → Int) (fuel n : Nat) (a b : List (Entry α)) (s : Vector_AddVec.St α)
    (h1 : s.e1 = toGs a) (h2 : s.e2 = toGs b) (hn : a.length + b.length ≤ n) :
    ∃ s', Stm.loop 1 (Vector_AddVec.loop1_cond capO fuel) (Vector_AddVec.loop1_body capO fuel)
        (Vector_AddVec.loop1_post capO fuel) n s = .ok (s', .next) ∧
      s'.entries = s.entries ++ toGs (addEntries a b) ∧ (s'.v, s'.v1) = (s.v, s.v1) :=
  zip_loop (cond := Vector_AddVec.loop1_cond capO fuel) (·.e1) (·.e2) (·.entries) (fun s => (s.v, s.v1))
    addEntries (addEntries_nil_right []) (fun _ => rfl) (AddVec_body_step capO fuel) n s a b h1 h2 hn

/-- The translated Go `Vector.AddVec` computes exactly the model's `Vec.addVec`,
    for every capacity behaviour `capO`, every previous receiver content `w`, every pair of entry lists
    (sorted or not), and every fuel ≥ the total number of entries (so the loop terminates). -/
theorem Vector_AddVec_refines (capO : Nat → Int) (fuel : Nat) (w : GVector α) (v1 v2 : Vec α)
    (hf : v1.entries.length + v2.entries.length ≤ fuel) :
    (Vector_AddVec capO fuel w (toGV v1) (toGV v2)).map (fun r => (r.1.v, r.2)) =
      (match v1.addVec v2 with
       | .ok r => .ok (toGV r, none)
       | .error _ => .ok (w, some ⟨"ErrDimensionMismatch"⟩)) := by
  by_cases hd : v1.dim = v2.dim
  · obtain ⟨s', l1, l2, l3⟩ := AddVec_loop capO fuel fuel v1.entries v2.entries
      { v := w, v1 := toGV v1, v2 := toGV v2, e1 := toGs v1.entries, e2 := toGs v2.entries,
        entries := [], newEntries := [], e := GEntry.zero } rfl rfl hf
    have hd' : (v1.dim : Int) = (v2.dim : Int) := by omega
    simp only [Vector_AddVec, Vector_AddVec.body, Stm.run, go_run, toGV_Dim, toGV_Entries, hd', decide_true,
      Bool.not_true, l1, Except.map, Vec.addVec]
    simp [l2, (Prod.mk.inj l3).2, hd, toGV]
  · have hd' : ¬ ((v1.dim : Int) = (v2.dim : Int)) := by omega
    simp [Vector_AddVec, Vector_AddVec.body, Stm.run, go_run, hd, hd', Except.map, Vec.addVec]

theorem SubVec_body_step (capO : Nat → Int) (fuel : Nat) (s : Vector_SubVec.St α) (a b : List (Entry α))
    (h1 : s.e1 = toGs a) (h2 : s.e2 = toGs b) (hne : 0 < a.length + b.length) :
    ∃ (x : Entry α) (a' b' : List (Entry α)) (s1 : Vector_SubVec.St α),
      Vector_SubVec.loop1_body capO fuel s = .ok (s1, .next) ∧
      s1.e1 = toGs a' ∧ s1.e2 = toGs b' ∧ s1.entries = s.entries ++ [toG x] ∧
      (s1.v, s1.v1) = (s.v, s.v1) ∧
      subEntries a b = x :: subEntries a' b' ∧ a'.length + b'.length < a.length + b.length := by
  obtain ⟨v, v1, v2, e1, e2, entries, newEntries, e⟩ := s
  simp only at h1 h2
  subst h1 h2
  rw [Vector_SubVec.loop1_body, seq_next (s1 := ⟨v, v1, v2, toGs a, toGs b, entries,
    if (entries.length : Int) = capO entries.length then [] else newEntries, e⟩)]
  · cases a with
    | nil =>
      cases b with
      | nil => simp at hne
      | cons y b =>
        refine ⟨⟨y.idx, neg y.val⟩, [], b, ?_⟩
        simp [go_run, goSlice_tail', subEntries, negEntries, toG]
    | cons x a =>
      cases b with
      | nil =>
        refine ⟨x, a, [], ?_⟩
        simp [go_run, goSlice_tail', natCast_succ_ne_zero]
      | cons y b =>
        by_cases hxy : x.idx < y.idx
        · refine ⟨x, a, y :: b, ?_⟩
          simp [go_run, goSlice_tail', natCast_succ_ne_zero, subEntries, hxy]
        · by_cases hyx : y.idx < x.idx
          · refine ⟨⟨y.idx, neg y.val⟩, x :: a, b, ?_⟩
            simp [go_run, goSlice_tail', natCast_succ_ne_zero, subEntries, hxy, hyx, toG]
          · refine ⟨⟨x.idx, sub x.val y.val⟩, a, b, ?_⟩
            simp [go_run, goSlice_tail', natCast_succ_ne_zero, subEntries, hxy, hyx, toG]
            omega
  · by_cases hcap : (entries.length : Int) = capO entries.length <;>
      simp [go_run, hcap]

theorem SubVec_loop (capO : Nat → Int) (fuel n : Nat) (a b : List (Entry α)) (s : Vector_SubVec.St α)
    (h1 : s.e1 = toGs a) (h2 : s.e2 = toGs b) (hn : a.length + b.length ≤ n) :
    ∃ s', Stm.loop 1 (Vector_SubVec.loop1_cond capO fuel) (Vector_SubVec.loop1_body capO fuel)
        (Vector_SubVec.loop1_post capO fuel) n s = .ok (s', .next) ∧
      s'.entries = s.entries ++ toGs (subEntries a b) ∧ (s'.v, s'.v1) = (s.v, s.v1) :=
  zip_loop (cond := Vector_SubVec.loop1_cond capO fuel) (·.e1) (·.e2) (·.entries) (fun s => (s.v, s.v1))
    subEntries (subEntries_nil_right []) (fun _ => rfl) (SubVec_body_step capO fuel) n s a b h1 h2 hn

/-- The translated Go `Vector.SubVec` computes exactly the model's `Vec.subVec`,
    for every capacity behaviour `capO`, every previous receiver content `w`, every pair of entry lists
    (sorted or not), and every fuel ≥ the total number of entries (so the loop terminates). -/
theorem Vector_SubVec_refines (capO : Nat → Int) (fuel : Nat) (w : GVector α) (v1 v2 : Vec α)
    (hf : v1.entries.length + v2.entries.length ≤ fuel) :
    (Vector_SubVec capO fuel w (toGV v1) (toGV v2)).map (fun r => (r.1.v, r.2)) =
      (match v1.subVec v2 with
       | .ok r => .ok (toGV r, none)
       | .error _ => .ok (w, some ⟨"ErrDimensionMismatch"⟩)) := by
  by_cases hd : v1.dim = v2.dim
  · obtain ⟨s', l1, l2, l3⟩ := SubVec_loop capO fuel fuel v1.entries v2.entries
      { v := w, v1 := toGV v1, v2 := toGV v2, e1 := toGs v1.entries, e2 := toGs v2.entries,
        entries := [], newEntries := [], e := GEntry.zero } rfl rfl hf
    have hd' : (v1.dim : Int) = (v2.dim : Int) := by omega
    simp only [Vector_SubVec, Vector_SubVec.body, Stm.run, go_run, toGV_Dim, toGV_Entries, hd', decide_true,
      Bool.not_true, l1, Except.map, Vec.subVec]
    simp [l2, (Prod.mk.inj l3).2, hd, toGV]
  · have hd' : ¬ ((v1.dim : Int) = (v2.dim : Int)) := by omega
    simp [Vector_SubVec, Vector_SubVec.body, Stm.run, go_run, hd, hd', Except.map, Vec.subVec]

end EtVerif.Tr
