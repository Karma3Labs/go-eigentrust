/-
  KBN summation, element sum, squared norm, dot product and matrix-vector product of the
  sparse model over an ordered field, related to dense finite sums.
-/
import EtVerif.Proofs.Vec
import Mathlib.Algebra.BigOperators.Group.Finset.Basic
import Mathlib.Algebra.BigOperators.Group.Finset.Piecewise
import Mathlib.Algebra.BigOperators.Ring.Finset

namespace EtVerif
open Scalar

variable {K : Type} [Field K] [LinearOrder K]

/-! ### KBN summation is exact in a field -/

theorem KBN.push_sum (s : KBN K) (v : K) : (s.push v).sum = s.sum + v := rfl

theorem KBN.push_comp (s : KBN K) (v : K) : (s.push v).comp = s.comp := by
  simp only [KBN.push, s_lt, s_abs, s_add, s_sub]
  split <;> ring

theorem KBN.foldl_push (xs : List K) (s : KBN K) :
    (xs.foldl KBN.push s).sum = s.sum + xs.sum ∧ (xs.foldl KBN.push s).comp = s.comp := by
  induction xs generalizing s with
  | nil => simp
  | cons x xs ih =>
    rw [List.foldl_cons, List.sum_cons]
    obtain ⟨h1, h2⟩ := ih (s.push x)
    rw [h1, h2, KBN.push_sum, KBN.push_comp]
    exact ⟨by ring, rfl⟩

theorem kbnSum_eq_sum (xs : List K) : kbnSum xs = xs.sum := by
  unfold kbnSum KBN.result
  obtain ⟨h1, h2⟩ := KBN.foldl_push xs (KBN.init : KBN K)
  rw [h1, h2]
  simp [KBN.init]

/-! ### weighted dense sums -/

/-- No sortedness needed: `denE` adds up duplicates. -/
theorem sum_denE_mul {dim : Nat} {es : List (Entry K)} (h : ∀ e ∈ es, e.idx < dim)
    (g : Nat → K) :
    ∑ i ∈ Finset.range dim, denE es i * g i = (es.map fun e => e.val * g e.idx).sum := by
  induction es with
  | nil => simp
  | cons e es ih =>
    have he : e.idx < dim := h e (by simp)
    have hstep : ∀ i, denE (e :: es) i * g i
        = (if e.idx = i then e.val * g i else 0) + denE es i * g i := by
      intro i
      rw [denE_cons]
      split
      · ring
      · ring
    simp only [hstep, Finset.sum_add_distrib, Finset.sum_ite_eq, Finset.mem_range, he, if_true,
      List.map_cons, List.sum_cons]
    rw [ih (fun x hx => h x (by simp [hx]))]

theorem sum_denE {dim : Nat} {es : List (Entry K)} (h : ∀ e ∈ es, e.idx < dim) :
    ∑ i ∈ Finset.range dim, denE es i = (es.map (·.val)).sum := by
  have := sum_denE_mul h (fun _ => (1 : K))
  simpa using this

theorem sum_denE_sq {dim : Nat} {es : List (Entry K)} (h : WF dim es) :
    ∑ i ∈ Finset.range dim, (denE es i) ^ 2 = (es.map fun e => e.val * e.val).sum := by
  have h1 : ∑ i ∈ Finset.range dim, (denE es i) ^ 2
      = ∑ i ∈ Finset.range dim, denE es i * denE es i :=
    Finset.sum_congr rfl (fun i _ => by ring)
  rw [h1, sum_denE_mul h.2 (denE es)]
  congr 1
  apply List.map_congr_left
  intro e he
  rw [denE_of_mem h.1 he]

/-! ### VecDot -/

theorem denE_cons_of_lt {b : Entry K} {es : List (Entry K)} {i : Nat} (h : b.idx < i) :
    denE (b :: es) i = denE es i :=
  denE_cons_of_ne (Nat.ne_of_lt h) es

theorem map_mul_denE_cons {b : Entry K} (e2 : List (Entry K)) {l : List (Entry K)}
    (h : ∀ x ∈ l, b.idx < x.idx) :
    (l.map fun x => x.val * denE (b :: e2) x.idx) = l.map fun x => x.val * denE e2 x.idx :=
  List.map_congr_left fun x hx => by rw [denE_cons_of_lt (h x hx)]

theorem sum_dotTerms {e1 e2 : List (Entry K)} (h1 : Sorted e1) (h2 : Sorted e2) :
    (dotTerms e1 e2).sum = (e1.map fun a => a.val * denE e2 a.idx).sum := by
  fun_induction dotTerms e1 e2 with
  | case1 e2 => rfl
  | case2 e1 _ =>
    have : (e1.map fun a => a.val * denE ([] : List (Entry K)) a.idx) = e1.map fun _ => (0 : K) :=
      List.map_congr_left fun a _ => mul_zero _
    rw [this]; simp
  | case3 a e1 b e2 hlt ih =>
    rw [ih h1 h2.tail, map_mul_denE_cons e2
      (List.forall_mem_cons.mpr ⟨hlt, fun x hx => hlt.trans (h1.head_lt x hx)⟩)]
  | case4 a e1 b e2 hlt heq ih =>
    rw [List.sum_cons, ih h1 h2.tail, List.map_cons, List.sum_cons, List.map_cons, List.sum_cons,
      map_mul_denE_cons e2 (fun x hx => heq ▸ h1.head_lt x hx), denE_cons, if_pos heq, s_mul,
      mul_add, add_assoc]
  | case5 a e1 b e2 hlt hne ih =>
    rw [ih h1.tail h2, List.map_cons, List.sum_cons, denE_of_lt_head h2 (by omega), mul_zero,
      zero_add]

theorem vecDot_eq_list_sum {e1 e2 : List (Entry K)} (h1 : Sorted e1) (h2 : Sorted e2) :
    vecDot e1 e2 = (e1.map fun a => a.val * denE e2 a.idx).sum := by
  unfold vecDot
  rw [kbnSum_eq_sum, sum_dotTerms h1 h2]

theorem vecDot_eq_finset_sum {dim : Nat} {e1 e2 : List (Entry K)} (h1 : WF dim e1)
    (h2 : Sorted e2) :
    vecDot e1 e2 = ∑ i ∈ Finset.range dim, denE e1 i * denE e2 i := by
  rw [vecDot_eq_list_sum h1.1 h2, sum_denE_mul h1.2 (denE e2)]

theorem vecDot_nil_left (v : List (Entry K)) : vecDot ([] : List (Entry K)) v = 0 := by
  unfold vecDot
  rw [kbnSum_eq_sum]
  simp [dotTerms]

/-! ### MulVec -/

/-- the per-row step of `mulVecEntries`, named because the model's `fun (r, i) => …` is a `match`
    on the pair that `rw` cannot see through (`mulVecEntries_eq` is `rfl`) -/
def mulVecStep (v : List (Entry K)) : Row K × Nat → Option (Entry K) := fun (r, i) =>
  let p := vecDot r v
  if Scalar.isZero p then none else some ⟨i, p⟩

theorem mulVecEntries_eq (rows : List (Row K)) (v : List (Entry K)) :
    mulVecEntries rows v = (rows.zipIdx 0).filterMap (mulVecStep v) := rfl

theorem mulVecStep_eq (v : List (Entry K)) (r : Row K) (i : Nat) :
    mulVecStep v (r, i) = if vecDot r v = 0 then none else some ⟨i, vecDot r v⟩ := by
  simp [mulVecStep]

theorem mulVecStep_eq_some {v : List (Entry K)} {r : Row K} {i : Nat} {x : Entry K} :
    mulVecStep v (r, i) = some x ↔ vecDot r v ≠ 0 ∧ x = ⟨i, vecDot r v⟩ := by
  rw [mulVecStep_eq]
  by_cases hz : vecDot r v = 0
  · rw [if_pos hz]; exact ⟨(fun h => nomatch h), fun h => absurd hz h.1⟩
  · rw [if_neg hz, Option.some.injEq]; exact ⟨fun h => ⟨hz, h.symm⟩, fun h => h.2.symm⟩

theorem mem_mulVecEntries_iff {rows : List (Row K)} {v : List (Entry K)} {x : Entry K} :
    x ∈ mulVecEntries rows v ↔
      x.idx < rows.length ∧ x.val = vecDot (rows.getD x.idx []) v ∧ x.val ≠ 0 := by
  rw [mulVecEntries_eq, List.mem_filterMap]
  constructor
  · rintro ⟨⟨r, i⟩, hri, hs⟩
    obtain ⟨hz, rfl⟩ := mulVecStep_eq_some.mp hs
    have hr : rows[i]? = some r := List.mk_mem_zipIdx_iff_getElem?.mp hri
    have hg : rows.getD i [] = r := by rw [List.getD_eq_getElem?_getD, hr]; rfl
    exact ⟨(List.getElem?_eq_some_iff.mp hr).1, congrArg (vecDot · v) hg.symm, hz⟩
  · rintro ⟨hi, hv, hz⟩
    refine ⟨(rows.getD x.idx [], x.idx), List.mk_mem_zipIdx_iff_getElem?.mpr ?_,
      mulVecStep_eq_some.mpr ⟨hv ▸ hz, ?_⟩⟩
    · rw [List.getD_eq_getElem?_getD, List.getElem?_eq_getElem hi]; rfl
    · rw [← hv]

theorem mem_mulVecEntries {rows : List (Row K)} {v : List (Entry K)} {x : Entry K}
    (hx : x ∈ mulVecEntries rows v) :
    x.idx < rows.length ∧ x.val = vecDot (rows.getD x.idx []) v ∧ x.val ≠ 0 :=
  mem_mulVecEntries_iff.mp hx

theorem sorted_mulVec_aux (rows : List (Row K)) (v : List (Entry K)) (k : Nat) :
    Sorted ((rows.zipIdx k).filterMap (mulVecStep v)) := by
  induction rows generalizing k with
  | nil => exact Sorted.nil
  | cons r rs ih =>
    rw [List.zipIdx_cons, List.filterMap_cons, mulVecStep_eq]
    by_cases hz : vecDot r v = 0
    · simp only [hz, if_true]; exact ih (k + 1)
    · simp only [hz, if_false]
      refine Sorted.cons (fun x hx => ?_) (ih (k + 1))
      obtain ⟨⟨r', i⟩, hri, hs⟩ := List.mem_filterMap.mp hx
      obtain ⟨-, rfl⟩ := mulVecStep_eq_some.mp hs
      exact List.le_snd_of_mem_zipIdx hri

theorem sorted_mulVecEntries (rows : List (Row K)) (v : List (Entry K)) :
    Sorted (mulVecEntries rows v) := sorted_mulVec_aux rows v 0

/-- The list is sorted, so its dense value is read off from membership; beyond the table
    `getD` gives the empty row, whose dot product is `0`. -/
theorem den_mulVecEntries (rows : List (Row K)) (v : List (Entry K)) (i : Nat) :
    denE (mulVecEntries rows v) i = vecDot (rows.getD i []) v := by
  by_cases hz : vecDot (rows.getD i []) v = 0
  · rw [hz]
    refine denE_eq_zero_of_forall_ne fun e he hei => ?_
    obtain ⟨-, h2, h3⟩ := mem_mulVecEntries he
    exact h3 (h2.trans (hei ▸ hz))
  · have hi : i < rows.length := by
      by_contra hi
      rw [List.getD_eq_getElem?_getD, List.getElem?_eq_none (Nat.le_of_not_lt hi)] at hz
      exact hz (vecDot_nil_left v)
    exact denE_of_mem (sorted_mulVecEntries rows v)
      ((mem_mulVecEntries_iff (x := ⟨i, vecDot (rows.getD i []) v⟩)).mpr ⟨hi, rfl, hz⟩)

theorem wf_mulVecEntries (rows : List (Row K)) (v : List (Entry K)) :
    WF rows.length (mulVecEntries rows v) :=
  ⟨sorted_mulVecEntries rows v, fun _ hx => (mem_mulVecEntries hx).1⟩

theorem mulVec_ok_inv {α : Type} [Scalar α] {m : CSM α} {v r : Vec α} (h : mulVec m v = .ok r) :
    m.major = m.minor ∧ m.major = v.dim ∧ r = ⟨m.major, mulVecEntries m.rows v.entries⟩ := by
  unfold mulVec CSM.dim at h
  by_cases hsq : m.major = m.minor
  · by_cases hd : m.major = v.dim
    · have hd' : m.minor = v.dim := hsq ▸ hd
      simp [hsq, hd'] at h
      exact ⟨hsq, hd, by rw [← h, ← hd', hsq]⟩
    · have hd' : ¬ m.minor = v.dim := fun hc => hd (hsq.trans hc)
      simp [hsq, hd'] at h
  · simp [hsq] at h

omit [Field K] [LinearOrder K] in
theorem wf_getD {dim : Nat} {rows : List (Row K)} (h : ∀ r ∈ rows, WF dim r) (i : Nat) :
    WF dim (rows.getD i []) := by
  by_cases hi : i < rows.length
  · have : rows.getD i [] = rows[i] := by simp [List.getD_eq_getElem?_getD, hi]
    rw [this]; exact h _ (List.getElem_mem hi)
  · have : rows.getD i [] = [] := by
      simp [List.getD_eq_getElem?_getD, List.getElem?_eq_none (Nat.le_of_not_lt hi)]
    rw [this]; exact WF.nil dim

end EtVerif
