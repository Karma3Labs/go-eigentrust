/-
  For the termination bound C05a on the dense iteration `Dense.F`: the logarithmic iteration
  count, and the case `a = 1` (where `q = 1 - a = 0` and the logarithm is of no use).
-/
import EtVerif.Proofs.Dense
import Mathlib.Analysis.SpecialFunctions.Log.Basic

namespace EtVerif.Dense

open Finset

variable {n : ℕ}

/-- The logarithmic iteration bound: `q^N ≤ x` for `N = ⌈ln x / ln q⌉`, `0 < q < 1`
(dividing by `ln q < 0` turns `ln x / ln q ≤ N` into `N·ln q ≤ ln x`). -/
theorem pow_ceil_log_le {q x : ℝ} (hq0 : 0 < q) (hq1 : q < 1) (hx : 0 < x) :
    q ^ ⌈Real.log x / Real.log q⌉₊ ≤ x := by
  rw [← Real.log_le_log_iff (pow_pos hq0 _) hx, Real.log_pow,
    ← div_le_iff_of_neg (Real.log_neg hq0 hq1)]
  exact Nat.le_ceil _

theorem F_alpha_one (C : Fin n → Fin n → ℝ) (p : Fin n → ℝ) (t : Fin n → ℝ) :
    F C p 1 t = p := by
  funext j
  simp only [F, sub_self, zero_mul, zero_add, one_mul]

end EtVerif.Dense
