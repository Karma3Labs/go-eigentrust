/-
  Dense real model of the EigenTrust iteration  t ← (1-a)·Cᵀ t + a·p  on `Fin n → ℝ`
  and the analysis lemmas used by C01 (error bound at convergence) and
  C05a (termination bound).  Pure Mathlib real analysis / linear algebra; independent
  of the sparse model.

  Go reference (pkg/basic/eigentrust.go): the loop body of `Compute`,
  `t1.MulVec(ctx, ct, t1); t1.ScaleVec(1-a, t1); t1.AddVec(t1, ap)`, and
  `ConvergenceChecker.Update` / `Converged` (`d := td.Norm2()`, converged iff `d ≤ e`).
-/
import Mathlib.LinearAlgebra.FiniteDimensional.Basic
import Mathlib.Analysis.Real.Sqrt
import Mathlib.Algebra.Order.Chebyshev
import Mathlib.Algebra.Order.BigOperators.Ring.Finset
import Mathlib.Tactic.Ring
import Mathlib.Tactic.Linarith
import Mathlib.Tactic.NormNum

namespace EtVerif.Dense

open Finset

variable {n : ℕ}

/-- One iteration of the loop of `Compute`. -/
def F (C : Fin n → Fin n → ℝ) (p : Fin n → ℝ) (a : ℝ) (t : Fin n → ℝ) : Fin n → ℝ :=
  fun j => (1 - a) * ∑ i, C i j * t i + a * p j

noncomputable def l1 (x : Fin n → ℝ) : ℝ := ∑ i, |x i|

/-- `(*Vector).Norm2` over the reals -/
noncomputable def l2 (x : Fin n → ℝ) : ℝ := Real.sqrt (∑ i, (x i) ^ 2)

/-! ### Elementary facts on `l1`, `l2` -/

theorem l1_nonneg (x : Fin n → ℝ) : 0 ≤ l1 x :=
  Finset.sum_nonneg fun _ _ => abs_nonneg _

theorem l2_nonneg (x : Fin n → ℝ) : 0 ≤ l2 x := Real.sqrt_nonneg _

theorem l1_eq_zero {x : Fin n → ℝ} (h : l1 x = 0) : x = 0 :=
  funext fun i => abs_eq_zero.1
    ((sum_eq_zero_iff_of_nonneg fun i _ => abs_nonneg (x i)).1 h i (mem_univ i))

theorem l1_le_zero {x : Fin n → ℝ} (h : l1 x ≤ 0) : x = 0 :=
  l1_eq_zero (le_antisymm h (l1_nonneg x))

theorem l1_add_le (x y : Fin n → ℝ) : l1 (x + y) ≤ l1 x + l1 y := by
  unfold l1
  rw [← Finset.sum_add_distrib]
  exact Finset.sum_le_sum fun i _ => abs_add_le (x i) (y i)

theorem l1_neg (x : Fin n → ℝ) : l1 (-x) = l1 x :=
  Finset.sum_congr rfl fun i _ => abs_neg (x i)

theorem l1_sub_comm (x y : Fin n → ℝ) : l1 (x - y) = l1 (y - x) := by
  rw [← l1_neg (x - y), neg_sub]

theorem l1_sub_le (x y : Fin n → ℝ) : l1 (x - y) ≤ l1 x + l1 y := by
  have := l1_add_le x (-y)
  rwa [l1_neg, ← sub_eq_add_neg] at this

theorem l1_triangle (x y z : Fin n → ℝ) : l1 (x - z) ≤ l1 (x - y) + l1 (y - z) := by
  have := l1_add_le (x - y) (y - z)
  rwa [sub_add_sub_cancel] at this

theorem l1_const_mul (c : ℝ) (x : Fin n → ℝ) : l1 (fun j => c * x j) = |c| * l1 x := by
  unfold l1
  rw [Finset.mul_sum]
  exact Finset.sum_congr rfl fun i _ => abs_mul c (x i)

theorem l1_of_nonneg {x : Fin n → ℝ} (h : ∀ i, 0 ≤ x i) : l1 x = ∑ i, x i :=
  Finset.sum_congr rfl fun i _ => abs_of_nonneg (h i)

theorem sum_le_l1 (x : Fin n → ℝ) : ∑ i, x i ≤ l1 x :=
  Finset.sum_le_sum fun i _ => le_abs_self (x i)

/-- Converse of `l1_of_nonneg`: termwise `x i ≤ |x i|`, so equal sums force `x i = |x i|`. -/
theorem nonneg_of_l1_le_sum {x : Fin n → ℝ} (h : l1 x ≤ ∑ i, x i) (i : Fin n) : 0 ≤ x i :=
  abs_eq_self.1 ((sum_eq_sum_iff_of_le fun i _ => le_abs_self (x i)).1
    (le_antisymm (sum_le_l1 x) h) i (mem_univ i)).symm

theorem l1_sub_le_two (x y : Fin n → ℝ) (hx0 : ∀ i, 0 ≤ x i) (hx1 : ∑ i, x i = 1)
    (hy0 : ∀ i, 0 ≤ y i) (hy1 : ∑ i, y i = 1) : l1 (x - y) ≤ 2 := by
  have := l1_sub_le x y
  rwa [l1_of_nonneg hx0, l1_of_nonneg hy0, hx1, hy1, one_add_one_eq_two] at this

/-- Cauchy–Schwarz. -/
theorem l1_le_sqrt_mul_l2 (x : Fin n → ℝ) : l1 x ≤ Real.sqrt n * l2 x := by
  unfold l1 l2
  rw [← Real.sqrt_mul (Nat.cast_nonneg n)]
  apply Real.le_sqrt_of_sq_le
  have h := sq_sum_le_card_mul_sum_sq (s := (Finset.univ : Finset (Fin n))) (f := fun i => |x i|)
  simp only [sq_abs, Finset.card_univ, Fintype.card_fin] at h
  exact h

theorem l2_le_l1 (x : Fin n → ℝ) : l2 x ≤ l1 x := by
  unfold l1 l2
  rw [Real.sqrt_le_left (Finset.sum_nonneg fun _ _ => abs_nonneg _)]
  have h := Finset.sum_sq_le_sq_sum_of_nonneg (s := (Finset.univ : Finset (Fin n)))
    (f := fun i => |x i|) (fun i _ => abs_nonneg _)
  simp only [sq_abs] at h
  exact h

theorem l2_zero : l2 (0 : Fin n → ℝ) = 0 := by
  simp only [l2, Pi.zero_apply, ne_eq, OfNat.ofNat_ne_zero, not_false_eq_true, zero_pow,
    sum_const_zero, Real.sqrt_zero]

/-! ### `F` contracts -/

/-- `Cᵀ` scales the L1 norm by at most `r` for a non-negative matrix with row sums `≤ r`
(`r = 1`: row-stochastic or sub-stochastic `C`). -/
theorem l1_mulT_le (C : Fin n → Fin n → ℝ) (r : ℝ) (hC0 : ∀ i j, 0 ≤ C i j)
    (hC1 : ∀ i, ∑ j, C i j ≤ r) (x : Fin n → ℝ) :
    l1 (fun j => ∑ i, C i j * x i) ≤ r * l1 x := by
  unfold l1
  calc ∑ j, |∑ i, C i j * x i|
      ≤ ∑ j, ∑ i, C i j * |x i| := by
        apply Finset.sum_le_sum
        intro j _
        refine (Finset.abs_sum_le_sum_abs _ _).trans_eq (Finset.sum_congr rfl fun i _ => ?_)
        rw [abs_mul, abs_of_nonneg (hC0 i j)]
    _ = ∑ i, ∑ j, C i j * |x i| := Finset.sum_comm
    _ ≤ ∑ i, r * |x i| := by
        apply Finset.sum_le_sum
        intro i _
        rw [← Finset.sum_mul]
        exact mul_le_mul_of_nonneg_right (hC1 i) (abs_nonneg _)
    _ = r * ∑ i, |x i| := (Finset.mul_sum _ _ _).symm

theorem F_sub (C : Fin n → Fin n → ℝ) (p : Fin n → ℝ) (a : ℝ) (x y : Fin n → ℝ) :
    F C p a x - F C p a y = fun j => (1 - a) * ∑ i, C i j * (x - y) i := by
  funext j
  simp only [F, Pi.sub_apply, mul_sub, Finset.sum_sub_distrib]
  ring

theorem F_contract_le (C : Fin n → Fin n → ℝ) (p : Fin n → ℝ) (a r : ℝ)
    (hC0 : ∀ i j, 0 ≤ C i j) (hC1 : ∀ i, ∑ j, C i j ≤ r) (ha1 : a ≤ 1) (x y : Fin n → ℝ) :
    l1 (F C p a x - F C p a y) ≤ (1 - a) * r * l1 (x - y) := by
  rw [F_sub, l1_const_mul (1 - a) (fun j => ∑ i, C i j * (x - y) i),
    abs_of_nonneg (sub_nonneg.2 ha1), mul_assoc]
  exact mul_le_mul_of_nonneg_left (l1_mulT_le C r hC0 hC1 _) (sub_nonneg.2 ha1)

theorem F_contract_sub (C : Fin n → Fin n → ℝ) (p : Fin n → ℝ) (a : ℝ)
    (hC0 : ∀ i j, 0 ≤ C i j) (hC1 : ∀ i, ∑ j, C i j ≤ 1) (ha1 : a ≤ 1) (x y : Fin n → ℝ) :
    l1 (F C p a x - F C p a y) ≤ (1 - a) * l1 (x - y) :=
  (F_contract_le C p a 1 hC0 hC1 ha1 x y).trans_eq (by rw [mul_one])

/-! ### L1-contractions

What follows from `‖G x − G y‖₁ ≤ q·‖x − y‖₁` alone; applied to `G = F C p a` with
`q = (1-a)·r`. -/

section Contraction

variable {G : (Fin n → ℝ) → Fin n → ℝ} {q : ℝ}

theorem contract_iterate (hG : ∀ x y, l1 (G x - G y) ≤ q * l1 (x - y)) (hq0 : 0 ≤ q)
    (x y : Fin n → ℝ) (f : ℕ) : l1 (G^[f] x - G^[f] y) ≤ q ^ f * l1 (x - y) := by
  induction f with
  | zero =>
    rw [pow_zero, one_mul]
    exact le_rfl
  | succ f ih =>
    rw [Function.iterate_succ_apply', Function.iterate_succ_apply', pow_succ', mul_assoc]
    exact (hG _ _).trans (mul_le_mul_of_nonneg_left ih hq0)

theorem contract_fixed_unique (hG : ∀ x y, l1 (G x - G y) ≤ q * l1 (x - y)) (hq1 : q < 1)
    {x y : Fin n → ℝ} (hx : x = G x) (hy : y = G y) : x = y := by
  have h := hG x y
  rw [← hx, ← hy] at h
  exact sub_eq_zero.1
    (l1_le_zero (not_lt.1 fun hpos => (mul_lt_of_lt_one_left hpos hq1).not_ge h))

/-- The a posteriori bound, against the iterate `f ≥ 1` steps back (`f = 1` is the usual one). -/
theorem contract_stop_l1 (hG : ∀ x y, l1 (G x - G y) ≤ q * l1 (x - y)) (hq0 : 0 ≤ q)
    (hq1 : q < 1) {tstar : Fin n → ℝ} (hstar : tstar = G tstar) (t : Fin n → ℝ) {f : ℕ}
    (hf : f ≠ 0) : l1 (G^[f] t - tstar) ≤ q / (1 - q) * l1 (G^[f] t - t) := by
  -- D ≤ q^f·‖t − t*‖ ≤ q·(E + D) with D, E the distances of `G^f t` to `t*`, `t`
  have h : l1 (G^[f] t - tstar) ≤ q * (l1 (G^[f] t - t) + l1 (G^[f] t - tstar)) :=
    calc l1 (G^[f] t - tstar)
        = l1 (G^[f] t - G^[f] tstar) := by rw [Function.iterate_fixed hstar.symm]
      _ ≤ q ^ f * l1 (t - tstar) := contract_iterate hG hq0 t tstar f
      _ ≤ q * (l1 (G^[f] t - t) + l1 (G^[f] t - tstar)) :=
          mul_le_mul (pow_le_of_le_one hq0 hq1.le hf)
            (l1_sub_comm t (G^[f] t) ▸ l1_triangle t (G^[f] t) tstar) (l1_nonneg _) hq0
  rw [div_mul_eq_mul_div, le_div_iff₀ (sub_pos.2 hq1)]
  linarith

/-- The same when the check `‖G^f t − t‖₂ ≤ e` succeeded, via `‖·‖₁ ≤ √n‖·‖₂`. -/
theorem contract_stop (hG : ∀ x y, l1 (G x - G y) ≤ q * l1 (x - y)) (hq0 : 0 ≤ q)
    (hq1 : q < 1) {tstar : Fin n → ℝ} (hstar : tstar = G tstar) (t : Fin n → ℝ) {f : ℕ}
    (hf : f ≠ 0) {e : ℝ} (hstop : l2 (G^[f] t - t) ≤ e) :
    l1 (G^[f] t - tstar) ≤ q / (1 - q) * Real.sqrt n * e :=
  calc l1 (G^[f] t - tstar)
      ≤ q / (1 - q) * l1 (G^[f] t - t) := contract_stop_l1 hG hq0 hq1 hstar t hf
    _ ≤ q / (1 - q) * (Real.sqrt n * e) :=
        mul_le_mul_of_nonneg_left
          ((l1_le_sqrt_mul_l2 _).trans (mul_le_mul_of_nonneg_left hstop (Real.sqrt_nonneg _)))
          (div_nonneg hq0 (sub_pos.2 hq1).le)
    _ = q / (1 - q) * Real.sqrt n * e := (mul_assoc _ _ _).symm

end Contraction

/-! ### The fixed point -/

/-- The linear map `x ↦ x − (1-a)·Cᵀx`. -/
def Lmap (C : Fin n → Fin n → ℝ) (a : ℝ) : (Fin n → ℝ) →ₗ[ℝ] (Fin n → ℝ) :=
  LinearMap.id - (1 - a) • (Matrix.of C).transpose.mulVecLin

theorem Lmap_apply (C : Fin n → Fin n → ℝ) (a : ℝ) (x : Fin n → ℝ) (j : Fin n) :
    Lmap C a x j = x j - (1 - a) * ∑ i, C i j * x i := rfl

theorem fixedpoint_iff_Lmap (C : Fin n → Fin n → ℝ) (p : Fin n → ℝ) (a : ℝ) (t : Fin n → ℝ) :
    t = F C p a t ↔ Lmap C a t = a • p := by
  simp only [funext_iff, F, Lmap_apply, Pi.smul_apply, smul_eq_mul, sub_eq_iff_eq_add']

/-- `Lmap x = 0` says that `x` is a fixed point of `F` with `p = 0`, as is `0`. -/
theorem Lmap_injective (C : Fin n → Fin n → ℝ) (a r : ℝ) (hC0 : ∀ i j, 0 ≤ C i j)
    (hC1 : ∀ i, ∑ j, C i j ≤ r) (ha1 : a ≤ 1) (hq : (1 - a) * r < 1) :
    Function.Injective (Lmap C a) :=
  LinearMap.ker_eq_bot.1 <| LinearMap.ker_eq_bot'.2 fun x hx =>
    contract_fixed_unique (F_contract_le C 0 a r hC0 hC1 ha1) hq
      ((fixedpoint_iff_Lmap C 0 a x).2 (hx.trans (smul_zero a).symm))
      ((fixedpoint_iff_Lmap C 0 a 0).2 ((Lmap C a).map_zero.trans (smul_zero a).symm))

/-- Existence without completeness: an injective linear endomorphism of a finite-dimensional
space is surjective. -/
theorem fixedpoint_exists_unique_le (C : Fin n → Fin n → ℝ) (p : Fin n → ℝ) (a r : ℝ)
    (hC0 : ∀ i j, 0 ≤ C i j) (hC1 : ∀ i, ∑ j, C i j ≤ r) (ha1 : a ≤ 1)
    (hq : (1 - a) * r < 1) : ∃! t, t = F C p a t := by
  have hinj := Lmap_injective C a r hC0 hC1 ha1 hq
  obtain ⟨t, ht⟩ := LinearMap.injective_iff_surjective.1 hinj (a • p)
  exact ⟨t, (fixedpoint_iff_Lmap C p a t).2 ht, fun t' ht' =>
    hinj (((fixedpoint_iff_Lmap C p a t').1 ht').trans ht.symm)⟩

/-- The error bound at a successful convergence check, row sums `≤ r`, `q = (1-a)·r < 1`. -/
theorem stop_bound_le (C : Fin n → Fin n → ℝ) (p : Fin n → ℝ) (a r e : ℝ)
    (hC0 : ∀ i j, 0 ≤ C i j) (hC1 : ∀ i, ∑ j, C i j ≤ r) (hr : 0 ≤ r) (ha1 : a ≤ 1)
    (hq : (1 - a) * r < 1) (tstar tprev : Fin n → ℝ) (hstar : tstar = F C p a tstar) (f : ℕ)
    (hf : f ≠ 0) (hstop : l2 ((F C p a)^[f] tprev - tprev) ≤ e) :
    l1 ((F C p a)^[f] tprev - tstar) ≤ (1 - a) * r / (1 - (1 - a) * r) * Real.sqrt n * e :=
  contract_stop (F_contract_le C p a r hC0 hC1 ha1) (mul_nonneg (sub_nonneg.2 ha1) hr) hq hstar
    tprev hf hstop

/-! ### Distributions -/

theorem sum_F (C : Fin n → Fin n → ℝ) (p : Fin n → ℝ) (a : ℝ)
    (hC1 : ∀ i, ∑ j, C i j = 1) (t : Fin n → ℝ) :
    ∑ j, F C p a t j = (1 - a) * ∑ i, t i + a * ∑ j, p j := by
  simp only [F]
  rw [Finset.sum_add_distrib, ← Finset.mul_sum, ← Finset.mul_sum, Finset.sum_comm]
  congr 2
  apply Finset.sum_congr rfl
  intro i _
  rw [← Finset.sum_mul, hC1 i, one_mul]

theorem F_distribution (C : Fin n → Fin n → ℝ) (p : Fin n → ℝ) (a : ℝ)
    (hC0 : ∀ i j, 0 ≤ C i j) (hC1 : ∀ i, ∑ j, C i j = 1)
    (hp0 : ∀ i, 0 ≤ p i) (hp1 : ∑ i, p i = 1) (ha0 : 0 ≤ a) (ha1 : a ≤ 1)
    (t : Fin n → ℝ) (ht0 : ∀ i, 0 ≤ t i) (ht1 : ∑ i, t i = 1) :
    (∀ i, 0 ≤ F C p a t i) ∧ ∑ i, F C p a t i = 1 := by
  refine ⟨fun j => ?_, ?_⟩
  · exact add_nonneg
      (mul_nonneg (sub_nonneg.2 ha1) (sum_nonneg fun i _ => mul_nonneg (hC0 i j) (ht0 i)))
      (mul_nonneg ha0 (hp0 j))
  · rw [sum_F C p a hC1, ht1, hp1, mul_one, mul_one, sub_add_cancel]

theorem l1_F_sub_le_two (C : Fin n → Fin n → ℝ) (p : Fin n → ℝ) (a : ℝ)
    (hC0 : ∀ i j, 0 ≤ C i j) (hC1 : ∀ i, ∑ j, C i j = 1)
    (hp0 : ∀ i, 0 ≤ p i) (hp1 : ∑ i, p i = 1) (ha0 : 0 ≤ a) (ha1 : a ≤ 1)
    (t : Fin n → ℝ) (ht0 : ∀ i, 0 ≤ t i) (ht1 : ∑ i, t i = 1) : l1 (F C p a t - t) ≤ 2 :=
  have hF := F_distribution C p a hC0 hC1 hp0 hp1 ha0 ha1 t ht0 ht1
  l1_sub_le_two _ _ hF.1 hF.2 ht0 ht1

theorem l1_F_le (C : Fin n → Fin n → ℝ) (p : Fin n → ℝ) (a : ℝ)
    (hC0 : ∀ i j, 0 ≤ C i j) (hC1 : ∀ i, ∑ j, C i j ≤ 1) (ha0 : 0 ≤ a) (ha1 : a ≤ 1)
    (t : Fin n → ℝ) : l1 (F C p a t) ≤ (1 - a) * l1 t + a * l1 p :=
  calc l1 (F C p a t)
      ≤ l1 (fun j => (1 - a) * ∑ i, C i j * t i) + l1 fun j => a * p j := l1_add_le _ _
    _ = (1 - a) * l1 (fun j => ∑ i, C i j * t i) + a * l1 p := by
        rw [l1_const_mul (1 - a) (fun j => ∑ i, C i j * t i), l1_const_mul a p,
          abs_of_nonneg ha0, abs_of_nonneg (sub_nonneg.2 ha1)]
    _ ≤ (1 - a) * l1 t + a * l1 p :=
        add_le_add_left (mul_le_mul_of_nonneg_left
          ((l1_mulT_le C 1 hC0 hC1 t).trans_eq (one_mul _)) (sub_nonneg.2 ha1)) _

theorem iterate_distribution (C : Fin n → Fin n → ℝ) (p : Fin n → ℝ) (a : ℝ)
    (hC0 : ∀ i j, 0 ≤ C i j) (hC1 : ∀ i, ∑ j, C i j = 1)
    (hp0 : ∀ i, 0 ≤ p i) (hp1 : ∑ i, p i = 1) (ha0 : 0 ≤ a) (ha1 : a ≤ 1)
    (t0 : Fin n → ℝ) (ht0 : ∀ i, 0 ≤ t0 i) (ht1 : ∑ i, t0 i = 1) (k : ℕ) :
    (∀ i, 0 ≤ (F C p a)^[k] t0 i) ∧ ∑ i, (F C p a)^[k] t0 i = 1 := by
  induction k with
  | zero => exact ⟨ht0, ht1⟩
  | succ k ih =>
    rw [Function.iterate_succ_apply']
    exact F_distribution C p a hC0 hC1 hp0 hp1 ha0 ha1 _ ih.1 ih.2

/-! ### A concrete instance (used by the non-vacuity `example`s in Props/C01, Props/C05a) -/

/-- 2×2 swap matrix `[[0,1],[1,0]]` (row-stochastic). -/
def exC : Fin 2 → Fin 2 → ℝ := fun i j => if i = j then 0 else 1
/-- uniform pre-trust `(1/2, 1/2)` -/
noncomputable def exP : Fin 2 → ℝ := fun _ => 1 / 2
/-- initial vector `(1, 0)` -/
def exT0 : Fin 2 → ℝ := fun i => if i = 0 then 1 else 0

theorem exC_nonneg : ∀ i j, 0 ≤ exC i j := by
  intro i j; unfold exC; split_ifs <;> norm_num

theorem exC_rowsum : ∀ i, ∑ j, exC i j = 1 :=
  Fin.forall_fin_two.2
    ⟨(Fin.sum_univ_two _).trans (zero_add 1), (Fin.sum_univ_two _).trans (add_zero 1)⟩

theorem exP_nonneg : ∀ i, 0 ≤ exP i := by
  intro i; unfold exP; norm_num

theorem exP_sum : ∑ i, exP i = 1 :=
  (Fin.sum_univ_two _).trans (add_halves 1)

theorem exT0_nonneg : ∀ i, 0 ≤ exT0 i := by
  intro i; unfold exT0; split_ifs <;> norm_num

theorem exT0_sum : ∑ i, exT0 i = 1 :=
  (Fin.sum_univ_two _).trans (add_zero 1)

/-- `(1/2,1/2)` is the fixed point for `a = 1/2`. -/
theorem exP_fixed : exP = F exC exP (1 / 2) exP := by
  funext j
  -- `exP` is constant, so only the column sums of `exC` enter, and `exC` is symmetric
  have hcol : ∑ i, exC i j = 1 := by
    rw [← exC_rowsum j]
    exact sum_congr rfl fun i _ => if_congr eq_comm rfl rfl
  simp only [F, exP, ← sum_mul, hcol]
  norm_num

end EtVerif.Dense
