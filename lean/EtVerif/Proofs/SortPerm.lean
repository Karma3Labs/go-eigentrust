/-
  Sorting / permutation lemmas used by the MulVec goroutine model (C06, C07).

  * `IsSortFn sortFn`  : `sortFn` returns a permutation of its input that is sorted by the first
                         component (all that is assumed about Go's `sort.Sort(EntriesByIndex …)`).
  * `seqList`          : the sequential row-by-row product list (tagged pairs, zero products dropped).
  * `sorted_perm_unique`, `sortFn_eq_seqList` : uniqueness of the sorted permutation of a list with
                         pairwise distinct keys.
  * `isortFst`         : an insertion sort satisfying `IsSortFn` (the hypothesis is satisfiable), and
                         `sortByIdxPairs` : the model's `sortByIdx` transported to pairs satisfies it too.
  * `mulVecEntries_eq_seqList` : `seqList` is the model's `mulVecEntries`.
-/
import EtVerif.Model.Sparse
import Mathlib.Data.List.Perm.Basic
import Mathlib.Logic.Relation

namespace EtVerif.MulVecConc

variable {β : Type}

abbrev KeyLE (a b : Nat × β) : Prop := a.1 ≤ b.1
abbrev KeyLT (a b : Nat × β) : Prop := a.1 < b.1

/-- What is assumed about `sort.Sort(EntriesByIndex(·))`: *some* sorted permutation. -/
def IsSortFn (sortFn : List (Nat × β) → List (Nat × β)) : Prop :=
  ∀ l, (sortFn l).Perm l ∧ (sortFn l).Pairwise KeyLE

def tag (prod : Nat → β) (r : Nat) : Nat × β := (r, prod r)

/-- all rows `0 … dim-1`, tagged, in index order (zero products kept) -/
def fullList (dim : Nat) (prod : Nat → β) : List (Nat × β) := (List.range dim).map (tag prod)

/-- The sequential product: rows in index order, zero products dropped. -/
def seqList (dim : Nat) (prod : Nat → β) (isZ : β → Bool) : List (Nat × β) :=
  (fullList dim prod).filter (fun x => !isZ x.2)

theorem fullList_pairwise (dim : Nat) (prod : Nat → β) : (fullList dim prod).Pairwise KeyLT := by
  unfold fullList
  rw [List.pairwise_map]
  exact List.pairwise_lt_range

theorem seqList_pairwise (dim : Nat) (prod : Nat → β) (isZ : β → Bool) :
    (seqList dim prod isZ).Pairwise KeyLT :=
  (fullList_pairwise dim prod).sublist List.filter_sublist

theorem seqList_eq_map_filter (dim : Nat) (prod : Nat → β) (isZ : β → Bool) :
    seqList dim prod isZ = ((List.range dim).filter (fun r => !isZ (prod r))).map (tag prod) := by
  unfold seqList fullList
  rw [List.filter_map]
  rfl

/-- A `≤`-sorted permutation of a strictly sorted list is that list. -/
theorem sorted_perm_unique {l₁ l₂ : List (Nat × β)} (hp : l₁.Perm l₂)
    (h1 : l₁.Pairwise KeyLE) (h2 : l₂.Pairwise KeyLT) : l₁ = l₂ := by
  -- keys of l₁ are pairwise distinct, because they are in l₂
  have hne2 : l₂.Pairwise (fun a b => a.1 ≠ b.1) := h2.imp (fun h => Nat.ne_of_lt h)
  have hne1 : l₁.Pairwise (fun a b => a.1 ≠ b.1) :=
    hne2.perm hp.symm (fun h => fun e => h e.symm)
  have h1' : l₁.Pairwise KeyLT :=
    (h1.and hne1).imp (fun h => Nat.lt_of_le_of_ne h.1 h.2)
  refine List.Perm.eq_of_pairwise (le := KeyLT) ?_ h1' h2 hp
  intro a b _ _ hab hba
  exact absurd hab (Nat.lt_asymm hba)

/-- Whatever the arrival order, sorting yields the sequential product
    (`C06.collect_perm_invariant`). -/
theorem sortFn_eq_seqList {sortFn : List (Nat × β) → List (Nat × β)} (hs : IsSortFn sortFn)
    (dim : Nat) (prod : Nat → β) (isZ : β → Bool) (arr : List (Nat × β))
    (harr : arr.Perm (seqList dim prod isZ)) : sortFn arr = seqList dim prod isZ :=
  sorted_perm_unique ((hs arr).1.trans harr) (hs arr).2 (seqList_pairwise dim prod isZ)

theorem perm_filter_of_perm_full {dim : Nat} {prod : Nat → β} (isZ : β → Bool)
    {arr : List (Nat × β)} (h : arr.Perm (fullList dim prod)) :
    (arr.filter (fun x => !isZ x.2)).Perm (seqList dim prod isZ) :=
  h.filter _

theorem IsSortFn.nil {sortFn : List (Nat × β) → List (Nat × β)} (hs : IsSortFn sortFn) :
    sortFn [] = [] := List.perm_nil.mp (hs []).1

/-! ### an insertion sort: the hypothesis `IsSortFn` is satisfiable -/

def insertFst (x : Nat × β) : List (Nat × β) → List (Nat × β)
  | [] => [x]
  | y :: ys => if x.1 < y.1 then x :: y :: ys else y :: insertFst x ys

def isortFst (l : List (Nat × β)) : List (Nat × β) := l.foldr insertFst []

theorem insertFst_perm (x : Nat × β) (l : List (Nat × β)) : (insertFst x l).Perm (x :: l) := by
  induction l with
  | nil => exact List.Perm.refl _
  | cons y ys ih =>
    unfold insertFst
    split
    · exact List.Perm.refl _
    · exact (List.Perm.cons y ih).trans (List.Perm.swap x y ys)

theorem insertFst_sorted (x : Nat × β) (l : List (Nat × β)) (h : l.Pairwise KeyLE) :
    (insertFst x l).Pairwise KeyLE := by
  induction l with
  | nil => simp [insertFst]
  | cons y ys ih =>
    have hy := List.pairwise_cons.mp h
    unfold insertFst
    split
    · rename_i hlt
      refine List.pairwise_cons.mpr ⟨?_, h⟩
      intro z hz
      rcases List.mem_cons.mp hz with rfl | hz
      · exact Nat.le_of_lt hlt
      · exact Nat.le_trans (Nat.le_of_lt hlt) (hy.1 z hz)
    · rename_i hnlt
      refine List.pairwise_cons.mpr ⟨?_, ih hy.2⟩
      intro z hz
      have hz' := (insertFst_perm x ys).subset hz
      rcases List.mem_cons.mp hz' with rfl | hz'
      · exact Nat.le_of_not_lt hnlt
      · exact hy.1 z hz'

theorem isortFst_isSortFn : IsSortFn (isortFst (β := β)) := by
  intro l
  induction l with
  | nil => exact ⟨List.Perm.refl _, List.Pairwise.nil⟩
  | cons x xs ih =>
    refine ⟨?_, ?_⟩
    · exact (insertFst_perm x (isortFst xs)).trans (List.Perm.cons x ih.1)
    · exact insertFst_sorted x (isortFst xs) ih.2

/-! ### correspondence with the model (`Entry α` lists, `sortByIdx`, `mulVecEntries`) -/

section Model
open EtVerif Scalar
variable {α : Type}

def toEntry (p : Nat × α) : Entry α := ⟨p.1, p.2⟩
def ofEntry (e : Entry α) : Nat × α := (e.idx, e.val)

@[simp] theorem ofEntry_toEntry (p : Nat × α) : ofEntry (toEntry p) = p := rfl
@[simp] theorem toEntry_ofEntry (e : Entry α) : toEntry (ofEntry e) = e := rfl

theorem map_ofEntry_map_toEntry (l : List (Nat × α)) : (l.map toEntry).map ofEntry = l := by
  simp [List.map_map, Function.comp_def]

theorem map_toEntry_map_ofEntry (l : List (Entry α)) : (l.map ofEntry).map toEntry = l := by
  simp [List.map_map, Function.comp_def]

theorem insertByIdx_map (x : Nat × α) (l : List (Nat × α)) :
    insertByIdx (toEntry x) (l.map toEntry) = (insertFst x l).map toEntry := by
  induction l with
  | nil => rfl
  | cons y ys ih =>
    simp only [List.map_cons, insertByIdx, insertFst]
    by_cases h : x.1 < y.1
    · have h' : (toEntry x).idx < (toEntry y).idx := h
      simp [h, h']
    · have h' : ¬ (toEntry x).idx < (toEntry y).idx := h
      simp [h, h', ih]

theorem sortByIdx_map (l : List (Nat × α)) :
    sortByIdx (l.map toEntry) = (isortFst l).map toEntry := by
  induction l with
  | nil => rfl
  | cons x xs ih =>
    show insertByIdx (toEntry x) (sortByIdx (xs.map toEntry)) = _
    rw [ih, insertByIdx_map]
    rfl

/-- `sort.Sort(EntriesByIndex …)` of the model, on tagged pairs. -/
def sortByIdxPairs (l : List (Nat × α)) : List (Nat × α) := (sortByIdx (l.map toEntry)).map ofEntry

theorem sortByIdxPairs_eq : sortByIdxPairs (α := α) = isortFst := by
  funext l
  unfold sortByIdxPairs
  rw [sortByIdx_map, map_ofEntry_map_toEntry]

/-- the executable model's sort satisfies the hypothesis of the concurrency theorems -/
theorem sortByIdxPairs_isSortFn : IsSortFn (sortByIdxPairs (α := α)) := by
  rw [sortByIdxPairs_eq]; exact isortFst_isSortFn

variable [Scalar α]

/-- the product a worker computes for row `r`: ONE sequential `VecDot(m.RowVector(r), v1)` -/
def rowProd (rows : List (Row α)) (v : List (Entry α)) (r : Nat) : α := vecDot (rows.getD r []) v

omit [Scalar α] in
theorem zipIdx_eq_map_range (rows : List (Row α)) :
    rows.zipIdx = (List.range rows.length).map (fun i => (rows.getD i [], i)) := by
  apply List.ext_getElem
  · simp
  · intro i h1 h2
    simp at h1
    simp [List.getD_eq_getElem?_getD, h1]

/-- `seqList` is the model's `mulVecEntries` (at `dim = rows.length`, which is what `CSM.dim`
    returns for a `CSM.wf` matrix). -/
theorem mulVecEntries_eq_seqList (rows : List (Row α)) (v : List (Entry α)) :
    mulVecEntries rows v =
      (seqList rows.length (rowProd rows v) (fun x => isZero x)).map toEntry := by
  unfold mulVecEntries
  rw [zipIdx_eq_map_range, seqList_eq_map_filter, List.filterMap_map, List.map_map,
    ← List.filterMap_eq_map, ← List.filterMap_eq_filter, List.filterMap_filterMap]
  congr 1
  funext r
  simp only [Function.comp_def, rowProd, tag, toEntry]
  cases h : isZero (vecDot (rows.getD r []) v) <;>
    rw [List.getD_eq_getElem?_getD] at h <;> simp [Option.guard, h]

/-- the same, read from pairs to entries -/
theorem seqList_eq_mulVecEntries (rows : List (Row α)) (v : List (Entry α)) :
    seqList rows.length (rowProd rows v) (fun x => isZero x) =
      (mulVecEntries rows v).map ofEntry := by
  rw [mulVecEntries_eq_seqList, map_ofEntry_map_toEntry]

end Model

end EtVerif.MulVecConc
