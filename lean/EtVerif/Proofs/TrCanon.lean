/-
  Refinement of the translated `basic.Canonicalize` (Gen/Translated.lean) to the hand-written model
  `canonicalize` (Model/Basic.lean).
-/
import EtVerif.Proofs.TrKbn
namespace EtVerif.Tr
open EtVerif EtVerif.GoSem EtVerif.Gen Scalar
variable {α : Type} [Scalar α]

/-- First loop of `basic.Canonicalize`: every value is fed to the KBN summer. -/
theorem Canonicalize_loop1 (es : List (GEntry α)) :
    ∀ (i : Int) (s : Canonicalize.St α),
      ∃ s', Stm.range 1 Canonicalize.loop1_bind (Canonicalize.loop1_body (α := α)) i es s = .ok (s', .next) ∧
        s'.summer = toGK ((es.map (·.Value)).foldl KBN.push (ofGK s.summer)) ∧
        s'.entries = s.entries := by
  induction es with
  | nil => intro i s; exact ⟨s, rfl, by simp, rfl⟩
  | cons e es ih =>
    intro i s
    obtain ⟨st, h1, h2⟩ := KBNSummer_Add_ok s.summer e.Value
    obtain ⟨s', h3, h4, h5⟩ := ih (i + 1) { s with entry := e, summer := st.s }
    refine ⟨s', ?_, ?_, ?_⟩
    · rw [range_cons_next (s1 := { s with entry := e, summer := st.s })]
      · exact h3
      · simp [Canonicalize.loop1_body, Canonicalize.loop1_bind, go_run, h1]
    · simp [h4, h2]
    · simp [h5]

def gdiv (d : α) (e : GEntry α) : GEntry α := { e with Value := div e.Value d }

/-- Second loop: the range list is a snapshot (only its length matters); position `pre.length`
    is divided in place in each iteration. -/
theorem Canonicalize_loop2 (xs : List (GEntry α)) :
    ∀ (pre rest : List (GEntry α)) (s : Canonicalize.St α),
      xs.length = rest.length → s.entries = pre ++ rest →
      ∃ s', Stm.range 2 Canonicalize.loop2_bind (Canonicalize.loop2_body (α := α)) (pre.length : Int) xs s
          = .ok (s', .next) ∧
        s'.entries = pre ++ rest.map (gdiv s.s) := by
  induction xs with
  | nil =>
    intro pre rest s hl he
    have : rest = [] := by cases rest with
      | nil => rfl
      | cons _ _ => simp at hl
    subst this
    exact ⟨s, rfl, by simpa using he⟩
  | cons x xs ih =>
    intro pre rest s hl he
    cases rest with
    | nil => simp at hl
    | cons r rest =>
      have hl' : xs.length = rest.length := by simpa using hl
      obtain ⟨s', h1, h2⟩ := ih (pre ++ [gdiv s.s r]) rest
        { s with i := (pre.length : Int), entries := pre ++ gdiv s.s r :: rest } hl' (by simp)
      refine ⟨s', ?_, ?_⟩
      · rw [range_cons_next (s1 := { s with i := (pre.length : Int), entries := pre ++ gdiv s.s r :: rest })]
        · have : ((pre ++ [gdiv s.s r]).length : Int) = (pre.length : Int) + 1 := by simp
          rw [this] at h1
          exact h1
        · simp [Canonicalize.loop2_body, Canonicalize.loop2_bind, go_run, he, goIdx_append_mid,
            goSet_append_mid, gdiv]
      · simpa using h2

/-- The translated Go `basic.Canonicalize` computes exactly the model's `canonicalize`:
    entries divided by their compensated sum, or ErrZeroSum with the entries untouched. -/
theorem Canonicalize_refines (es : List (Entry α)) :
    (Gen.Canonicalize (toGs es)).map (fun r => (r.1.entries, r.2)) =
      (match canonicalize es with
       | .ok es' => .ok (toGs es', none)
       | .error _ => .ok (toGs es, some ⟨"ErrZeroSum"⟩)) := by
  obtain ⟨s1, h1, h2, h3⟩ := Canonicalize_loop1 (toGs es) 0
    { entries := toGs es, summer := GKBNSummer.zero, entry := GEntry.zero, s := (Scalar.zero : α), i := 0 }
  obtain ⟨st, hst⟩ := KBNSummer_Sum_ok s1.summer
  have hsum : (ofGK s1.summer).result = kbnSum (es.map (·.val)) := by
    simp [h2, kbnSum, toGs, Function.comp_def, ofGK, toGK, KBN.init, GKBNSummer.zero]
  simp only [] at h3
  cases hz : Scalar.eq (kbnSum (es.map (·.val))) (Scalar.zero : α) with
  | true =>
    simp only [Gen.Canonicalize, Canonicalize.body, Stm.run, go_run, Stm.rangeOver, Canonicalize.loop1_xs, h1,
      hst, hsum, hz, Except.map]
    simp [canonicalize, isZero, hz, h3]
  | false =>
    obtain ⟨s2, h4, h5⟩ := Canonicalize_loop2 (toGs es) [] (toGs es)
      { s1 with s := kbnSum (es.map (·.val)) } rfl (by simp [h3])
    simp only [List.length_nil, Int.natCast_zero, h3] at h4
    simp only [List.nil_append] at h5
    simp only [Gen.Canonicalize, Canonicalize.body, Stm.run, go_run, Stm.rangeOver, Canonicalize.loop1_xs,
      Canonicalize.loop2_xs, h1, hst, hsum, hz, h3, h4, Except.map]
    simp [canonicalize, isZero, hz, h5, toGs, gdiv, toG, Function.comp_def]

end EtVerif.Tr
