/-
  Refinement of the translated `basic.ExtractDistrust` (Gen/Translated.lean) to the hand-written model
  `extractDistrust` (Model/Basic.lean).
-/
import EtVerif.Proofs.TrMatSmall
namespace EtVerif.Tr
open EtVerif EtVerif.GoSem EtVerif.Gen Scalar
variable {α : Type} [Scalar α]

/-- Go `entry.Value >= 0`. -/
def gkeep (e : GEntry α) : Bool := Scalar.le (Scalar.zero : α) e.Value
/-- Go `entry.Value = -entry.Value`. -/
def gneg (e : GEntry α) : GEntry α := { e with Value := Scalar.neg e.Value }
def gpos (r : List (GEntry α)) : List (GEntry α) := r.filter gkeep
def gnegs (r : List (GEntry α)) : List (GEntry α) := (r.filter (fun e => !gkeep e)).map gneg

theorem gpos_toGs (r : List (Entry α)) : gpos (toGs r) = toGs (splitRow r).1 := by
  induction r with
  | nil => rfl
  | cons e r ih =>
    simp only [gpos, splitRow, toGs_cons] at ih ⊢
    cases h : Scalar.le (Scalar.zero : α) e.val <;> simp [gkeep, ge, h, ih]

theorem gnegs_toGs (r : List (Entry α)) : gnegs (toGs r) = toGs (splitRow r).2 := by
  induction r with
  | nil => rfl
  | cons e r ih =>
    have ih' : gnegs (toGs r) = toGs ((r.filter (fun e => !ge e.val zero)).map fun e => ⟨e.idx, neg e.val⟩) := ih
    cases h : Scalar.le (Scalar.zero : α) e.val
    · have h1 : gnegs (toGs (e :: r)) = gneg (toG e) :: gnegs (toGs r) := by
        simp [gnegs, gkeep, h]
      rw [h1, ih']
      simp [splitRow, ge, h, gneg, toG]
    · have h1 : gnegs (toGs (e :: r)) = gnegs (toGs r) := by
        simp [gnegs, gkeep, h]
      rw [h1, ih']
      simp [splitRow, ge, h]

/-- Inner body, negative entry: append its negation to the distrust row. -/
theorem split_body_neg (fuel : Nat) (s : ExtractDistrust.St α) (pre rest : List (GEntry α)) (r : GEntry α)
    (he : s.trustRow = pre ++ r :: rest) (hi : s.i = (pre.length : Int)) (hk : gkeep r = false) :
    ExtractDistrust.loop2_body fuel s =
      .ok ({ s with entry := gneg r, distrustRow := s.distrustRow ++ [gneg r] }, .next) := by
  have h1 : goIdx s.trustRow s.i = .ok r := goIdx_mid _ _ pre r rest he hi
  have h2 : Scalar.le (Scalar.zero : α) r.Value = false := hk
  simp only [ExtractDistrust.loop2_body, go_run, h1, h2, gneg]

/-- Inner body, non-negative entry, `junk.length` entries moved out so far: the entry is copied that many
    slots to the left (onto itself when nothing was moved out), so the stale slots become
    `(junk ++ [r]).tail`. -/
theorem split_body_keep (fuel : Nat) (s : ExtractDistrust.St α) (kept junk rest : List (GEntry α))
    (r : GEntry α)
    (he : s.trustRow = kept ++ junk ++ r :: rest) (hi : s.i = ((kept ++ junk).length : Int))
    (hk : gkeep r = true) (h0 : s.distrustRow.length = junk.length) :
    ExtractDistrust.loop2_body fuel s =
      .ok ({ s with entry := r, trustRow := kept ++ r :: (junk ++ [r]).tail ++ rest }, .next) := by
  have h1 : goIdx s.trustRow s.i = .ok r := goIdx_mid _ _ (kept ++ junk) r rest he hi
  have h2 : Scalar.le (Scalar.zero : α) r.Value = true := hk
  have h3 : goSet s.trustRow (s.i - goLen s.distrustRow) r = .ok (kept ++ r :: (junk ++ [r]).tail ++ rest) := by
    have hi' : s.i - goLen s.distrustRow = (kept.length : Int) := by
      rw [hi, goLen_eq, h0, List.length_append, Int.natCast_add, Int.add_sub_cancel]
    cases junk with
    | nil => simpa using goSet_mid _ _ kept r r rest (by simpa using he) hi'
    | cons j junk =>
      have := goSet_mid s.trustRow _ kept j r (junk ++ r :: rest) (by simpa using he) hi'
      simpa using this
  simp only [ExtractDistrust.loop2_body, go_run, h1, h2, h3]

/-- The inner loop: `kept` = compacted non-negative prefix, `junk` = stale slots (as many as entries moved to
    the distrust row), `rest` = untouched suffix; of the snapshot `xs` only the length matters. -/
theorem split_loop (fuel : Nat) (xs : List (GEntry α)) :
    ∀ (kept junk rest : List (GEntry α)) (s : ExtractDistrust.St α),
      xs.length = rest.length → s.trustRow = kept ++ junk ++ rest → s.distrustRow.length = junk.length →
      ∃ s' junk', Stm.range 2 (ExtractDistrust.loop2_bind fuel) (ExtractDistrust.loop2_body (α := α) fuel)
            ((kept ++ junk).length : Int) xs s = .ok (s', .next) ∧
        s'.trustRow = kept ++ gpos rest ++ junk' ∧ s'.distrustRow = s.distrustRow ++ gnegs rest ∧
        junk'.length = s'.distrustRow.length ∧
        s'.localTrust = s.localTrust ∧ s'.distrust = s.distrust ∧ s'.truster = s.truster ∧ s'.n = s.n := by
  induction xs with
  | nil =>
    intro kept junk rest s hl he h0
    have : rest = [] := by cases rest with
      | nil => rfl
      | cons _ _ => simp at hl
    subst this
    exact ⟨s, junk, rfl, by simpa [gpos] using he, by simp [gnegs], h0.symm, rfl, rfl, rfl, rfl⟩
  | cons x xs ih =>
    intro kept junk rest s hl he h0
    cases rest with
    | nil => simp at hl
    | cons r rest =>
      have hl' : xs.length = rest.length := by simpa using hl
      cases hk : gkeep r with
      | false =>
        have hp : gpos (r :: rest) = gpos rest := by simp [gpos, hk]
        have hn : gnegs (r :: rest) = gneg r :: gnegs rest := by simp [gnegs, hk]
        have hb := split_body_neg fuel { s with i := ((kept ++ junk).length : Int) } (kept ++ junk) rest r he rfl hk
        obtain ⟨s', junk', h1, h2, h3, h4, h5, h6, h7, h8⟩ := ih kept (junk ++ [r]) rest
          { s with i := ((kept ++ junk).length : Int), entry := gneg r, distrustRow := s.distrustRow ++ [gneg r] }
          hl' (by simp [he]) (by simp [h0])
        refine ⟨s', junk', ?_, ?_, ?_, h4, h5, h6, h7, h8⟩
        · rw [range_cons_next hb]
          have : ((kept ++ (junk ++ [r])).length : Int) = ((kept ++ junk).length : Int) + 1 := by
            simp; omega
          rw [this] at h1
          exact h1
        · rw [hp]; exact h2
        · rw [hn, h3]; simp
      | true =>
        have hp : gpos (r :: rest) = r :: gpos rest := by simp [gpos, hk]
        have hn : gnegs (r :: rest) = gnegs rest := by simp [gnegs, hk]
        have hb := split_body_keep fuel { s with i := ((kept ++ junk).length : Int) } kept junk rest r he rfl hk h0
        obtain ⟨s', junk', h1, h2, h3, h4, h5, h6, h7, h8⟩ := ih (kept ++ [r]) (junk ++ [r]).tail rest
          { s with i := ((kept ++ junk).length : Int), entry := r,
                   trustRow := kept ++ r :: (junk ++ [r]).tail ++ rest }
          hl' (by simp) (by simpa using h0)
        refine ⟨s', junk', ?_, ?_, ?_, h4, h5, h6, h7, h8⟩
        · rw [range_cons_next hb]
          have : ((kept ++ [r] ++ (junk ++ [r]).tail).length : Int) = ((kept ++ junk).length : Int) + 1 := by
            simp; omega
          rw [this] at h1
          exact h1
        · rw [hp]; simpa using h2
        · rw [hn]; exact h3

/-- One iteration of the outer loop: row `done.length` of both matrices is replaced by its part. -/
theorem extract_body (fuel : Nat) (s : ExtractDistrust.St α) (done rem ddone drem : List (List (GEntry α)))
    (r : List (GEntry α))
    (hl : s.localTrust.Entries = done ++ r :: rem) (hd : s.distrust.Entries = ddone ++ [] :: drem)
    (ht : s.truster = (done.length : Int)) (hdl : ddone.length = done.length) :
    ∃ s', ExtractDistrust.loop1_body fuel s = .ok (s', .next) ∧
      s'.localTrust = { s.localTrust with Entries := done ++ gpos r :: rem } ∧
      s'.distrust = { s.distrust with Entries := ddone ++ gnegs r :: drem } ∧
      s'.truster = s.truster ∧ s'.n = s.n := by
  have ht' : s.truster = (ddone.length : Int) := by rw [ht, hdl]
  have g1 : goIdx s.localTrust.Entries s.truster = .ok r := goIdx_mid _ _ done r rem hl ht
  have g2 : goIdx s.distrust.Entries s.truster = .ok [] := goIdx_mid _ _ ddone [] drem hd ht'
  obtain ⟨s2, junk', k1, k2, k3, k4, k5, k6, k7, k8⟩ := split_loop fuel r [] [] r
    { s with trustRow := r, distrustRow := [] } rfl rfl rfl
  simp only [List.append_nil, List.length_nil, Int.natCast_zero, List.nil_append] at k1 k2 k3
  have g3 : goSlice s2.trustRow 0 (goLen s2.trustRow - goLen s2.distrustRow) = .ok (gpos r) := by
    rw [k2, goLen_eq, goLen_eq, ← k4]
    simp [goSlice]
    omega
  have g4 : goSet s2.localTrust.Entries s2.truster (gpos r) = .ok (done ++ gpos r :: rem) :=
    goSet_mid _ _ done r _ rem (by rw [k5]; exact hl) (by rw [k7]; exact ht)
  have g5 : goSet s2.distrust.Entries s2.truster s2.distrustRow = .ok (ddone ++ gnegs r :: drem) := by
    rw [k3]
    exact goSet_mid _ _ ddone [] _ drem (by rw [k6]; exact hd) (by rw [k7]; exact ht')
  refine ⟨{ s2 with trustRow := gpos r,
                    localTrust := { s2.localTrust with Entries := done ++ gpos r :: rem },
                    distrust := { s2.distrust with Entries := ddone ++ gnegs r :: drem } }, ?_, ?_, ?_, k7, k8⟩
  · unfold ExtractDistrust.loop1_body
    rw [seq_next (s1 := { s with trustRow := r })]
    · rw [seq_next (s1 := { s with trustRow := r, distrustRow := [] })]
      · rw [seq_next (s1 := s2)]
        · rw [seq_next (s1 := { s2 with trustRow := gpos r })]
          · rw [seq_next (s1 := { s2 with trustRow := gpos r })]
            · rw [seq_next (s1 :=
                  { s2 with trustRow := gpos r,
                            localTrust := { s2.localTrust with Entries := done ++ gpos r :: rem } })]
              · simp only [go_run, g5]
              · simp only [go_run, g4]
            · cases hg : gpos r with
              | nil => simp [go_run]
              | cons a l =>
                rw [stm_ite_false]
                · rfl
                · simp only [pure, Except.pure, goLen_eq, List.length_cons, Except.ok.injEq]
                  exact decide_eq_false (by omega)
          · simp only [go_run, g3]
        · simp only [Stm.rangeOver, ExtractDistrust.loop2_xs, pure, Except.pure]
          exact k1
      · simp only [go_run, g2]
    · simp only [go_run, g1]
  · simp [k5]
  · simp [k6]

theorem extract_loop (fuel0 : Nat) :
    ∀ (rem : List (List (GEntry α))) (fuel : Nat) (done ddone : List (List (GEntry α)))
      (s : ExtractDistrust.St α),
      rem.length ≤ fuel → s.localTrust.Entries = done ++ rem →
      s.distrust.Entries = ddone ++ List.replicate rem.length [] →
      s.truster = (done.length : Int) → ddone.length = done.length →
      s.n = ((done.length + rem.length : Nat) : Int) →
      ∃ s', Stm.loop 1 (ExtractDistrust.loop1_cond fuel0) (ExtractDistrust.loop1_body (α := α) fuel0)
            (ExtractDistrust.loop1_post fuel0) fuel s = .ok (s', .next) ∧
        s'.localTrust = { s.localTrust with Entries := done ++ rem.map gpos } ∧
        s'.distrust = { s.distrust with Entries := ddone ++ rem.map gnegs } := by
  intro rem
  induction rem with
  | nil =>
    intro fuel done ddone s hf hl hd ht hdl hn
    refine ⟨s, ?_, ?_, ?_⟩
    · apply loop_exit
      simp [ExtractDistrust.loop1_cond, pure, Except.pure, ht, hn]
    · cases hs : s.localTrust; simp [hs] at hl ⊢; exact hl
    · cases hs : s.distrust; simp [hs] at hd ⊢; exact hd
  | cons r rem ih =>
    intro fuel done ddone s hf hl hd ht hdl hn
    cases fuel with
    | zero => simp at hf
    | succ f =>
      have hf' : rem.length ≤ f := by simpa using hf
      have hc : ExtractDistrust.loop1_cond fuel0 s = .ok true := by
        simp [ExtractDistrust.loop1_cond, pure, Except.pure, ht, hn]
        omega
      obtain ⟨s1, b1, b2, b3, b4, b5⟩ := extract_body fuel0 s done rem ddone (List.replicate rem.length []) r
        hl (by simpa [List.replicate_succ] using hd) ht hdl
      have hp : ExtractDistrust.loop1_post fuel0 s1 = .ok ({ s1 with truster := s1.truster + 1 }, .next) := by
        simp [ExtractDistrust.loop1_post, go_run]
      obtain ⟨s', c1, c2, c3⟩ := ih f (done ++ [gpos r]) (ddone ++ [gnegs r])
        { s1 with truster := s1.truster + 1 } hf' (by simp [b2]) (by simp [b3])
        (by simp [b4, ht]) (by simp [hdl]) (by simp [b5, hn]; omega)
      refine ⟨s', ?_, ?_, ?_⟩
      · rw [loop_step hc b1 hp]
        exact c1
      · rw [c2]; simp [b2]
      · rw [c3]; simp [b3]

/-- Go `basic.ExtractDistrust` = the model's `extractDistrust`: every row partitioned by sign in place, the
    negative part sign-reversed into a fresh matrix; a non-square matrix is refused untouched. -/
theorem ExtractDistrust_refines (fuel : Nat) (m : CSM α) (hrows : m.rows.length = m.major)
    (hf : m.major ≤ fuel) :
    (Gen.ExtractDistrust fuel (toGM m)).map (fun r => (r.1.localTrust, r.2)) =
      (match extractDistrust m with
       | .ok (p, d) => .ok (toGM p, (toGM d, none))
       | .error _ => .ok (toGM m, ((GCSMatrix.zero : GCSMatrix α), some ⟨"ErrDimensionMismatch"⟩))) := by
  by_cases hsq : m.major = m.minor
  · obtain ⟨st, hD⟩ := CSMatrix_Dim_sq (toGM m) (by simp [hsq])
    obtain ⟨s', c1, c2, c3⟩ := extract_loop fuel (m.rows.map toGs) fuel [] []
      { localTrust := toGM m, n := (m.major : Int), err := none,
        distrust := ⟨(m.major : Int), (m.major : Int), List.replicate m.major []⟩,
        truster := 0, trustRow := [], distrustRow := [], i := 0, entry := GEntry.zero }
      (by simpa [hrows] using hf) (by simp) (by simp [hrows]) rfl rfl (by simp [hrows])
    simp only [Gen.ExtractDistrust, ExtractDistrust.body, Stm.run, go_run, Except.map, hD, toGM_MajorDim,
      goMake_natCast, Option.isNone_none, Bool.not_true, c1]
    simp [c2, c3, extractDistrust, CSM.dim, hsq, toGM, gpos_toGs, gnegs_toGs, Function.comp_def]
  · obtain ⟨st, hD⟩ := CSMatrix_Dim_nsq (toGM m) (by simp; omega)
    simp [Gen.ExtractDistrust, ExtractDistrust.body, Stm.run, go_run, Except.map, hD, extractDistrust, CSM.dim,
      hsq]

end EtVerif.Tr
