/-
  Refinement of the translated `CSMatrix.Transpose` (Gen/Translated.lean)
  to the hand-written model `CSM.transpose` (Model/Sparse.lean): the counting pass only has to be
  shown not to panic (it is an allocation hint), the pre-allocation pass is a no-op on lists, and
  the scatter pass is the model's fold of `scatterRow` over the indexed rows.
-/
import EtVerif.Proofs.TrBridge
namespace EtVerif.Tr
open EtVerif EtVerif.GoSem EtVerif.Gen Scalar
variable {α : Type} [Scalar α]

omit [Scalar α] in
theorem scatterRow_length (i : Nat) (r : Row α) :
    ∀ (t : List (Row α)), (scatterRow t i r).length = t.length := by
  induction r with
  | nil => intro t; rfl
  | cons e r ih =>
    intro t
    have : scatterRow t i (e :: r) = scatterRow (t.modify e.idx (· ++ [⟨i, e.val⟩])) i r := rfl
    rw [this, ih, List.length_modify]

/-! ### the counting pass (loops 1 and 2): does not panic, keeps the length of `nnzs` -/

theorem Transpose_loop2 (n : Nat) (es : List (Entry α)) :
    ∀ (j : Int) (s : CSMatrix_Transpose.St α), s.nnzs.length = n → (∀ e ∈ es, e.idx < n) →
      ∃ s', Stm.range 2 CSMatrix_Transpose.loop2_bind (CSMatrix_Transpose.loop2_body (α := α))
          j (toGs es) s = .ok (s', .next) ∧ s'.nnzs.length = n ∧ s'.m = s.m := by
  induction es with
  | nil => intro j s hn _; exact ⟨s, rfl, hn, rfl⟩
  | cons e es ih =>
    intro j s hn he
    have hlt : e.idx < s.nnzs.length := by rw [hn]; exact he e (by simp)
    have hb : CSMatrix_Transpose.loop2_body (CSMatrix_Transpose.loop2_bind j (toG e) s) =
        .ok ({ s with e := toG e, nnzs := s.nnzs.set e.idx (s.nnzs[e.idx] + 1) }, .next) := by
      simp only [CSMatrix_Transpose.loop2_body, CSMatrix_Transpose.loop2_bind, go_run, toG_Index,
        goIdx_ofNat _ _ hlt, goSet_ofNat _ _ _ hlt]
    obtain ⟨s', h1, h2, h3⟩ := ih (j + 1)
      { s with e := toG e, nnzs := s.nnzs.set e.idx (s.nnzs[e.idx] + 1) }
      (by simpa using hn) (fun e' he' => he e' (by simp [he']))
    refine ⟨s', ?_, h2, h3⟩
    rw [toGs_cons, range_cons_next hb]
    exact h1

theorem Transpose_loop1 (n : Nat) (rows : List (Row α)) :
    ∀ (j : Int) (s : CSMatrix_Transpose.St α), s.nnzs.length = n →
      (∀ r ∈ rows, ∀ e ∈ r, e.idx < n) →
      ∃ s', Stm.range 1 CSMatrix_Transpose.loop1_bind (CSMatrix_Transpose.loop1_body (α := α))
          j (rows.map toGs) s = .ok (s', .next) ∧ s'.nnzs.length = n ∧ s'.m = s.m := by
  induction rows with
  | nil => intro j s hn _; exact ⟨s, rfl, hn, rfl⟩
  | cons r rows ih =>
    intro j s hn hr
    obtain ⟨s1, a1, a2, a3⟩ := Transpose_loop2 n r 0 { s with rowEntries := toGs r } hn
      (hr r (by simp))
    have hb : CSMatrix_Transpose.loop1_body (CSMatrix_Transpose.loop1_bind j (toGs r) s) =
        .ok (s1, .next) := by
      simp only [CSMatrix_Transpose.loop1_body, CSMatrix_Transpose.loop1_bind, Stm.rangeOver,
        CSMatrix_Transpose.loop2_xs, pure, Except.pure]
      exact a1
    obtain ⟨s', h1, h2, h3⟩ := ih (j + 1) s1 a2 (fun r' hr' => hr r' (by simp [hr']))
    refine ⟨s', ?_, h2, ?_⟩
    · rw [List.map_cons, range_cons_next hb]
      exact h1
    · rw [h3, a3]

/-! ### the pre-allocation pass (loop 3): a no-op on the (list) row table -/

theorem Transpose_loop3 (n : Nat) (xs : List Int) :
    ∀ (k : Nat) (s : CSMatrix_Transpose.St α), k + xs.length ≤ n →
      s.transposedEntries = List.replicate n [] →
      ∃ s', Stm.range 3 CSMatrix_Transpose.loop3_bind (CSMatrix_Transpose.loop3_body (α := α))
          (k : Int) xs s = .ok (s', .next) ∧ s'.transposedEntries = List.replicate n [] ∧ s'.m = s.m := by
  induction xs with
  | nil => intro k s _ ht; exact ⟨s, rfl, ht, rfl⟩
  | cons x xs ih =>
    intro k s hk ht
    have hk' : k < n := by simp at hk; omega
    have hb : CSMatrix_Transpose.loop3_body (CSMatrix_Transpose.loop3_bind (k : Int) x s) =
        .ok ({ s with col := (k : Int), nnz := x }, .next) := by
      by_cases hx : x = 0
      · simp [CSMatrix_Transpose.loop3_body, CSMatrix_Transpose.loop3_bind, go_run, hx]
      · have hs : goSet (List.replicate n ([] : List (GEntry α))) (k : Int) [] =
            .ok (List.replicate n []) := by
          rw [goSet_ofNat _ _ _ (by simpa using hk')]
          simp
        simp only [CSMatrix_Transpose.loop3_body, CSMatrix_Transpose.loop3_bind, go_run, hx, decide_false,
          Bool.not_false, goMake_zero, ht, hs]
    obtain ⟨s', h1, h2, h3⟩ := ih (k + 1) { s with col := (k : Int), nnz := x }
      (by simp at hk; omega) ht
    refine ⟨s', ?_, h2, h3⟩
    rw [range_cons_next hb]
    have : ((k + 1 : Nat) : Int) = (k : Int) + 1 := by simp
    rw [this] at h1
    exact h1

/-! ### the scatter pass (loops 4 and 5) -/

theorem Transpose_loop5 (i : Nat) (es : List (Entry α)) :
    ∀ (j : Int) (t : List (Row α)) (s : CSMatrix_Transpose.St α),
      s.transposedEntries = t.map toGs → s.row = (i : Int) → (∀ e ∈ es, e.idx < t.length) →
      ∃ s', Stm.range 5 CSMatrix_Transpose.loop5_bind (CSMatrix_Transpose.loop5_body (α := α))
          j (toGs es) s = .ok (s', .next) ∧
        s'.transposedEntries = (scatterRow t i es).map toGs ∧ s'.m = s.m := by
  induction es with
  | nil => intro j t s ht _ _; exact ⟨s, rfl, ht, rfl⟩
  | cons e es ih =>
    intro j t s ht hr he
    have hlt : e.idx < t.length := he e (by simp)
    have hlt' : e.idx < (t.map toGs).length := by simpa using hlt
    have hsc : scatterRow t i (e :: es) = scatterRow (t.modify e.idx (· ++ [⟨i, e.val⟩])) i es := rfl
    have hmod : (t.modify e.idx (· ++ [⟨i, e.val⟩])).map toGs =
        (t.map toGs).set e.idx ((t.map toGs)[e.idx] ++ [({ Index := (i : Int), Value := e.val } : GEntry α)]) := by
      rw [modify_eq_set_of_lt _ _ _ hlt, List.map_set]
      simp [toG]
    have hb : CSMatrix_Transpose.loop5_body (CSMatrix_Transpose.loop5_bind j (toG e) s) =
        .ok ({ s with e_2 := toG e, col_2 := (e.idx : Int),
                      transposedEntries := (t.modify e.idx (· ++ [⟨i, e.val⟩])).map toGs }, .next) := by
      simp only [CSMatrix_Transpose.loop5_body, CSMatrix_Transpose.loop5_bind, go_run, toG_Index, toG_Value, ht,
        hr, goIdx_ofNat _ _ hlt', goSet_ofNat _ _ _ hlt', hmod]
    obtain ⟨s', h1, h2, h3⟩ := ih (j + 1) (t.modify e.idx (· ++ [⟨i, e.val⟩]))
      { s with e_2 := toG e, col_2 := (e.idx : Int),
               transposedEntries := (t.modify e.idx (· ++ [⟨i, e.val⟩])).map toGs }
      rfl hr (fun e' he' => by rw [List.length_modify]; exact he e' (by simp [he']))
    refine ⟨s', ?_, ?_, h3⟩
    · rw [toGs_cons, range_cons_next hb]
      exact h1
    · rw [hsc]; exact h2

theorem Transpose_loop4 (rows : List (Row α)) :
    ∀ (k : Nat) (t : List (Row α)) (s : CSMatrix_Transpose.St α),
      s.transposedEntries = t.map toGs → (∀ r ∈ rows, ∀ e ∈ r, e.idx < t.length) →
      ∃ s', Stm.range 4 CSMatrix_Transpose.loop4_bind (CSMatrix_Transpose.loop4_body (α := α))
          (k : Int) (rows.map toGs) s = .ok (s', .next) ∧
        s'.transposedEntries =
          ((rows.zipIdx k).foldl (fun t (p : Row α × Nat) => scatterRow t p.2 p.1) t).map toGs ∧
        s'.m = s.m := by
  induction rows with
  | nil => intro k t s ht _; exact ⟨s, rfl, ht, rfl⟩
  | cons r rows ih =>
    intro k t s ht hr
    obtain ⟨s1, a1, a2, a3⟩ := Transpose_loop5 k r 0 t
      { s with row := (k : Int), rowEntries_2 := toGs r } ht rfl (hr r (by simp))
    have hb : CSMatrix_Transpose.loop4_body (CSMatrix_Transpose.loop4_bind (k : Int) (toGs r) s) =
        .ok (s1, .next) := by
      simp only [CSMatrix_Transpose.loop4_body, CSMatrix_Transpose.loop4_bind, Stm.rangeOver,
        CSMatrix_Transpose.loop5_xs, pure, Except.pure]
      exact a1
    obtain ⟨s', h1, h2, h3⟩ := ih (k + 1) (scatterRow t k r) s1 a2
      (fun r' hr' e he => by rw [scatterRow_length]; exact hr r' (by simp [hr']) e he)
    refine ⟨s', ?_, ?_, ?_⟩
    · rw [List.map_cons, range_cons_next hb]
      have : ((k + 1 : Nat) : Int) = (k : Int) + 1 := by simp
      rw [this] at h1
      exact h1
    · rw [List.zipIdx_cons, List.foldl_cons]
      exact h2
    · rw [h3, a3]

omit [Scalar α] in
theorem colsInRange_spec (m : CSM α) (hc : m.colsInRange = true) :
    ∀ r ∈ m.rows, ∀ e ∈ r, e.idx < m.minor := by
  intro r hr e he
  have := hc
  simp only [CSM.colsInRange, List.all_eq_true, decide_eq_true_eq] at this
  exact this r hr e he

theorem Transpose_body (m : CSM α) (hc : m.colsInRange = true) (s0 : CSMatrix_Transpose.St α)
    (h0 : s0.m = toGM m) :
    ∃ s4 : CSMatrix_Transpose.St α,
      CSMatrix_Transpose.body s0 =
        .ok ({ s4 with mt := ⟨(m.minor : Int), (m.major : Int), s4.transposedEntries⟩ },
             .ret (⟨(m.minor : Int), (m.major : Int), s4.transposedEntries⟩, none)) ∧
      s4.transposedEntries = (m.transpose.rows).map toGs := by
  have hr := colsInRange_spec m hc
  obtain ⟨s1, a1, a2, a3⟩ := Transpose_loop1 m.minor m.rows 0
    { s0 with nnzs := List.replicate m.minor (0 : Int) } (by simp) hr
  obtain ⟨s3, b1, b2, b3⟩ := Transpose_loop3 m.minor s1.nnzs 0
    { s1 with transposedEntries := List.replicate m.minor [] } (by omega) rfl
  obtain ⟨s4, c1, c2, c3⟩ := Transpose_loop4 m.rows 0 (List.replicate m.minor []) s3
    (by rw [b2]; simp) (by simpa using hr)
  have hm1 : s1.m = toGM m := by rw [a3]; exact h0
  have hm3 : s3.m = toGM m := by rw [b3]; exact hm1
  have hm4 : s4.m = toGM m := by rw [c3]; exact hm3
  simp only [Int.natCast_zero] at b1 c1
  refine ⟨s4, ?_, ?_⟩
  · unfold CSMatrix_Transpose.body
    rw [seq_next (s1 := { s0 with nnzs := List.replicate m.minor (0 : Int) })]
    · rw [seq_next (s1 := s1)]
      · rw [seq_next (s1 := { s1 with transposedEntries := List.replicate m.minor [] })]
        · rw [seq_next (s1 := s3)]
          · rw [seq_next (s1 := s4)]
            · simp only [go_run, hm4, toGM_MinorDim, toGM_MajorDim]
            · simp only [Stm.rangeOver, CSMatrix_Transpose.loop4_xs, pure, Except.pure, hm3, toGM_Entries]
              exact c1
          · simp only [Stm.rangeOver, CSMatrix_Transpose.loop3_xs, pure, Except.pure]
            exact b1
        · simp only [go_run, hm1, toGM_MinorDim, goMake_natCast]
      · have he : s0.m.Entries = m.rows.map toGs := by rw [h0]; rfl
        simp only [Stm.rangeOver, CSMatrix_Transpose.loop1_xs, pure, Except.pure, he]
        exact a1
    · simp only [go_run, h0, toGM_MinorDim, goMake_natCast]
  · rw [c2]
    rfl

/-- Go `CSMatrix.Transpose` = the model's `CSM.transpose`, for every matrix whose stored column indices
    are all `< minor` (otherwise the Go code panics on `nnzs[e.Index]`); no fuel: only range loops. -/
theorem CSMatrix_Transpose_refines (m : CSM α) (hc : m.colsInRange = true) :
    (Gen.CSMatrix_Transpose (toGM m)).map (fun r => r.2) = .ok (toGM m.transpose, none) := by
  obtain ⟨s4, h1, h2⟩ := Transpose_body m hc
    { m := toGM m, nnzs := [], rowEntries := [], e := GEntry.zero, transposedEntries := [], col := 0,
      nnz := 0, row := 0, rowEntries_2 := [], e_2 := GEntry.zero, col_2 := 0, mt := GCSMatrix.zero } rfl
  simp only [Gen.CSMatrix_Transpose, Stm.run, h1, Except.map, h2]
  rfl

end EtVerif.Tr
