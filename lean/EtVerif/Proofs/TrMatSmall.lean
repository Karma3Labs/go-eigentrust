/-
  Refinement of the translated CSMatrix.Dim / NNZ to the model CSM.dim / CSM.nnz.
-/
import EtVerif.Proofs.TrBridge
namespace EtVerif.Tr
open EtVerif EtVerif.GoSem EtVerif.Gen Scalar
variable {α : Type} [Scalar α]
set_option linter.unusedSectionVars false
theorem CSMatrix_Dim_refines (m : CSM α) :
    (CSMatrix_Dim (toGM m)).map (fun r => r.2) =
      (match m.dim with
       | .ok n => .ok ((n : Int), none)
       | .error _ => .ok ((0 : Int), some ⟨"ErrDimensionMismatch"⟩)) := by
  by_cases h : m.major = m.minor
  · simp [CSMatrix_Dim, CSMatrix_Dim.body, Stm.run, go_run, Except.map, CSM.dim, h]
  · have h' : ¬ (m.major : Int) = (m.minor : Int) := by omega
    simp [CSMatrix_Dim, CSMatrix_Dim.body, Stm.run, go_run, Except.map, CSM.dim, h, h']

theorem CSMatrix_NNZ_loop (rows : List (List (Entry α))) :
    ∀ (i : Int) (s : CSMatrix_NNZ.St α),
      ∃ s', Stm.range 1 CSMatrix_NNZ.loop1_bind CSMatrix_NNZ.loop1_body i (rows.map toGs) s
          = .ok (s', .next) ∧
        s'.nnz = s.nnz + (((rows.map List.length).sum : Nat) : Int) := by
  induction rows with
  | nil => intro i s; exact ⟨s, rfl, by simp⟩
  | cons r rows ih =>
    intro i s
    obtain ⟨s', h1, h2⟩ := ih (i + 1)
      { s with row := toGs r, nnz := s.nnz + (r.length : Int) }
    refine ⟨s', ?_, ?_⟩
    · rw [List.map_cons, range_cons_next (s1 := { s with row := toGs r, nnz := s.nnz + (r.length : Int) })]
      · exact h1
      · simp [CSMatrix_NNZ.loop1_body, CSMatrix_NNZ.loop1_bind, go_run]
    · rw [h2]
      simp only [List.map_cons, List.sum_cons]
      omega

theorem CSMatrix_NNZ_refines (m : CSM α) :
    (CSMatrix_NNZ (toGM m)).map (fun r => r.2) = .ok ((m.nnz : Nat) : Int) := by
  obtain ⟨s', h1, h2⟩ := CSMatrix_NNZ_loop m.rows 0
    { m := toGM m, nnz := 0, row := ([] : List (GEntry α)) }
  simp [CSMatrix_NNZ, CSMatrix_NNZ.body, Stm.run, go_run, Stm.rangeOver, CSMatrix_NNZ.loop1_xs, Except.map, h1,
    h2, CSM.nnz]

omit [Scalar α] in
theorem CSMatrix_Dim_sq (g : GCSMatrix α) (h : g.MajorDim = g.MinorDim) :
    ∃ st, Gen.CSMatrix_Dim g = .ok (st, (g.MajorDim, none)) := by
  simp [Gen.CSMatrix_Dim, CSMatrix_Dim.body, Stm.run, go_run, h]


omit [Scalar α] in
theorem CSMatrix_Dim_nsq (g : GCSMatrix α) (h : g.MajorDim ≠ g.MinorDim) :
    ∃ st, Gen.CSMatrix_Dim g = .ok (st, (0, some ⟨"ErrDimensionMismatch"⟩)) := by
  simp [Gen.CSMatrix_Dim, CSMatrix_Dim.body, Stm.run, go_run, h]


end EtVerif.Tr
