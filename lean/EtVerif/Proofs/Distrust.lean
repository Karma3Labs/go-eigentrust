/-
  Helper lemmas for property C08 (ExtractDistrust, DiscountTrustVector).
-/
import EtVerif.Proofs.Vec
import EtVerif.Model.Basic
import Mathlib.Algebra.BigOperators.Group.Finset.Basic

namespace EtVerif.Distrust
open EtVerif Scalar

variable {K : Type} [Field K] [LinearOrder K]

/-- dense value of a row table at `(i, j)` (missing rows are empty); the same function as
    `EtVerif.denRows` (Matrix.lean) and `denM` (Vec.lean), equal to them by `rfl` -/
def denRows (rows : List (Row K)) (i j : Nat) : K := denE (rows.getD i []) j

/-! ### generic list facts -/

theorem sorted_eq_of_idx_eq {es : List (Entry K)} (hs : Sorted es) {a b : Entry K}
    (ha : a ∈ es) (hb : b ∈ es) (h : a.idx = b.idx) : a = b := by
  induction es with
  | nil => cases ha
  | cons e es ih =>
    have hlt := hs.head_lt
    rcases List.mem_cons.mp ha with rfl | ha' <;> rcases List.mem_cons.mp hb with rfl | hb'
    · rfl
    · have := hlt b hb'; omega
    · have := hlt a ha'; omega
    · exact ih hs.tail ha' hb'

theorem denE_of_mem {es : List (Entry K)} (hs : Sorted es) {a : Entry K} (ha : a ∈ es) :
    denE es a.idx = a.val :=
  _root_.EtVerif.denE_of_mem hs ha

/-! ### splitRow / ExtractDistrust -/

@[simp] theorem splitRow_nil : splitRow ([] : Row K) = ([], []) := rfl

theorem splitRow_fst (r : Row K) : (splitRow r).1 = r.filter (fun e => decide (0 ≤ e.val)) := rfl

theorem splitRow_snd (r : Row K) :
    (splitRow r).2 = (r.filter (fun e => !decide (0 ≤ e.val))).map fun e => ⟨e.idx, -e.val⟩ := rfl

theorem denE_filter_add_filter_not (p : Entry K → Bool) (r : Row K) (j : Nat) :
    denE (r.filter p) j + denE (r.filter fun e => !p e) j = denE r j := by
  induction r with
  | nil => exact add_zero _
  | cons e r ih =>
    rw [denE_cons_add, ← ih]
    cases hp : p e
    · rw [List.filter_cons_of_neg (Bool.not_eq_true _ |>.mpr hp),
        List.filter_cons_of_pos (by rw [hp]; rfl), denE_cons_add, add_left_comm]
    · rw [List.filter_cons_of_pos hp, List.filter_cons_of_neg (by rw [hp]; decide),
        denE_cons_add, add_assoc]

theorem den_splitRow (r : Row K) (j : Nat) :
    denE r j = denE (splitRow r).1 j - denE (splitRow r).2 j := by
  have h : denE (splitRow r).2 j = - denE (r.filter fun e => !decide (0 ≤ e.val)) j :=
    den_negEntries _ j
  rw [h, sub_neg_eq_add]
  exact (denE_filter_add_filter_not _ r j).symm

theorem splitRow_fst_sublist (r : Row K) : ((splitRow r).1).Sublist r := by
  rw [splitRow_fst]; exact List.filter_sublist

theorem splitRow_snd_neg_sublist (r : Row K) :
    (((splitRow r).2).map fun e => (⟨e.idx, -e.val⟩ : Entry K)).Sublist r := by
  rw [splitRow_snd, List.map_map]
  have : ((fun e : Entry K => (⟨e.idx, -e.val⟩ : Entry K)) ∘ fun e => ⟨e.idx, -e.val⟩) = id := by
    funext e; simp
  rw [this, List.map_id]; exact List.filter_sublist

theorem splitRow_snd_idx_sublist (r : Row K) :
    (((splitRow r).2).map (·.idx)).Sublist (r.map (·.idx)) := by
  rw [splitRow_snd, List.map_map]
  exact (List.filter_sublist).map _

theorem splitRow_fst_nonneg (r : Row K) : ∀ e ∈ (splitRow r).1, 0 ≤ e.val := by
  intro e he
  rw [splitRow_fst, List.mem_filter] at he
  exact of_decide_eq_true he.2

theorem splitRow_snd_pos [IsStrictOrderedRing K] (r : Row K) : ∀ e ∈ (splitRow r).2, 0 < e.val := by
  intro e he
  rw [splitRow_snd, List.mem_map] at he
  obtain ⟨a, ha, rfl⟩ := he
  have : ¬ 0 ≤ a.val := of_decide_eq_false (Bool.not_eq_true' _ |>.mp (List.mem_filter.mp ha).2)
  exact neg_pos.mpr (not_le.mp this)

theorem splitRow_disjoint {r : Row K} (hs : Sorted r) :
    ∀ a ∈ (splitRow r).1, ∀ b ∈ (splitRow r).2, a.idx ≠ b.idx := by
  intro a ha b hb heq
  rw [splitRow_fst, List.mem_filter] at ha
  rw [splitRow_snd, List.mem_map] at hb
  obtain ⟨c, hc, rfl⟩ := hb
  rw [List.mem_filter] at hc
  have := sorted_eq_of_idx_eq hs ha.1 hc.1 heq
  subst this
  have h1 := ha.2
  have h2 := hc.2
  simp only [h1, Bool.not_true] at h2
  exact Bool.false_ne_true h2

theorem getD_map_splitRow_fst (rows : List (Row K)) (i : Nat) :
    ((rows.map splitRow).map (·.1)).getD i [] = (splitRow (rows.getD i [])).1 := by
  rw [List.map_map]; exact getD_map_of_default (d := []) rfl rows i

theorem getD_map_splitRow_snd (rows : List (Row K)) (i : Nat) :
    ((rows.map splitRow).map (·.2)).getD i [] = (splitRow (rows.getD i [])).2 := by
  rw [List.map_map]; exact getD_map_of_default (d := []) rfl rows i

theorem extractDistrust_ok {L P D : CSM K} (h : extractDistrust L = .ok (P, D)) :
    L.major = L.minor ∧
    P = { L with rows := (L.rows.map splitRow).map (·.1) } ∧
    D = ⟨L.major, L.major, (L.rows.map splitRow).map (·.2), []⟩ := by
  unfold extractDistrust CSM.dim at h
  by_cases hd : L.major = L.minor
  · rw [if_neg (by simpa using hd)] at h
    injection h with h
    injection h with h1 h2
    exact ⟨hd, h1.symm, h2.symm⟩
  · simp [hd] at h

theorem extractDistrust_signs [IsStrictOrderedRing K] {L P D : CSM K}
    (h : extractDistrust L = .ok (P, D)) :
    (∀ r ∈ P.rows, ∀ e ∈ r, 0 ≤ e.val) ∧ (∀ r ∈ D.rows, ∀ e ∈ r, 0 < e.val) := by
  obtain ⟨_, rfl, rfl⟩ := extractDistrust_ok h
  simp only [List.forall_mem_map]
  exact ⟨fun r _ => splitRow_fst_nonneg r, fun r _ => splitRow_snd_pos r⟩

/-! ### DiscountTrustVector -/

theorem weights_cons_of_ne {s : Entry K} (t1 : List (Entry K)) {rows : List (Row K × Nat)}
    (h : ∀ p ∈ rows, s.idx ≠ p.2) (j : Nat) :
    (rows.map fun p => denE (s :: t1) p.2 * denE p.1 j)
      = rows.map fun p => denE t1 p.2 * denE p.1 j :=
  List.map_congr_left fun p hp => by rw [denE_cons_of_ne (h p hp)]

/-- Loop invariant of `DiscountTrustVector`: the result denotes `t` minus the weighted rows, the
    weights being the dense values of the *undiscounted* entry list `t1`. -/
theorem den_discountLoop (t1 : List (Entry K)) (rows : List (Row K × Nat)) (t : List (Entry K))
    (h1 : Sorted t1) (hr : rows.Pairwise (fun a b => a.2 < b.2)) (j : Nat) :
    denE (discountLoop t1 rows t) j
      = denE t j - (rows.map fun p => denE t1 p.2 * denE p.1 j).sum := by
  fun_induction discountLoop t1 rows t with
  | case1 rows t => simp
  | case2 t1 t _ => simp
  | case3 s t1 row d rows t hlt ih =>
    -- `s.idx` is below `d`, hence below every remaining row index
    rw [ih h1.tail hr, weights_cons_of_ne t1 (List.forall_mem_cons.mpr
      ⟨hlt.ne, fun p hp => (hlt.trans ((List.pairwise_cons.mp hr).1 p hp)).ne⟩)]
  | case4 s t1 row rows t hlt ih =>
    have hr' := List.pairwise_cons.mp hr
    rw [ih h1.tail hr'.2, den_subEntries, den_vecScale, List.map_cons, List.sum_cons,
      weights_cons_of_ne t1 (fun p hp => (hr'.1 p hp).ne), denE_of_mem h1 List.mem_cons_self,
      sub_sub]
  | case5 s t1 row d rows t hlt hne ih =>
    rw [ih h1 (List.pairwise_cons.mp hr).2, List.map_cons, List.sum_cons,
      denE_of_lt_head h1 (lt_of_le_of_ne (not_lt.mp hlt) (Ne.symm hne)), zero_mul, zero_add]

theorem wf_discountLoop {n : Nat} (t1 : List (Entry K)) (rows : List (Row K × Nat))
    (t : List (Entry K)) (ht : WF n t) (hr : ∀ p ∈ rows, WF n p.1) :
    WF n (discountLoop t1 rows t) := by
  fun_induction discountLoop t1 rows t with
  | case1 rows t => exact ht
  | case2 t1 t _ => exact ht
  | case3 s t1 row d rows t hlt ih => exact ih ht hr
  | case4 s t1 row rows t hlt ih =>
    have hr' := List.forall_mem_cons.mp hr
    exact ih (wf_subEntries ht (wf_of_idx_sublist (vecScale_idx_sublist _ _) hr'.1)) hr'.2
  | case5 s t1 row d rows t hlt hne ih => exact ih ht (List.forall_mem_cons.mp hr).2

theorem zipIdx_pairwise {α : Type} (l : List α) (k : Nat) :
    (l.zipIdx k).Pairwise (fun a b => a.2 < b.2) := by
  have := List.pairwise_lt_range' (s := k) (n := l.length)
  rwa [← List.zipIdx_map_snd, List.pairwise_map] at this

omit [LinearOrder K] in
theorem sum_zipIdx (rows : List (Row K)) (k : Nat) (f : Row K → Nat → K) :
    ((rows.zipIdx k).map fun p => f p.1 p.2).sum
      = ∑ i ∈ Finset.range rows.length, f (rows.getD i []) (k + i) := by
  induction rows generalizing k with
  | nil => simp
  | cons r rows ih =>
    rw [List.zipIdx_cons, List.map_cons, List.sum_cons, ih (k + 1), List.length_cons,
      Finset.sum_range_succ', add_comm]
    simp only [List.getD_cons_succ, List.getD_cons_zero, Nat.add_zero, ← Nat.add_assoc,
      Nat.add_right_comm k 1]

omit [LinearOrder K] in
theorem sum_range_extend (f : Nat → K) {n m : Nat} (hnm : n ≤ m) (hz : ∀ i, n ≤ i → f i = 0) :
    ∑ i ∈ Finset.range m, f i = ∑ i ∈ Finset.range n, f i := by
  induction m, hnm using Nat.le_induction with
  | base => rfl
  | succ m hm ih => rw [Finset.sum_range_succ, ih, hz m hm, add_zero]

theorem den_discount_rows (t : List (Entry K)) (rows : List (Row K)) (n : Nat) (ht : WF n t)
    (j : Nat) :
    denE (discountLoop t rows.zipIdx t) j
      = denE t j - ∑ i ∈ Finset.range n, denE t i * denRows rows i j := by
  rw [den_discountLoop t rows.zipIdx t ht.1 (zipIdx_pairwise rows 0) j,
    sum_zipIdx rows 0 (fun r i => denE t i * denE r j)]
  simp only [Nat.zero_add, denRows]
  -- both sums extend to `max rows.length n`: missing rows are empty, and `t` vanishes from `n` on
  rw [← sum_range_extend (fun i => denE t i * denE (rows.getD i []) j)
      (le_max_left rows.length n) fun i hi => by
        show denE t i * denE (rows.getD i []) j = 0
        rw [List.getD_eq_getElem?_getD, List.getElem?_eq_none hi, Option.getD_none, denE_nil, mul_zero],
    sum_range_extend (fun i => denE t i * denE (rows.getD i []) j)
      (le_max_right rows.length n) fun i hi => by
        show denE t i * denE (rows.getD i []) j = 0
        rw [denE_eq_zero_of_ge ht.2 hi, zero_mul]]

/-! ### exact (entry-list) insensitivity to rows of zero-score peers -/

theorem discountLoop_nil_rows (t1 t : List (Entry K)) : discountLoop t1 [] t = t := by
  cases t1 <;> simp only [discountLoop]

theorem discountLoop_map_rows (f : Row K × Nat → Row K) (t1 : List (Entry K))
    (rows : List (Row K × Nat)) (t : List (Entry K)) (h1 : Sorted t1)
    (hr : rows.Pairwise (fun a b => a.2 < b.2))
    (hf : ∀ p ∈ rows, denE t1 p.2 ≠ 0 → f p = p.1) :
    discountLoop t1 (rows.map fun p => (f p, p.2)) t = discountLoop t1 rows t := by
  fun_induction discountLoop t1 rows t with
  | case1 rows t => rw [discountLoop]
  | case2 t1 t _ => exact discountLoop_nil_rows t1 t
  | case3 s t1 row d rows t hlt ih =>
    have hne : ∀ p ∈ (row, d) :: rows, s.idx ≠ p.2 := List.forall_mem_cons.mpr
      ⟨hlt.ne, fun p hp => (hlt.trans ((List.pairwise_cons.mp hr).1 p hp)).ne⟩
    rw [List.map_cons, discountLoop, if_pos hlt]
    exact ih h1.tail hr fun p hp h => hf p hp (by rwa [denE_cons_of_ne (hne p hp)])
  | case4 s t1 row rows t hlt ih =>
    have hr' := List.pairwise_cons.mp hr
    -- the row of the matching peer is either kept by `f` or multiplied by a zero score
    have hrow : (Vec.scale s.val ⟨0, f (row, s.idx)⟩).entries
        = (Vec.scale s.val ⟨0, row⟩).entries := by
      by_cases hz : s.val = 0
      · simp only [Vec.scale, hz, s_isZero, decide_true, if_true]
      · rw [hf (row, s.idx) List.mem_cons_self (by rwa [denE_of_mem h1 List.mem_cons_self])]
    rw [List.map_cons, discountLoop, if_neg hlt, if_pos rfl, hrow]
    exact ih h1.tail hr'.2 fun p hp h =>
      hf p (List.mem_cons_of_mem _ hp) (by rwa [denE_cons_of_ne (hr'.1 p hp).ne])
  | case5 s t1 row d rows t hlt hne ih =>
    rw [List.map_cons, discountLoop, if_neg hlt, if_neg hne]
    exact ih h1 (List.pairwise_cons.mp hr).2 fun p hp => hf p (List.mem_cons_of_mem _ hp)

omit [Field K] [LinearOrder K] in
theorem zipIdx_eq_map_of_length_eq (l l' : List (Row K)) (h : l'.length = l.length) :
    l'.zipIdx = l.zipIdx.map fun p => (l'.getD p.2 [], p.2) := by
  apply List.ext_getElem
  · rw [List.length_map, List.length_zipIdx, List.length_zipIdx, h]
  · intro j h1 _
    rw [List.length_zipIdx] at h1
    simp only [List.getElem_zipIdx, List.getElem_map, Nat.zero_add, List.getD_eq_getElem?_getD,
      List.getElem?_eq_getElem h1, Option.getD_some]

end EtVerif.Distrust
