/-
  Flat-tail statistics (`FlatTailStats.update`; `FlatTailChecker.Update` in the Go code) as a
  function of the sequence of observations `(ranking, squared delta)` fed to it, and the ranking
  (`rankOf`).

  * `ftFold obs`      — the statistics after feeding `obs` (oldest first) to a fresh checker;
  * `runs obs`        — the specification: `obs` split into maximal runs of equal consecutive
                        rankings, each run as `(ranking, delta at the head of the run, size)`;
  * `ftFold_eq_finish`, `finish_eq` — `ftFold obs = finish 1 (runs obs)` and `finish` in closed
                        form: the four statistics (Props/C18.lean) are read off them;
  * `trailing`        — size of the final run counted directly on the observation list
                        (used for the stop rule "identical for L+1 consecutive checks");
  * `sortByVal`/`rankOf` lemmas (sorted permutation, length).
-/
import EtVerif.Model.Basic
import EtVerif.Proofs.FieldScalar
import Mathlib.Data.List.Basic
import Mathlib.Data.List.Chain
import Mathlib.Data.List.Perm.Basic
import Mathlib.Data.List.Nodup

namespace EtVerif
open Scalar

theorem foldl_max_spec (l : List Nat) : ∀ θ : Nat,
    θ ≤ l.foldl max θ ∧ (∀ x ∈ l, x ≤ l.foldl max θ) ∧ (l.foldl max θ = θ ∨ l.foldl max θ ∈ l) := by
  induction l with
  | nil => intro θ; simp
  | cons a l ih =>
    intro θ
    obtain ⟨h1, h2, h3⟩ := ih (max θ a)
    rw [List.foldl_cons]
    refine ⟨le_trans (Nat.le_max_left θ a) h1, ?_, ?_⟩
    · intro x hx
      rcases List.mem_cons.mp hx with rfl | hx
      · exact le_trans (Nat.le_max_right θ x) h1
      · exact h2 x hx
    · rcases h3 with h3 | h3
      · rcases Nat.le_total θ a with hle | hle
        · right; rw [h3, Nat.max_eq_right hle]; exact List.mem_cons_self
        · left; rw [h3, Nat.max_eq_left hle]
      · right; exact List.mem_cons_of_mem _ h3

section general
variable {α : Type}

/-- Prepend a run, merging it with the first run when the rankings agree.  The merged run keeps
    the delta of the *prepended* run: `FlatTailStats.update` records the delta at the head of a
    run and leaves it alone while the ranking repeats. -/
def absorb (cur : List Nat × α × Nat) :
    List (List Nat × α × Nat) → List (List Nat × α × Nat)
  | [] => [cur]
  | (r1, d1, n1) :: tl =>
    if cur.1 = r1 then (cur.1, cur.2.1, cur.2.2 + n1) :: tl else cur :: (r1, d1, n1) :: tl

/-- The observation sequence split into maximal runs of equal consecutive rankings;
    a run is `(ranking, delta of the first observation of the run, number of observations)`.
    (`runs_flatten`, `runs_isChain`, `runs_pos`, `runs_head_delta` show that this is that
    decomposition.) -/
def runs : List (List Nat × α) → List (List Nat × α × Nat)
  | [] => []
  | (r, d) :: rest => absorb (r, d, 1) (runs rest)

theorem absorb_nil (cur : List Nat × α × Nat) : absorb cur [] = [cur] := rfl

theorem absorb_cons_same (r : List Nat) (d d1 : α) (n n1 : Nat) (tl : List (List Nat × α × Nat)) :
    absorb (r, d, n) ((r, d1, n1) :: tl) = (r, d, n + n1) :: tl :=
  if_pos rfl

theorem absorb_cons_ne {r r1 : List Nat} (h : r ≠ r1) (d d1 : α) (n n1 : Nat)
    (tl : List (List Nat × α × Nat)) :
    absorb (r, d, n) ((r1, d1, n1) :: tl) = (r, d, n) :: (r1, d1, n1) :: tl :=
  if_neg h

theorem absorb_absorb_same (r : List Nat) (δ d1 : α) (n m : Nat) (rs : List (List Nat × α × Nat)) :
    absorb (r, δ, n) (absorb (r, d1, m) rs) = absorb (r, δ, n + m) rs := by
  cases rs with
  | nil => exact absorb_cons_same ..
  | cons x tl =>
    obtain ⟨r2, d2, n2⟩ := x
    by_cases h : r = r2
    · subst h
      rw [absorb_cons_same, absorb_cons_same, absorb_cons_same, Nat.add_assoc]
    · rw [absorb_cons_ne h, absorb_cons_same, absorb_cons_ne h]

theorem absorb_head (r : List Nat) (d : α) (m : Nat) (rs : List (List Nat × α × Nat)) :
    ∃ n' tl, absorb (r, d, m) rs = (r, d, n') :: tl := by
  cases rs with
  | nil => exact ⟨m, [], rfl⟩
  | cons x tl =>
    obtain ⟨r2, d2, n2⟩ := x
    by_cases h : r = r2
    · subst h
      exact ⟨m + n2, tl, absorb_cons_same ..⟩
    · exact ⟨m, (r2, d2, n2) :: tl, absorb_cons_ne h ..⟩

theorem absorb_ne_nil (cur : List Nat × α × Nat) (rs : List (List Nat × α × Nat)) :
    absorb cur rs ≠ [] := by
  obtain ⟨r, d, m⟩ := cur
  obtain ⟨n', tl, h⟩ := absorb_head r d m rs
  rw [h]
  exact List.cons_ne_nil _ _

theorem runs_cons (r : List Nat) (d : α) (rest : List (List Nat × α)) :
    runs ((r, d) :: rest) = absorb (r, d, 1) (runs rest) := rfl

theorem runs_ne_nil {obs : List (List Nat × α)} (h : obs ≠ []) : runs obs ≠ [] := by
  cases obs with
  | nil => exact absurd rfl h
  | cons o rest => obtain ⟨r, d⟩ := o; exact absorb_ne_nil _ _

theorem runs_eq_nil_iff {obs : List (List Nat × α)} : runs obs = [] ↔ obs = [] := by
  constructor
  · intro h; by_contra hne; exact runs_ne_nil hne h
  · rintro rfl; rfl

/-! ### `runs` is the decomposition into maximal runs -/

theorem absorb_pos (cur : List Nat × α × Nat) (rs : List (List Nat × α × Nat))
    (hc : 1 ≤ cur.2.2) (h : ∀ x ∈ rs, 1 ≤ x.2.2) : ∀ x ∈ absorb cur rs, 1 ≤ x.2.2 := by
  obtain ⟨r, d, n⟩ := cur
  cases rs with
  | nil => exact List.forall_mem_singleton.mpr hc
  | cons y tl =>
    obtain ⟨r1, d1, n1⟩ := y
    by_cases hr : r = r1
    · subst hr
      rw [absorb_cons_same]
      exact List.forall_mem_cons.mpr ⟨Nat.le_add_right_of_le hc, (List.forall_mem_cons.mp h).2⟩
    · rw [absorb_cons_ne hr]
      exact List.forall_mem_cons.mpr ⟨hc, h⟩

theorem runs_pos (obs : List (List Nat × α)) : ∀ x ∈ runs obs, 1 ≤ x.2.2 := by
  induction obs with
  | nil => intro x hx; simp [runs] at hx
  | cons o rest ih => obtain ⟨r, d⟩ := o; exact absorb_pos _ _ (le_refl 1) ih

theorem runs_flatten (obs : List (List Nat × α)) :
    (runs obs).flatMap (fun x => List.replicate x.2.2 x.1) = obs.map (·.1) := by
  induction obs with
  | nil => rfl
  | cons o rest ih =>
    obtain ⟨r, d⟩ := o
    rw [runs_cons, List.map_cons, ← ih]
    cases runs rest with
    | nil => rfl
    | cons y tl =>
      obtain ⟨r1, d1, n1⟩ := y
      by_cases h : r = r1
      · subst h
        rw [absorb_cons_same, List.flatMap_cons, List.flatMap_cons, List.replicate_add]
        rfl
      · rw [absorb_cons_ne h]
        rfl

/-- Maximality of the runs. -/
theorem runs_isChain (obs : List (List Nat × α)) :
    (runs obs).IsChain (fun a b => a.1 ≠ b.1) := by
  induction obs with
  | nil => exact List.IsChain.nil
  | cons o rest ih =>
    obtain ⟨r, d⟩ := o
    rw [runs_cons]
    cases hr : runs rest with
    | nil => exact List.IsChain.singleton _
    | cons y tl =>
      obtain ⟨r1, d1, n1⟩ := y
      rw [hr] at ih
      by_cases h : r = r1
      · subst h
        rw [absorb_cons_same]
        cases tl with
        | nil => exact List.IsChain.singleton _
        | cons z tl' =>
          rw [List.isChain_cons_cons] at ih ⊢
          exact ih
      · rw [absorb_cons_ne h]
        exact List.IsChain.cons_cons h ih

/-- the delta recorded for a run is the delta of the observation at the head of the run:
    the run preceded by the runs `pre` starts at position `Σ sizes of pre`. -/
theorem runs_head_delta (obs : List (List Nat × α)) :
    ∀ (pre : List (List Nat × α × Nat)) (run : List Nat × α × Nat) (post : List (List Nat × α × Nat)),
      runs obs = pre ++ run :: post →
      obs[(pre.map (·.2.2)).sum]? = some (run.1, run.2.1) := by
  induction obs with
  | nil =>
    intro pre run post h
    exact absurd h.symm (List.append_ne_nil_of_right_ne_nil _ (List.cons_ne_nil _ _))
  | cons o rest ih =>
    obtain ⟨r, d⟩ := o
    intro pre run post h
    rw [runs_cons] at h
    -- the first run of `runs ((r, d) :: rest)` is `(r, d, _)`: for `pre = []` it is `run`
    cases pre with
    | nil =>
      obtain ⟨n', tl, ha⟩ := absorb_head r d 1 (runs rest)
      rw [ha] at h
      obtain ⟨rfl, _⟩ := List.cons.inj h
      rfl
    | cons p pre' =>
      -- otherwise `run` is a later run; shift the position by the observation `(r, d)`
      have hshift : ∀ m : Nat, ((r, d) :: rest)[1 + m]? = rest[m]? := fun m => by
        rw [Nat.add_comm, List.getElem?_cons_succ]
      cases hr : runs rest with
      | nil =>
        rw [hr] at h
        exact absurd (List.cons.inj h).2.symm
          (List.append_ne_nil_of_right_ne_nil _ (List.cons_ne_nil _ _))
      | cons y tl =>
        obtain ⟨r1, d1, n1⟩ := y
        rw [hr] at h ih
        by_cases hrr : r = r1
        · subst hrr
          rw [absorb_cons_same] at h
          obtain ⟨rfl, h2⟩ := List.cons.inj h
          have := ih ((r, d1, n1) :: pre') run post (by rw [h2]; rfl)
          rw [List.map_cons, List.sum_cons] at this ⊢
          rw [Nat.add_assoc, hshift]
          exact this
        · rw [absorb_cons_ne hrr] at h
          obtain ⟨rfl, h2⟩ := List.cons.inj h
          rw [List.map_cons, List.sum_cons, hshift]
          exact ih pre' run post h2

theorem FlatTailStats.update_same (ℓ θ : Nat) (δ d : α) (r : List Nat) :
    (⟨ℓ, θ, δ, some r⟩ : FlatTailStats α).update r d = ⟨ℓ + 1, θ, δ, some r⟩ :=
  if_pos rfl

theorem FlatTailStats.update_ne {s : FlatTailStats α} {r : List Nat} (h : s.ranking ≠ some r)
    (d : α) :
    s.update r d = ⟨0, if s.threshold ≤ s.length then s.length + 1 else s.threshold, d, some r⟩ :=
  if_neg h

theorem FlatTailStats.update_ranking (s : FlatTailStats α) (r : List Nat) (d : α) :
    (s.update r d).ranking = some r := by
  unfold FlatTailStats.update
  split
  · next h => exact h
  · rfl

variable [Scalar α]

/-- statistics after feeding the observations (oldest first) to a fresh `FlatTailChecker`. -/
def ftFold (obs : List (List Nat × α)) : FlatTailStats α :=
  obs.foldl (fun s o => s.update o.1 o.2) FlatTailStats.init

/-- statistics read off a list of runs, `θ` = threshold accumulated so far:
    every run that is followed by another one (a *broken* run) raises the threshold to its size. -/
def finish : Nat → List (List Nat × α × Nat) → FlatTailStats α
  | θ, [] => ⟨0, θ, one, none⟩
  | θ, [(r, d, n)] => ⟨n - 1, θ, d, some r⟩
  | θ, (_, _, n) :: x :: tl => finish (max θ n) (x :: tl)

/-- `ftFold_eq_finish` generalised, for the induction, to a state whose current run is
    `(r, δ, ℓ+1)`: `length` counts the repetitions, one less than the size of the run. -/
theorem foldl_update_eq (obs : List (List Nat × α)) :
    ∀ (ℓ θ : Nat) (δ : α) (r : List Nat),
      obs.foldl (fun s o => s.update o.1 o.2) (⟨ℓ, θ, δ, some r⟩ : FlatTailStats α)
        = finish θ (absorb (r, δ, ℓ + 1) (runs obs)) := by
  induction obs with
  | nil => intro ℓ θ δ r; rfl
  | cons o rest ih =>
    intro ℓ θ δ r
    obtain ⟨r1, d1⟩ := o
    rw [List.foldl_cons, runs_cons]
    by_cases h : r = r1
    · subst h
      simp only [FlatTailStats.update_same, ih, absorb_absorb_same]
    · -- a different ranking closes the run `(r, δ, ℓ+1)`, which raises the threshold
      have hm : (if θ ≤ ℓ then ℓ + 1 else θ) = max θ (ℓ + 1) := by
        split <;> omega
      have hne : (⟨ℓ, θ, δ, some r⟩ : FlatTailStats α).ranking ≠ some r1 :=
        fun h' => h (Option.some.inj h')
      obtain ⟨n', tl, ha⟩ := absorb_head r1 d1 1 (runs rest)
      simp only [FlatTailStats.update_ne hne, hm, ih, Nat.zero_add, ha, absorb_cons_ne h]
      rfl

theorem ftFold_eq_finish (obs : List (List Nat × α)) : ftFold obs = finish 1 (runs obs) := by
  cases obs with
  | nil => rfl
  | cons o rest =>
    obtain ⟨r, d⟩ := o
    unfold ftFold
    rw [List.foldl_cons]
    exact foldl_update_eq rest 0 1 d r

theorem ftFold_nil : ftFold ([] : List (List Nat × α)) = FlatTailStats.init := rfl

theorem ftFold_snoc (obs : List (List Nat × α)) (o : List Nat × α) :
    ftFold (obs ++ [o]) = (ftFold obs).update o.1 o.2 := by
  simp [ftFold, List.foldl_append]

theorem finish_eq (rs : List (List Nat × α × Nat)) (h : rs ≠ []) : ∀ θ,
    finish θ rs = ⟨(rs.getLast h).2.2 - 1, (rs.dropLast.map (·.2.2)).foldl max θ,
      (rs.getLast h).2.1, some (rs.getLast h).1⟩ := by
  induction rs with
  | nil => exact absurd rfl h
  | cons x tl ih =>
    intro θ
    obtain ⟨r, d, n⟩ := x
    cases tl with
    | nil => rfl
    | cons y tl' =>
      rw [finish, ih (List.cons_ne_nil y tl')]
      rfl

theorem ftFold_ranking_last (obs : List (List Nat × α)) :
    (ftFold obs).ranking = obs.getLast?.map (·.1) := by
  induction obs using List.reverseRecOn with
  | nil => rfl
  | append_singleton l o ih =>
    rw [ftFold_snoc]
    simp only [List.getLast?_append, List.getLast?_singleton, Option.some_or, Option.map_some]
    exact FlatTailStats.update_ranking ..

/-! ### the final run counted on the observation list -/

/-- number of trailing observations whose ranking equals the last one (0 for no observation). -/
def trailing (obs : List (List Nat × α)) : Nat :=
  match obs.reverse with
  | [] => 0
  | o :: rest => ((o :: rest).takeWhile (fun x => decide (x.1 = o.1))).length

omit [Scalar α] in
theorem trailing_snoc (obs : List (List Nat × α)) (o : List Nat × α) :
    trailing (obs ++ [o]) =
      if obs.getLast?.map (·.1) = some o.1 then trailing obs + 1 else 1 := by
  unfold trailing
  rw [List.reverse_append]
  simp only [List.reverse_cons, List.reverse_nil, List.nil_append, List.singleton_append]
  rw [List.getLast?_eq_head?_reverse]
  cases obs.reverse with
  | nil => simp
  | cons p rest =>
    by_cases h : p.1 = o.1
    · simp [h]
    · simp [h]

theorem ftFold_length_trailing (obs : List (List Nat × α)) (h : obs ≠ []) :
    (ftFold obs).length + 1 = trailing obs := by
  induction obs using List.reverseRecOn with
  | nil => exact absurd rfl h
  | append_singleton l o ih =>
    rw [ftFold_snoc, trailing_snoc, ← ftFold_ranking_last]
    unfold FlatTailStats.update
    by_cases hr : (ftFold l).ranking = some o.1
    · have hl : l ≠ [] := by
        rintro rfl
        simp [ftFold, FlatTailStats.init] at hr
      simp only [hr, if_true]
      rw [← ih hl]
    · simp [hr]

omit [Scalar α] in
theorem le_length_takeWhile_iff {β : Type} (p : β → Bool) (l : List β) :
    ∀ n, n ≤ (l.takeWhile p).length ↔ n ≤ l.length ∧ ∀ x ∈ l.take n, p x = true := by
  induction l with
  | nil => intro n; simp
  | cons a l ih =>
    intro n
    cases n with
    | zero => simp
    | succ n =>
      rw [List.take_succ_cons, List.forall_mem_cons]
      by_cases h : p a = true
      · rw [List.takeWhile_cons_of_pos h, List.length_cons, List.length_cons,
          Nat.succ_le_succ_iff, Nat.succ_le_succ_iff, ih n]
        exact ⟨fun ⟨h1, h2⟩ => ⟨h1, h, h2⟩, fun ⟨h1, _, h2⟩ => ⟨h1, h2⟩⟩
      · rw [List.takeWhile_cons_of_neg h]
        exact ⟨fun h' => absurd h' (Nat.not_succ_le_zero n), fun h' => absurd h'.2.1 h⟩

omit [Scalar α] in
/-- The stop rule "identical for `L+1` consecutive checks", stated on `trailing`. -/
theorem le_trailing_iff (obs : List (List Nat × α)) (L : Nat) :
    L + 1 ≤ trailing obs ↔
      L + 1 ≤ obs.length ∧ ∃ r, ∀ o ∈ obs.drop (obs.length - (L + 1)), o.1 = r := by
  unfold trailing
  cases h : obs.reverse with
  | nil =>
    have : obs = [] := by simpa using h
    subst this; simp
  | cons o rest =>
    have hlen : (o :: rest).length = obs.length := by rw [← h, List.length_reverse]
    have htake : ∀ x, x ∈ (o :: rest).take (L + 1) ↔ x ∈ obs.drop (obs.length - (L + 1)) := by
      intro x; rw [← h, List.take_reverse, List.mem_reverse]
    simp only
    rw [le_length_takeWhile_iff, hlen]
    constructor
    · rintro ⟨h1, h2⟩
      exact ⟨h1, o.1, fun x hx => by simpa using h2 x ((htake x).2 hx)⟩
    · rintro ⟨h1, r, h2⟩
      have ho : o.1 = r := h2 o ((htake o).1 (by simp))
      exact ⟨h1, fun x hx => by simpa [ho] using h2 x ((htake x).1 hx)⟩

end general

/-! ### `sortByVal`, `rankOf` -/

section rank
variable {α : Type} [Scalar α]

theorem insertByVal_perm (e : Entry α) (l : List (Entry α)) : (insertByVal e l).Perm (e :: l) := by
  induction l with
  | nil => exact List.Perm.refl _
  | cons x xs ih =>
    unfold insertByVal
    split
    · exact List.Perm.refl _
    · exact ((List.Perm.cons x ih).trans (List.Perm.swap e x xs))

theorem sortByVal_cons (e : Entry α) (l : List (Entry α)) :
    sortByVal (e :: l) = insertByVal e (sortByVal l) := rfl

theorem sortByVal_perm (l : List (Entry α)) : (sortByVal l).Perm l := by
  induction l with
  | nil => exact List.Perm.refl _
  | cons e l ih => exact (insertByVal_perm e _).trans (List.Perm.cons e ih)

theorem sortByVal_length (l : List (Entry α)) : (sortByVal l).length = l.length :=
  (sortByVal_perm l).length_eq

theorem rankOf_eq (t : List (Entry α)) (nl : Nat) :
    rankOf t nl = ((sortByVal t).drop (t.length - nl)).map (·.idx) := by
  unfold rankOf
  simp only [List.length_map, sortByVal_length, List.map_drop]
  split
  · rfl
  · have : t.length - nl = 0 := by omega
    simp [this]

theorem rankOf_length (t : List (Entry α)) (nl : Nat) :
    (rankOf t nl).length = min nl t.length := by
  rw [rankOf_eq, List.length_map, List.length_drop, sortByVal_length, Nat.sub_sub_eq_min,
    Nat.min_comm]

theorem rankOf_all (t : List (Entry α)) (nl : Nat) (h : t.length ≤ nl) :
    rankOf t nl = (sortByVal t).map (·.idx) := by
  rw [rankOf_eq]
  have : t.length - nl = 0 := by omega
  simp [this]

end rank

section rankK
variable {K : Type} [Field K] [LinearOrder K]

theorem insertByVal_sorted (e : Entry K) (l : List (Entry K))
    (h : l.Pairwise (fun a b => a.val ≤ b.val)) :
    (insertByVal e l).Pairwise (fun a b => a.val ≤ b.val) := by
  induction l with
  | nil => simp [insertByVal]
  | cons x xs ih =>
    have hx := List.pairwise_cons.mp h
    unfold insertByVal
    split
    · rename_i hlt
      have hlt' : e.val < x.val := by simpa using hlt
      refine List.pairwise_cons.mpr ⟨?_, h⟩
      intro b hb
      rcases List.mem_cons.mp hb with rfl | hb
      · exact le_of_lt hlt'
      · exact le_trans (le_of_lt hlt') (hx.1 b hb)
    · rename_i hlt
      have hle : x.val ≤ e.val := by simpa using hlt
      refine List.pairwise_cons.mpr ⟨?_, ih hx.2⟩
      intro b hb
      rcases List.mem_cons.mp ((insertByVal_perm e xs).mem_iff.mp hb) with rfl | hb
      · exact hle
      · exact hx.1 b hb

theorem sortByVal_sorted (l : List (Entry K)) :
    (sortByVal l).Pairwise (fun a b => a.val ≤ b.val) := by
  induction l with
  | nil => exact List.Pairwise.nil
  | cons e l ih => exact insertByVal_sorted e _ ih

theorem sortByVal_strict (l : List (Entry K)) (hval : l.Pairwise (fun a b => a.val ≠ b.val)) :
    (sortByVal l).Pairwise (fun a b => a.val < b.val) := by
  have hne : (sortByVal l).Pairwise (fun a b => a.val ≠ b.val) :=
    (List.Perm.pairwise_iff (fun h => Ne.symm h) (sortByVal_perm l)).mpr hval
  exact ((sortByVal_sorted l).and hne).imp (fun h => lt_of_le_of_ne h.1 h.2)

end rankK

end EtVerif
