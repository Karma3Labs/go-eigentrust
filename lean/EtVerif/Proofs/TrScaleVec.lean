/-
  Refinement of the translated `Vector.Assign`, `Vector.Clone` and `Vector.ScaleVec` (Gen/Translated.lean) to the
  hand-written model (`Vec.scale`), and what the callers need about `Vec.scale` (dimension, length).
-/
import EtVerif.Proofs.TrScale
namespace EtVerif.Tr
open EtVerif EtVerif.GoSem EtVerif.Gen Scalar
variable {α : Type} [Scalar α]

omit [Scalar α] in
theorem Vector_Assign_eq (w : GVector α) (v : Vec α) :
    Gen.Vector_Assign w (toGV v) = .ok (⟨toGV v, toGV v⟩, ()) := by
  simp [Gen.Vector_Assign, Vector_Assign.body, Stm.run, go_run, toGV]

omit [Scalar α] in
theorem Vector_Clone_eq (v : Vec α) :
    Gen.Vector_Clone (toGV v) = .ok (⟨toGV v⟩, toGV v) := by
  simp [Gen.Vector_Clone, Vector_Clone.body, Stm.run, go_run, toGV]

/-- Go `Vector.ScaleVec` = the model's `Vec.scale` (a == 0 clears; otherwise copy unless aliased, then scale in
    place). When the flag says "same object", the receiver's content is the operand's. -/
theorem Vector_ScaleVec_refines (w : GVector α) (a : α) (v1 : Vec α) (al : Bool)
    (hal : al = true → w = toGV v1) :
    (Gen.Vector_ScaleVec w a (toGV v1) al).map (fun r => r.1.v) = .ok (toGV (Vec.scale a v1)) := by
  cases ha : Scalar.eq a (Scalar.zero : α) with
  | true =>
    simp [Gen.Vector_ScaleVec, Vector_ScaleVec.body, Stm.run, go_run, Except.map, ha, Vec.scale, isZero, toGV]
  | false =>
    obtain ⟨r, hr, hrv⟩ := map_eq_ok (Vector_scaleInPlace_refines v1 a)
    have hA := Vector_Assign_eq w v1
    cases al with
    | true =>
      have := hal rfl
      subst this
      simp [Gen.Vector_ScaleVec, Vector_ScaleVec.body, Stm.run, go_run, Except.map, ha, hr, hrv, Vec.scale,
        isZero]
    | false =>
      simp [Gen.Vector_ScaleVec, Vector_ScaleVec.body, Stm.run, go_run, Except.map, ha, hA, hr, hrv, Vec.scale,
        isZero]

theorem scale_entries_dim (a : α) (n : Nat) (r : List (Entry α)) :
    (Vec.scale a ⟨n, r⟩).entries = (Vec.scale a ⟨0, r⟩).entries := by
  simp only [Vec.scale]
  split <;> rfl

theorem scale_dim (a : α) (v : Vec α) : (Vec.scale a v).dim = v.dim := by
  simp only [Vec.scale]
  split <;> rfl

theorem scale_entries_length_le (a : α) (v : Vec α) :
    (Vec.scale a v).entries.length ≤ v.entries.length := by
  simp only [Vec.scale, scaleEntries]
  split
  · simp
  · split
    · simp
    · exact List.length_filterMap_le _ _

end EtVerif.Tr
