/-
  Refinement of the translated `Vector.SetDim` and `CSMatrix.SetMinorDim` (Gen/Translated.lean)
  to the hand-written model `Vec.setDim` / `CSM.setMinorDim` (Model/Sparse.lean): the standard
  library's binary search `sort.Search` over index-sorted entries finds exactly the length of the
  model's `takeWhile (·.idx < dim)`.
-/
import EtVerif.Proofs.TrBridge
namespace EtVerif.Tr
open EtVerif EtVerif.GoSem EtVerif.Gen Scalar
variable {α : Type} [Scalar α]

/-- invariant of the binary search: the interval `[i, j]` contains the switch point `k` of `pred` and the
    fuel covers its width. -/
theorem goSearchAux_spec (pred : Int → R Bool) (n k : Nat)
    (hlo : ∀ i : Nat, i < k → pred (i : Int) = .ok false)
    (hhi : ∀ i : Nat, k ≤ i → i < n → pred (i : Int) = .ok true) :
    ∀ (fuel i j : Nat), i ≤ k → k ≤ j → j ≤ n → j ≤ i + fuel →
      goSearchAux pred fuel (i : Int) (j : Int) = .ok (k : Int) := by
  intro fuel
  induction fuel with
  | zero =>
    intro i j hi hj hn hf
    rw [Nat.le_antisymm hi (Nat.le_trans hj hf)]
    rfl
  | succ f ih =>
    intro i j hi hj hn hf
    rw [goSearchAux]
    by_cases hij : i < j
    · -- `i ≤ (i + j) / 2 < j`, so either half fits in the remaining fuel
      have hh : ((i : Int) + (j : Int)) / 2 = (((i + j) / 2 : Nat) : Int) := by
        rw [Int.natCast_ediv, Int.natCast_add]
        rfl
      rw [if_pos (Int.ofNat_lt.mpr hij), hh]
      by_cases hk : (i + j) / 2 < k
      · simp only [bind, Except.bind, hlo _ hk, Bool.not_false, if_true]
        exact ih ((i + j) / 2 + 1) j hk hj hn (by omega)
      · simp only [bind, Except.bind, hhi _ (Nat.not_lt.mp hk) (by omega), Bool.not_true]
        exact ih i ((i + j) / 2) hi (Nat.not_lt.mp hk) (by omega) (by omega)
    · rw [if_neg (fun h => hij (Int.ofNat_lt.mp h)), Nat.le_antisymm hi (Nat.le_trans hj (Nat.not_lt.mp hij))]
      rfl
/-- Go `sort.Search(n, pred)` for a monotone, non-panicking `pred`: the least index where `pred` holds
    (or `n`). -/
theorem goSearch_spec (pred : Int → R Bool) (n k : Nat) (hk : k ≤ n)
    (hlo : ∀ i : Nat, i < k → pred (i : Int) = .ok false)
    (hhi : ∀ i : Nat, k ≤ i → i < n → pred (i : Int) = .ok true) :
    goSearch (n : Int) pred = .ok (k : Int) := by
  have := goSearchAux_spec pred n k hlo hhi (n + 1) 0 n (Nat.zero_le _) hk (Nat.le_refl _) (by omega)
  simpa [goSearch] using this

omit [Scalar α] in
theorem sortedStrict_tail (a : Entry α) (t : List (Entry α)) (h : sortedStrict (a :: t) = true) :
    sortedStrict t = true := by
  cases t with
  | nil => rfl
  | cons b t => simp [sortedStrict] at h; exact h.2

omit [Scalar α] in
theorem sortedStrict_head_lt (t : List (Entry α)) :
    ∀ (a : Entry α), sortedStrict (a :: t) = true → ∀ x ∈ t, a.idx < x.idx := by
  induction t with
  | nil => intro a _ x hx; simp at hx
  | cons b t ih =>
    intro a h x hx
    simp [sortedStrict] at h
    rcases List.mem_cons.mp hx with rfl | hx
    · exact h.1
    · have := ih b h.2 x hx
      omega

omit [Scalar α] in
theorem takeWhile_split (d : Nat) (es : List (Entry α)) (hs : sortedStrict es = true) :
    ∀ (i : Nat) (h : i < es.length),
      (i < (es.takeWhile (·.idx < d)).length → es[i].idx < d) ∧
      ((es.takeWhile (·.idx < d)).length ≤ i → d ≤ es[i].idx) := by
  induction es with
  | nil => intro i h; simp at h
  | cons a t ih =>
    intro i h
    by_cases ha : a.idx < d
    · have hk : (a :: t).takeWhile (·.idx < d) = a :: t.takeWhile (·.idx < d) := by
        simp [ha]
      rw [hk, List.length_cons]
      cases i with
      | zero => simp [ha]
      | succ i =>
        have := ih (sortedStrict_tail a t hs) i (by simpa using h)
        simp only [List.getElem_cons_succ]
        constructor
        · intro h1; exact this.1 (by omega)
        · intro h1; exact this.2 (by omega)
    · have hk : (a :: t).takeWhile (·.idx < d) = [] := by
        simp [ha]
      rw [hk, List.length_nil]
      constructor
      · intro h1; omega
      · intro _
        cases i with
        | zero => simp; omega
        | succ i =>
          have hi : i < t.length := by simpa using h
          have := sortedStrict_head_lt t a hs t[i] (List.getElem_mem _)
          simp only [List.getElem_cons_succ]
          omega

theorem take_length_takeWhile {β : Type} (p : β → Bool) (l : List β) :
    l.take (l.takeWhile p).length = l.takeWhile p := by
  induction l with
  | nil => rfl
  | cons a t ih =>
    by_cases h : p a = true
    · simp [h, ih]
    · simp [h]

theorem goSlice_zero_take {β : Type} (l : List β) (k : Nat) (h : k ≤ l.length) :
    goSlice l 0 (k : Int) = .ok (l.take k) := by
  have : (k : Int) ≤ (l.length : Int) := by omega
  simp [goSlice, this]

omit [Scalar α] in
/-- the binary search of `SetDim` / `SetMinorDim` over index-sorted Go entries (any `pred` that
    behaves like `entries[i].Index >= dim` on the valid positions). -/
theorem search_entries (es : List (Entry α)) (d : Nat) (hs : sortedStrict es = true)
    (pred : Int → R Bool)
    (hp : ∀ (i : Nat) (h : i < es.length), pred (i : Int) = .ok (decide (d ≤ es[i].idx))) :
    goSearch ((es.length : Nat) : Int) pred =
      .ok (((es.takeWhile (·.idx < d)).length : Nat) : Int) := by
  apply goSearch_spec
  · exact (List.takeWhile_prefix _).length_le
  · intro i hi
    have hl : i < es.length := Nat.lt_of_lt_of_le hi (List.takeWhile_prefix _).length_le
    have := (takeWhile_split d es hs i hl).1 hi
    rw [hp i hl]
    simp only [Except.ok.injEq, decide_eq_false_iff_not]
    omega
  · intro i hi hl
    have := (takeWhile_split d es hs i hl).2 hi
    rw [hp i hl]
    simp only [Except.ok.injEq, decide_eq_true_eq]
    omega

theorem slice_entries (es : List (Entry α)) (d : Nat) :
    goSlice (toGs es) 0 (((es.takeWhile (·.idx < d)).length : Nat) : Int) =
      .ok (toGs (es.takeWhile (·.idx < d))) := by
  rw [goSlice_zero_take _ _ (by simpa using (List.takeWhile_prefix _).length_le)]
  simp only [toGs, ← List.map_take, take_length_takeWhile]

/-- Go `Vector.SetDim` (binary search for the first index ≥ dim, then truncate) = the model's `takeWhile`,
    for index-sorted entries. -/
theorem Vector_SetDim_refines (v : Vec α) (d : Nat) (hs : sortedStrict v.entries = true) :
    (Vector_SetDim (toGV v) (d : Int)).map (fun r => r.1.v) = .ok (toGV (v.setDim d)) := by
  by_cases hd : d < v.dim
  · have hd' : (d : Int) < (v.dim : Int) := by omega
    simp only [Vector_SetDim, Vector_SetDim.body, Stm.run, go_run, toGV_Dim, toGV_Entries, hd', decide_true,
      goLen_eq, toGs_length, Except.map]
    rw [search_entries v.entries d hs _ (by
      intro i hi
      rw [goIdx_ofNat _ _ (by simpa using hi)]
      simp [toGs])]
    simp [slice_entries, Vec.setDim, hd, toGV]
  · have hd' : ¬ ((d : Int) < (v.dim : Int)) := by omega
    simp [Vector_SetDim, Vector_SetDim.body, Stm.run, go_run, hd', Except.map, Vec.setDim, hd, toGV]

/-- one iteration: row number `pre.length` (re-read from the current matrix) is truncated in place. -/
theorem SetMinorDim_body_step (d : Nat) (pre : List (List (GEntry α))) (r : List (Entry α))
    (rest : List (List (GEntry α))) (s : CSMatrix_SetMinorDim.St α) (x : List (GEntry α))
    (he : s.m.Entries = pre ++ toGs r :: rest) (hd : s.dim = (d : Int)) (hs : sortedStrict r = true) :
    CSMatrix_SetMinorDim.loop1_body (CSMatrix_SetMinorDim.loop1_bind (pre.length : Int) x s) =
      .ok ({ s with
              maj := (pre.length : Int), entries := toGs r,
              end_ := (((r.takeWhile (·.idx < d)).length : Nat) : Int),
              m := { s.m with Entries := pre ++ toGs (r.takeWhile (·.idx < d)) :: rest } }, .next) := by
  simp only [CSMatrix_SetMinorDim.loop1_body, CSMatrix_SetMinorDim.loop1_bind, go_run, he, hd, goIdx_append_mid,
    goLen_eq, toGs_length]
  rw [search_entries r d hs _ (by
    intro i hi
    rw [goIdx_ofNat _ _ (by simpa using hi)]
    simp [toGs])]
  simp [slice_entries, goSet_append_mid, he]

/-- the loop: the ranged list `xs` is a snapshot of which only the length matters (the body re-reads the
    row from the current matrix); rows before `pre.length` are done, the rows `rest` are still to do. -/
theorem SetMinorDim_loop (d : Nat) (xs : List (List (GEntry α))) :
    ∀ (pre : List (List (GEntry α))) (rest : List (List (Entry α))) (s : CSMatrix_SetMinorDim.St α),
      xs.length = rest.length → s.m.Entries = pre ++ rest.map toGs → s.dim = (d : Int) →
      (∀ r ∈ rest, sortedStrict r = true) →
      ∃ s', Stm.range 1 CSMatrix_SetMinorDim.loop1_bind (CSMatrix_SetMinorDim.loop1_body (α := α))
          (pre.length : Int) xs s = .ok (s', .next) ∧
        s'.m.Entries = pre ++ rest.map (fun r => toGs (r.takeWhile (·.idx < d))) ∧
        s'.m.MajorDim = s.m.MajorDim ∧ s'.dim = s.dim := by
  induction xs with
  | nil =>
    intro pre rest s hl he hd hs
    have : rest = [] := by cases rest with
      | nil => rfl
      | cons _ _ => simp at hl
    subst this
    exact ⟨s, rfl, by simpa using he, rfl, rfl⟩
  | cons x xs ih =>
    intro pre rest s hl he hd hs
    cases rest with
    | nil => simp at hl
    | cons r rest =>
      have hl' : xs.length = rest.length := by simpa using hl
      have hb := SetMinorDim_body_step d pre r (rest.map toGs) s x (by simpa using he) hd
        (hs r (by simp))
      obtain ⟨s', h1, h2, h3, h4⟩ := ih (pre ++ [toGs (r.takeWhile (·.idx < d))]) rest
        { s with
            maj := (pre.length : Int), entries := toGs r,
            end_ := (((r.takeWhile (·.idx < d)).length : Nat) : Int),
            m := { s.m with Entries := pre ++ toGs (r.takeWhile (·.idx < d)) :: rest.map toGs } }
        hl' (by simp) hd (fun r' hr' => hs r' (by simp [hr']))
      refine ⟨s', ?_, ?_, ?_, ?_⟩
      · rw [range_cons_next hb]
        have : ((pre ++ [toGs (r.takeWhile (·.idx < d))]).length : Int) = (pre.length : Int) + 1 := by simp
        rw [this] at h1
        exact h1
      · simpa using h2
      · simpa using h3
      · simpa using h4

/-- Go `CSMatrix.SetMinorDim` = the model's `CSM.setMinorDim`, for matrices whose rows are index-sorted. -/
theorem CSMatrix_SetMinorDim_refines (m : CSM α) (d : Nat)
    (hs : ∀ r ∈ m.rows, sortedStrict r = true) :
    (CSMatrix_SetMinorDim (toGM m) (d : Int)).map (fun r => r.1.m) = .ok (toGM (m.setMinorDim d)) := by
  by_cases hd : d < m.minor
  · have hd' : (d : Int) < (m.minor : Int) := by omega
    obtain ⟨s', h1, h2, h3, h4⟩ := SetMinorDim_loop d (m.rows.map toGs) [] m.rows
      { m := toGM m, dim := (d : Int), maj := 0, entries := [], end_ := 0 } (by simp) (by simp) rfl hs
    simp only [List.length_nil, Int.natCast_zero] at h1
    simp only [CSMatrix_SetMinorDim, CSMatrix_SetMinorDim.body, Stm.run, go_run, Stm.rangeOver,
      CSMatrix_SetMinorDim.loop1_xs, toGM_MinorDim, toGM_Entries, hd', decide_true, h1, Except.map]
    simp only [List.nil_append] at h2
    simp only [toGM_MajorDim] at h3
    simp only [] at h4
    simp [CSM.setMinorDim, hd, toGM, h2, h3, h4]
  · have hd' : ¬ ((d : Int) < (m.minor : Int)) := by omega
    simp [CSMatrix_SetMinorDim, CSMatrix_SetMinorDim.body, Stm.run, go_run, hd', Except.map, CSM.setMinorDim,
      hd, toGM]

end EtVerif.Tr
