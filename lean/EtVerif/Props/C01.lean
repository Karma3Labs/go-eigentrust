/-
  C01 — "For every square row-stochastic local-trust matrix C, pre-trust distribution p,
  pre-trust strength a in (0,1] and threshold e>0, a compute that ends by convergence returns a
  vector t whose L1 distance from the unique solution t* of t = (1-a)*C^T*t + a*p is at most
  ((1-a)/a)*sqrt(n)*e."

  Dense real-analysis statement on `Fin n → ℝ` (`F C p a t = (1-a)·Cᵀt + a·p`).
  Property theorems only; helper lemmas live in Proofs/Dense.lean.
-/
import EtVerif.Proofs.Dense

namespace EtVerif.C01
open EtVerif.Dense

variable {n : ℕ}

/-- `Cᵀ` is L1-non-expansive for row-stochastic `C`. -/
theorem l1_contract (C : Fin n → Fin n → ℝ) (hC0 : ∀ i j, 0 ≤ C i j)
    (hC1 : ∀ i, ∑ j, C i j = 1) (x : Fin n → ℝ) :
    l1 (fun j => ∑ i, C i j * x i) ≤ l1 x :=
  (l1_mulT_le C 1 hC0 (fun i => (hC1 i).le) x).trans_eq (one_mul _)

example : l1 (fun j => ∑ i, exC i j * exT0 i) ≤ l1 exT0 :=
  l1_contract exC exC_nonneg exC_rowsum exT0

/-- The iteration map is an L1-contraction with factor `1-a`.  (`0 ≤ a` is not used by the
    proof.) -/
theorem F_contract (C : Fin n → Fin n → ℝ) (p : Fin n → ℝ) (a : ℝ)
    (hC0 : ∀ i j, 0 ≤ C i j) (hC1 : ∀ i, ∑ j, C i j = 1) (ha0 : 0 ≤ a) (ha1 : a ≤ 1)
    (x y : Fin n → ℝ) :
    l1 (F C p a x - F C p a y) ≤ (1 - a) * l1 (x - y) :=
  F_contract_sub C p a hC0 (fun i => (hC1 i).le) ha1 x y

example : l1 (F exC exP (1 / 2) exT0 - F exC exP (1 / 2) exP) ≤ (1 - 1 / 2) * l1 (exT0 - exP) :=
  F_contract exC exP (1 / 2) exC_nonneg exC_rowsum (by norm_num) (by norm_num) exT0 exP

/-- The equation `t = (1-a)·Cᵀt + a·p` has exactly one solution (no assumption on `p`). -/
theorem fixedpoint_exists_unique (C : Fin n → Fin n → ℝ) (p : Fin n → ℝ) (a : ℝ)
    (hC0 : ∀ i j, 0 ≤ C i j) (hC1 : ∀ i, ∑ j, C i j = 1) (ha0 : 0 < a) (ha1 : a ≤ 1) :
    ∃! t, t = F C p a t :=
  fixedpoint_exists_unique_le C p a 1 hC0 (fun i => (hC1 i).le) ha1
    (by rw [mul_one]; exact sub_lt_self 1 ha0)

example : ∃! t, t = F exC exP (1 / 2) t :=
  fixedpoint_exists_unique exC exP (1 / 2) exC_nonneg exC_rowsum (by norm_num) (by norm_num)

/-- If `p` is a distribution, so is the solution `t*`. -/
theorem fixedpoint_distribution (C : Fin n → Fin n → ℝ) (p : Fin n → ℝ) (a : ℝ)
    (hC0 : ∀ i j, 0 ≤ C i j) (hC1 : ∀ i, ∑ j, C i j = 1)
    (hp0 : ∀ i, 0 ≤ p i) (hp1 : ∑ i, p i = 1) (ha0 : 0 < a) (ha1 : a ≤ 1)
    (tstar : Fin n → ℝ) (hstar : tstar = F C p a tstar) :
    (∀ i, 0 ≤ tstar i) ∧ ∑ i, tstar i = 1 := by
  -- both `∑ t*` and `‖t*‖₁` satisfy `s ≤ (1-a)·s + a`, hence `‖t*‖₁ ≤ 1 = ∑ t*`
  have hs : ∑ i, tstar i = 1 := by
    have h := sum_F C p a hC1 tstar
    rw [← hstar, hp1] at h
    exact mul_left_cancel₀ ha0.ne' (by linarith)
  have hl : l1 tstar ≤ 1 := by
    have h := l1_F_le C p a hC0 (fun i => (hC1 i).le) ha0.le ha1 tstar
    rw [← hstar, l1_of_nonneg hp0, hp1] at h
    exact le_of_mul_le_mul_left (by linarith) ha0
  exact ⟨nonneg_of_l1_le_sum (hl.trans_eq hs.symm), hs⟩

example : (∀ i, 0 ≤ exP i) ∧ ∑ i, exP i = 1 :=
  fixedpoint_distribution exC exP (1 / 2) exC_nonneg exC_rowsum exP_nonneg exP_sum
    (by norm_num) (by norm_num) exP exP_fixed

/-- Cauchy–Schwarz: `‖x‖₁ ≤ √n·‖x‖₂`. -/
theorem l1_le_sqrt_mul_l2 (x : Fin n → ℝ) : l1 x ≤ Real.sqrt n * l2 x :=
  Dense.l1_le_sqrt_mul_l2 x

/-- **Main theorem of C01.**  `tstar` is the solution, `tk` is obtained from the previously
checked vector `tprev` by `f ≥ 1` iterations, and the convergence check `‖tk − tprev‖₂ ≤ e`
succeeded.  Then `‖tk − t*‖₁ ≤ ((1-a)/a)·√n·e`.  (`e > 0` is not needed.) -/
theorem stop_bound (C : Fin n → Fin n → ℝ) (p : Fin n → ℝ) (a e : ℝ)
    (hC0 : ∀ i j, 0 ≤ C i j) (hC1 : ∀ i, ∑ j, C i j = 1) (ha0 : 0 < a) (ha1 : a ≤ 1)
    (tstar tprev tk : Fin n → ℝ) (hstar : tstar = F C p a tstar)
    (f : ℕ) (hf : 1 ≤ f) (htk : tk = (F C p a)^[f] tprev)
    (hstop : l2 (tk - tprev) ≤ e) :
    l1 (tk - tstar) ≤ ((1 - a) / a) * Real.sqrt n * e := by
  subst htk
  have h := stop_bound_le C p a 1 e hC0 (fun i => (hC1 i).le) zero_le_one ha1
    (by rw [mul_one]; exact sub_lt_self 1 ha0) tstar tprev hstar f (Nat.one_le_iff_ne_zero.1 hf)
    hstop
  rwa [mul_one, sub_sub_cancel] at h

/-- non-vacuity: swap matrix, uniform `p`, `a = 1/2`, `t* = p`, one step from `(1,0)`, `e = 2`. -/
example : l1 (F exC exP (1 / 2) exT0 - exP) ≤ ((1 - 1 / 2) / (1 / 2)) * Real.sqrt (2 : ℕ) * 2 := by
  refine stop_bound exC exP (1 / 2) 2 exC_nonneg exC_rowsum (by norm_num) (by norm_num)
    exP exT0 (F exC exP (1 / 2) exT0) exP_fixed 1 le_rfl rfl ?_
  exact (l2_le_l1 _).trans (l1_F_sub_le_two exC exP (1 / 2) exC_nonneg exC_rowsum exP_nonneg
    exP_sum (by norm_num) (by norm_num) exT0 exT0_nonneg exT0_sum)

/-- Packaging for an arbitrary check schedule: the returned iterate is `t_{k+f}`, the vector it
was compared with is `t_k` (`k = 0`: the initial vector `t0`, at the first check; otherwise the
iterate at the previous check), `f ≥ 1` (`minIters` resp. `checkFreq`).  Whenever that check
succeeds the returned vector satisfies the bound. -/
theorem converged_bound (C : Fin n → Fin n → ℝ) (p : Fin n → ℝ) (a e : ℝ)
    (hC0 : ∀ i j, 0 ≤ C i j) (hC1 : ∀ i, ∑ j, C i j = 1) (ha0 : 0 < a) (ha1 : a ≤ 1)
    (tstar : Fin n → ℝ) (hstar : tstar = F C p a tstar)
    (t0 : Fin n → ℝ) (k f : ℕ) (hf : 1 ≤ f)
    (hstop : l2 ((F C p a)^[k + f] t0 - (F C p a)^[k] t0) ≤ e) :
    l1 ((F C p a)^[k + f] t0 - tstar) ≤ ((1 - a) / a) * Real.sqrt n * e := by
  have hk : (F C p a)^[k + f] t0 = (F C p a)^[f] ((F C p a)^[k] t0) := by
    rw [Nat.add_comm, Function.iterate_add_apply]
  exact stop_bound C p a e hC0 hC1 ha0 ha1 tstar ((F C p a)^[k] t0) ((F C p a)^[k + f] t0)
    hstar f hf hk hstop

/-- The bound relative to *the* unique solution, with existence and uniqueness bundled:
there is exactly one `t*`, and every converged return value is within the bound of it. -/
theorem converged_bound_unique (C : Fin n → Fin n → ℝ) (p : Fin n → ℝ) (a e : ℝ)
    (hC0 : ∀ i j, 0 ≤ C i j) (hC1 : ∀ i, ∑ j, C i j = 1) (ha0 : 0 < a) (ha1 : a ≤ 1) :
    ∃! tstar, tstar = F C p a tstar ∧
      ∀ (t0 : Fin n → ℝ) (k f : ℕ), 1 ≤ f →
        l2 ((F C p a)^[k + f] t0 - (F C p a)^[k] t0) ≤ e →
        l1 ((F C p a)^[k + f] t0 - tstar) ≤ ((1 - a) / a) * Real.sqrt n * e := by
  obtain ⟨tstar, hstar, huniq⟩ := fixedpoint_exists_unique C p a hC0 hC1 ha0 ha1
  refine ⟨tstar, ⟨hstar, ?_⟩, fun t' ht' => huniq t' ht'.1⟩
  intro t0 k f hf hstop
  exact converged_bound C p a e hC0 hC1 ha0 ha1 tstar hstar t0 k f hf hstop

example : l2 ((F exC exP (1 / 2))^[0 + 1] exT0 - (F exC exP (1 / 2))^[0] exT0) ≤ 2 :=
  (l2_le_l1 _).trans (l1_F_sub_le_two exC exP (1 / 2) exC_nonneg exC_rowsum exP_nonneg
    exP_sum (by norm_num) (by norm_num) exT0 exT0_nonneg exT0_sum)

end EtVerif.C01
