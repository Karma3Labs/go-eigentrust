/-
  C06 — Results are bit-for-bit deterministic and schedule independent: the parallel
  matrix-vector product equals the row-by-row sequential product exactly, with entries in
  index order.

  Property theorems only.  The goroutine transition system (`Cfg`, `St`, `Step`, `Reach`), its
  invariants and the sorting lemmas live in Proofs/MulVecConc.lean and Proofs/SortPerm.lean.

  Reading guide: `Reach ⟨shape, dim, w, prod, isZ, sortFn⟩ s` = state `s` is reachable from the
  initial state of a `MulVec` call with `dim` rows and `w` workers under ANY interleaving of
  producer, workers, closer, collector and (any number of) `ctx` cancellations;
  `prod r` = the value of ONE sequential `VecDot(m.RowVector(r), v1)`; `isZ` = `== 0`;
  `sortFn` = `sort.Sort(EntriesByIndex(·))`, of which only `IsSortFn` (a sorted permutation) is used.
-/
import EtVerif.Proofs.MulVecConc
import EtVerif.Gen.Facts

namespace EtVerif.C06
open EtVerif EtVerif.MulVecConc

variable {β : Type}

/-! ### the collected multiset determines the published list -/

/-- Whatever order the entries arrive in, sorting them gives the sequential list: `arr` is any
    permutation of the tagged non-zero row products. -/
theorem collect_perm_invariant (dim : Nat) (prod : Nat → β) (isZ : β → Bool)
    (sortFn : List (Nat × β) → List (Nat × β)) (hs : IsSortFn sortFn) (arr : List (Nat × β))
    (harr : arr.Perm (((List.range dim).map (fun r => (r, prod r))).filter (fun x => !isZ x.2))) :
    sortFn arr = ((List.range dim).map (fun r => (r, prod r))).filter (fun x => !isZ x.2) :=
  sortFn_eq_seqList hs dim prod isZ arr harr

/-- The same when the zero products are dropped after permuting (as the collector does). -/
theorem collect_perm_invariant' (dim : Nat) (prod : Nat → β) (isZ : β → Bool)
    (sortFn : List (Nat × β) → List (Nat × β)) (hs : IsSortFn sortFn) (arr : List (Nat × β))
    (harr : arr.Perm ((List.range dim).map (fun r => (r, prod r)))) :
    sortFn (arr.filter (fun x => !isZ x.2)) =
      ((List.range dim).map (fun r => (r, prod r))).filter (fun x => !isZ x.2) :=
  sortFn_eq_seqList hs dim prod isZ _ (perm_filter_of_perm_full isZ harr)

/-- The hypothesis on the sort is satisfiable: insertion sort is a sorted permutation, and so is
    the executable model's `sortByIdx` (transported to tagged pairs). -/
theorem sort_hypothesis_satisfiable {α : Type} :
    IsSortFn (isortFst (β := β)) ∧ IsSortFn (sortByIdxPairs (α := α)) :=
  ⟨isortFst_isSortFn, sortByIdxPairs_isSortFn⟩

/-- Exact correspondence with the model: with `prod r := vecDot (rows.getD r []) v` and
    `isZ := Scalar.isZero`, the sequential list of tagged pairs IS `mulVecEntries rows v`
    (pair `(i, x)` ↔ `Entry.mk i x`), over any `Scalar`. -/
theorem seq_is_mulVecEntries {α : Type} [Scalar α] (rows : List (Row α)) (v : List (Entry α)) :
    (((List.range rows.length).map (fun r => (r, vecDot (rows.getD r []) v))).filter
        (fun x => !Scalar.isZero x.2)).map (fun p => (⟨p.1, p.2⟩ : Entry α)) =
      mulVecEntries rows v ∧
    (mulVecEntries rows v).map (fun e => (e.idx, e.val)) =
      ((List.range rows.length).map (fun r => (r, vecDot (rows.getD r []) v))).filter
        (fun x => !Scalar.isZero x.2) :=
  ⟨(mulVecEntries_eq_seqList rows v).symm, (seqList_eq_mulVecEntries rows v).symm⟩

/-- Model-level form: the model's `sortByIdx` applied to ANY permutation of the sequential
    product returns the sequential product. -/
theorem sortByIdx_of_perm_mulVecEntries {α : Type} [Scalar α] (rows : List (Row α))
    (v : List (Entry α)) (es : List (Entry α)) (h : es.Perm (mulVecEntries rows v)) :
    sortByIdx es = mulVecEntries rows v := by
  have h1 : (es.map ofEntry).Perm (seqList rows.length (rowProd rows v) (fun x => Scalar.isZero x)) := by
    rw [seqList_eq_mulVecEntries]; exact h.map _
  have h2 := sortFn_eq_seqList (sortByIdxPairs_isSortFn (α := α)) _ _ _ _ h1
  unfold sortByIdxPairs at h2
  rw [map_toEntry_map_ofEntry] at h2
  have h3 := congrArg (List.map toEntry) h2
  rw [map_toEntry_map_ofEntry, ← mulVecEntries_eq_seqList] at h3
  exact h3

/-! ### schedule independence -/

/-- For a shape with `deterministicCollect`, any number of rows, any `w ≥ 1` workers and any
    interleaving: if `ctx` has not been cancelled and the collector has returned, it returned
    `nil` and the receiver holds exactly the sequential product, in index order. -/
theorem mulVec_schedule_independent (shape : MulVecShape) (dim w : Nat) (prod : Nat → β)
    (isZ : β → Bool) (sortFn : List (Nat × β) → List (Nat × β))
    (hdet : shape.deterministicCollect = true) (hs : IsSortFn sortFn) (hw : 1 ≤ w)
    (s : St β) (hr : Reach ⟨shape, dim, w, prod, isZ, sortFn⟩ s) (hnc : s.cancelled = false)
    (r : Except Unit (List (Nat × β))) (hres : s.result = some r) :
    r = .ok (((List.range dim).map (fun r => (r, prod r))).filter (fun x => !isZ x.2)) ∧
    s.out = some (((List.range dim).map (fun r => (r, prod r))).filter (fun x => !isZ x.2)) :=
  (good_of_reach (detHyp_of hdet dim w prod isZ hs hw) hr).rinv.uncancelled hnc hres

/-- The same with the worker count of the shape itself (32 in the source). -/
theorem mulVec_schedule_independent_numWorkers (shape : MulVecShape) (dim : Nat) (prod : Nat → β)
    (isZ : β → Bool) (sortFn : List (Nat × β) → List (Nat × β))
    (hdet : shape.deterministicCollect = true) (hs : IsSortFn sortFn)
    (s : St β) (hr : Reach ⟨shape, dim, shape.numWorkers, prod, isZ, sortFn⟩ s)
    (hnc : s.cancelled = false) (r : Except Unit (List (Nat × β))) (hres : s.result = some r) :
    r = .ok (((List.range dim).map (fun r => (r, prod r))).filter (fun x => !isZ x.2)) :=
  (mulVec_schedule_independent shape dim shape.numWorkers prod isZ sortFn hdet hs
    (numWorkers_of_det hdet) s hr hnc r hres).1

/-- Model-level form, over any `Scalar`: every uncancelled schedule of the parallel code
    publishes exactly `mulVecEntries m.rows v` (the sequential model), with the model's sort. -/
theorem mulVec_schedule_independent_model {α : Type} [Scalar α] (shape : MulVecShape)
    (rows : List (Row α)) (v : List (Entry α)) (w : Nat)
    (hdet : shape.deterministicCollect = true) (hw : 1 ≤ w) (s : St α)
    (hr : Reach ⟨shape, rows.length, w, fun r => vecDot (rows.getD r []) v,
      fun x => Scalar.isZero x, sortByIdxPairs⟩ s)
    (hnc : s.cancelled = false) (r : Except Unit (List (Nat × α))) (hres : s.result = some r) :
    ∃ l, r = .ok l ∧ l.map (fun p => (⟨p.1, p.2⟩ : Entry α)) = mulVecEntries rows v := by
  obtain ⟨h1, _⟩ := mulVec_schedule_independent shape rows.length w _ _ _ hdet
    sortByIdxPairs_isSortFn hw s hr hnc r hres
  exact ⟨_, h1, (seq_is_mulVecEntries rows v).1⟩

/-- Tie to the source: the shape `tools/gofacts` extracted from /repo has every structural fact
    the determinism argument needs (re-checked against the regenerated `Gen/Facts.lean`). -/
theorem source_deterministicCollect : Facts.mulVecShape.deterministicCollect = true := by decide

/-- Schedule independence of the source as extracted: its shape, its worker count, the model's
    `vecDot`, zero test and sort. -/
theorem mulVec_schedule_independent_source {α : Type} [Scalar α] (rows : List (Row α))
    (v : List (Entry α)) (s : St α)
    (hr : Reach ⟨Facts.mulVecShape, rows.length, Facts.mulVecShape.numWorkers,
      fun r => vecDot (rows.getD r []) v, fun x => Scalar.isZero x, sortByIdxPairs⟩ s)
    (hnc : s.cancelled = false) (r : Except Unit (List (Nat × α))) (hres : s.result = some r) :
    ∃ l, r = .ok l ∧ l.map (fun p => (⟨p.1, p.2⟩ : Entry α)) = mulVecEntries rows v :=
  mulVec_schedule_independent_model Facts.mulVecShape rows v _ source_deterministicCollect
    (numWorkers_of_det source_deterministicCollect) s hr hnc r hres

/-! ### no deadlock, termination -/

/-- While the collector has not returned, some goroutine (not the environment) can move —
    in every reachable state, cancelled or not. -/
theorem mulVec_no_deadlock (shape : MulVecShape) (dim w : Nat) (prod : Nat → β)
    (isZ : β → Bool) (sortFn : List (Nat × β) → List (Nat × β))
    (hclose : shape.producerClosesJobs = true) (hjc : shape.jobsCap = .dim)
    (hec : shape.entriesCap = .dim) (s : St β)
    (hr : Reach ⟨shape, dim, w, prod, isZ, sortFn⟩ s) (hres : s.result = none) :
    ∃ a s', a ≠ Actor.env ∧ Step ⟨shape, dim, w, prod, isZ, sortFn⟩ a s s' :=
  no_deadlock ⟨hclose, hjc, hec⟩ hr hres

/-- Every non-environment step strictly decreases a natural-number work: every execution
    performs finitely many goroutine steps (at most `work` of the initial state). -/
theorem mulVec_terminates (shape : MulVecShape) (dim w : Nat) (prod : Nat → β)
    (isZ : β → Bool) (sortFn : List (Nat × β) → List (Nat × β)) (a : Actor) (s s' : St β)
    (hstep : Step ⟨shape, dim, w, prod, isZ, sortFn⟩ a s s') (ha : a ≠ Actor.env) :
    work ⟨shape, dim, w, prod, isZ, sortFn⟩ s' < work ⟨shape, dim, w, prod, isZ, sortFn⟩ s :=
  work_step hstep ha

/-- the work of the initial state: an explicit bound on the number of goroutine steps -/
theorem mulVec_steps_bound (shape : MulVecShape) (dim w : Nat) (prod : Nat → β)
    (isZ : β → Bool) (sortFn : List (Nat × β) → List (Nat × β)) :
    work ⟨shape, dim, w, prod, isZ, sortFn⟩ (init ⟨shape, dim, w, prod, isZ, sortFn⟩) =
      4 * dim + w + 3 := by
  simp only [work, workNC, init, Nat.sub_zero, Bool.false_eq_true, if_false, List.length_nil,
    Nat.mul_zero, Nat.add_zero, Option.isSome_none]
  rw [Nat.add_right_comm _ 1 w]

/-! ### non-vacuity -/

/-- the hypotheses are satisfiable by a concrete shape and sort -/
example : safeShape.deterministicCollect = true ∧ IsSortFn (isortFst (β := Nat)) ∧
    safeShape.producerClosesJobs = true ∧ safeShape.jobsCap = .dim ∧ safeShape.entriesCap = .dim :=
  ⟨by decide, isortFst_isSortFn, rfl, rfl, rfl⟩

/-- a concrete complete uncancelled run (2 rows, 2 workers) in which row 1 overtakes row 0:
    the collector's slice is `[(1,2),(0,1)]`, the published list `[(0,1),(1,2)]` -/
example : ∃ s, Reach exCfg s ∧ s.cancelled = false ∧ s.got = [(1, 2), (0, 1)] ∧
    s.result = some (.ok [(0, 1), (1, 2)]) ∧ s.out = some [(0, 1), (1, 2)] ∧ AllDone exCfg s :=
  exCfg_run

/-- `collect_perm_invariant` on the out-of-order arrival of that run -/
example : isortFst [((1 : Nat), (2 : Nat)), (0, 1)] = [(0, 1), (1, 2)] := by decide

end EtVerif.C06
