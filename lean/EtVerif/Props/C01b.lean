/-
  C01 (glue) — the sparse model of `Compute` over ℝ refines the dense iteration analysed in
  Props/C01, and therefore a `compute` that ends by convergence returns a vector whose L1 distance
  from the unique solution `t*` of `t = (1-a)·Cᵀt + a·p` is at most `((1-a)/a)·√n·e`.

  Property theorems only; helper lemmas live in Proofs/StepRefine.lean (sparse side) and
  Proofs/Dense.lean (analysis).

  Vocabulary: `toDense n es` = the dense vector `Fin n → ℝ` an entry list denotes;
  `denseC n c` = the dense `n × n` matrix a sparse matrix denotes; `Dense.F C p a t = (1-a)·Cᵀt + a·p`;
  `Dense.l1`, `Dense.l2` = the L1 / Euclidean norms; `Canon`, `Dist` from Proofs/StepRefine.lean,
  `iterate`, `deltaSq` from Proofs/Loop.lean, `WF`, `Sorted` from Proofs/Vec.lean.
-/
import EtVerif.Proofs.StepRefine
import EtVerif.Props.C01

namespace EtVerif.C01b
open EtVerif EtVerif.Dense Scalar

noncomputable def toDense (n : Nat) (es : List (Entry ℝ)) : Fin n → ℝ := fun i => denE es i

noncomputable def denseC (n : Nat) (c : CSM ℝ) : Fin n → Fin n → ℝ :=
  fun i j => denRows c.rows i j

/-! ## the sparse step / iterate is the dense step / iterate -/

/-- One loop body of the sparse model is `Dense.F` on the denoted dense data (any `a`, `p`). -/
theorem step_refines (n : Nat) (c : CSM ℝ) (hw : WFM c) (hmaj : c.major = n) (p : Vec ℝ) (a : ℝ)
    (t : List (Entry ℝ)) (ht : Sorted t) :
    toDense n (stepEntries c.transpose.rows (Vec.scale a p).entries (1 - a) t)
      = F (denseC n c) (toDense n p.entries) a (toDense n t) := by
  funext j
  simp only [toDense, F, denseC]
  rw [SR.step_den hw p a ht, hmaj, Finset.sum_range]

theorem iterate_refines (n : Nat) (c : CSM ℝ) (p : Vec ℝ) (hc : Canon n c p) (a : ℝ)
    (t0 : List (Entry ℝ)) (ht0 : Sorted t0) (k : Nat) :
    toDense n (iterate c.transpose.rows (Vec.scale a p).entries (1 - a) k t0)
      = (F (denseC n c) (toDense n p.entries) a)^[k] (toDense n t0) := by
  induction k with
  | zero => rfl
  | succ k ih =>
    have hs : Sorted (iterate c.transpose.rows (Vec.scale a p).entries (1 - a) k t0) := by
      cases k with
      | zero => exact ht0
      | succ k =>
        rw [iterate_succ]
        exact (SR.step_wf hc.minor_eq hc.dim_eq hc.dist.1 a _).1
    rw [iterate_succ, step_refines n c hc.wfm hc.major_eq p a _ hs, ih,
      Function.iterate_succ_apply']

/-! ## canonical sparse inputs denote row-stochastic dense inputs -/

theorem denseC_nonneg (n : Nat) (c : CSM ℝ) (p : Vec ℝ) (hc : Canon n c p) :
    ∀ i j, 0 ≤ denseC n c i j :=
  fun i j => SR.denRows_nonneg hc.nonneg i j

theorem denseC_rowsum (n : Nat) (c : CSM ℝ) (p : Vec ℝ) (hc : Canon n c p) :
    ∀ i, ∑ j, denseC n c i j = 1 := by
  intro i
  have h := SR.denRows_rowsum hc i.isLt
  rw [Finset.sum_range] at h
  exact h

theorem toDense_dist (n : Nat) (t : List (Entry ℝ)) (h : Dist n t) :
    (∀ i, 0 ≤ toDense n t i) ∧ ∑ i, toDense n t i = 1 := by
  refine ⟨fun i => SR.denE_nonneg h.2.1 i, ?_⟩
  have := sum_denE h.1.2
  rw [Finset.sum_range, h.2.2] at this
  exact this

/-! ## the convergence verdict is `‖x − y‖₂ ≤ e` -/

/-- `ConvergenceChecker`: for well-formed vectors and a threshold `e ≥ 0`, the model's verdict
    `sqrt dsq ≤ e` on its squared delta is exactly `‖x − y‖₂ ≤ e` for the denoted vectors. -/
theorem check_iff_l2 (n : Nat) (x y : List (Entry ℝ)) (hx : WF n x) (hy : WF n y) (e : ℝ)
    (he : 0 ≤ e) :
    sqrtLe (deltaSq x y) e = true ↔ l2 (toDense n x - toDense n y) ≤ e := by
  simp only [s_sqrtLe, decide_eq_true_eq]
  rw [SR.deltaSq_eq hx hy, Finset.sum_range]
  unfold l2
  rw [Real.sqrt_le_left he, sq]
  rfl

/-- **C01 for the sparse model.**  Canonical `c`, `p` of dimension `n`, `0 < a`; the initial
    vector, when one is given, is well-formed (its dimension, `a ≤ 1` and `0 < e` are validated by
    `compute` itself).  If `compute` — with any fuel, check schedule, iteration limit and
    flat-tail setting — succeeds and ended by its exit criteria, the returned vector is within
    `((1-a)/a)·√n·e` (L1) of every — hence of the unique — solution `t*` of
    `t = (1-a)·Cᵀt + a·p`. -/
theorem compute_converged_bound (n fuel : Nat) (c : CSM ℝ) (p : Vec ℝ) (a e : ℝ)
    (o : ComputeOpts ℝ) (hc : Canon n c p) (ha0 : 0 < a)
    (ht0 : ∀ t0, o.t0 = some t0 → WF n t0.entries)
    (r : ComputeResult ℝ) (h : compute fuel c p a e o = .ok r) (hcr : r.endedBy = .criteria)
    (tstar : Fin n → ℝ) (hstar : tstar = F (denseC n c) (toDense n p.entries) a tstar) :
    l1 (toDense n r.t.entries - tstar) ≤ ((1 - a) / a) * Real.sqrt n * e := by
  obtain ⟨hv, K', hlt, ht, hchk⟩ := SR.compute_criteria_inv fuel c p a e o r h hcr
  simp only [s_sub, s_one] at ht hchk
  have ha1 := hv.alpha_le_one
  have he := hv.epsilon_pos
  have hstart : WF n (o.t0.getD p).entries := by
    cases h0 : o.t0 with
    | none => exact hc.dist.1
    | some t0 => exact ht0 t0 h0
  have hwf := SR.wf_iterate hc a hstart
  have hl2 := (check_iff_l2 n _ _ (hwf r.iters) (hwf K') e he.le).mp hchk
  rw [iterate_refines n c p hc a _ hstart.1,
    iterate_refines n c p hc a _ hstart.1] at hl2
  obtain ⟨f, hf, hf1⟩ : ∃ f, r.iters = K' + f ∧ 1 ≤ f := ⟨r.iters - K', by omega, by omega⟩
  rw [ht]
  simp only
  rw [iterate_refines n c p hc a _ hstart.1, hf]
  rw [hf] at hl2
  exact C01.converged_bound (denseC n c) (toDense n p.entries) a e (denseC_nonneg n c p hc)
    (denseC_rowsum n c p hc) ha0 ha1 tstar hstar _ K' f hf1 hl2

/-- The same with existence and uniqueness of the solution bundled: there is exactly one `t*`,
    and the converged return value is within the bound of it. -/
theorem compute_converged_bound_unique (n fuel : Nat) (c : CSM ℝ) (p : Vec ℝ) (a e : ℝ)
    (o : ComputeOpts ℝ) (hc : Canon n c p) (ha0 : 0 < a)
    (ht0 : ∀ t0, o.t0 = some t0 → WF n t0.entries)
    (r : ComputeResult ℝ) (h : compute fuel c p a e o = .ok r) (hcr : r.endedBy = .criteria) :
    ∃! tstar : Fin n → ℝ, tstar = F (denseC n c) (toDense n p.entries) a tstar ∧
      l1 (toDense n r.t.entries - tstar) ≤ ((1 - a) / a) * Real.sqrt n * e := by
  have ha1 := (C05.compute_spec fuel c p a e o r h).1.alpha_le_one
  obtain ⟨tstar, hstar, huniq⟩ := C01.fixedpoint_exists_unique (denseC n c) (toDense n p.entries) a
    (denseC_nonneg n c p hc) (denseC_rowsum n c p hc) ha0 ha1
  exact ⟨tstar, ⟨hstar, compute_converged_bound n fuel c p a e o hc ha0 ht0 r h hcr tstar hstar⟩,
    fun t' ht' => huniq t' ht'.1⟩

/-- The solution `t*` is itself a distribution (so the bound compares two distributions). -/
theorem fixedpoint_dist (n : Nat) (c : CSM ℝ) (p : Vec ℝ) (a : ℝ) (hc : Canon n c p)
    (ha0 : 0 < a) (ha1 : a ≤ 1) (tstar : Fin n → ℝ)
    (hstar : tstar = F (denseC n c) (toDense n p.entries) a tstar) :
    (∀ i, 0 ≤ tstar i) ∧ ∑ i, tstar i = 1 :=
  C01.fixedpoint_distribution (denseC n c) (toDense n p.entries) a (denseC_nonneg n c p hc)
    (denseC_rowsum n c p hc) (toDense_dist n p.entries hc.dist).1 (toDense_dist n p.entries hc.dist).2
    ha0 ha1 tstar hstar

/-! ## non-vacuity: two peers trusting each other, uniform pre-trust, over ℝ -/

section examples

/-- `C = [[0,1],[1,0]]` -/
private def c2 : CSM ℝ := ⟨2, 2, [[⟨1, 1⟩], [⟨0, 1⟩]], []⟩
/-- `p = (1/2, 1/2)` -/
private noncomputable def p2 : Vec ℝ := ⟨2, [⟨0, 1/2⟩, ⟨1, 1/2⟩]⟩

private theorem canon2 : Canon 2 c2 p2 := canon_two_peers

example : WFM c2 ∧ c2.major = 2 ∧ Sorted p2.entries := ⟨canon2.wfm, rfl, canon2.dist.1.1⟩

example : toDense 2 (stepEntries c2.transpose.rows (Vec.scale (1/3) p2).entries (1 - 1/3) p2.entries)
    = F (denseC 2 c2) (toDense 2 p2.entries) (1/3) (toDense 2 p2.entries) :=
  step_refines 2 c2 canon2.wfm rfl p2 (1/3) _ canon2.dist.1.1

/-- the uniform vector is not moved by a step (it is the solution `t*`) -/
private theorem step_p2 (j : Nat) :
    denE (stepEntries c2.transpose.rows (Vec.scale (1/3) p2).entries (1 - 1/3) p2.entries) j
      = denE p2.entries j := by
  -- `Cᵀ p = p`, so `(1 - a)·Cᵀp + a·p = p`
  have hs : ∑ i ∈ Finset.range 2, denRows c2.rows i j * denE p2.entries i = denE p2.entries j := by
    rw [Finset.sum_range_succ, Finset.sum_range_one]
    simp only [denRows, c2, p2, List.getD_cons_zero, List.getD_cons_succ, denE_cons, denE_nil]
    rcases j with _ | _ | j <;> simp
  rw [SR.step_den canon2.wfm p2 (1/3) canon2.dist.1.1, show c2.major = 2 from rfl, hs]
  ring

private theorem valid2 : ValidInput c2 p2 (1/3) (1/10) {} := by
  refine ⟨rfl, by decide, rfl, nofun, nofun, ?_, ?_, ?_, by decide, by decide, by decide⟩
  · exact decide_eq_false (by norm_num)
  · exact decide_eq_false (by norm_num)
  · exact decide_eq_false (by norm_num)

/-- a `compute` over ℝ satisfying every hypothesis of `compute_converged_bound`: it ends by the
    criteria (at the first check) -/
example : ∃ r, compute 5 c2 p2 (1/3) (1/10) {} = .ok r ∧ r.endedBy = .criteria ∧
    ∀ tstar, tstar = F (denseC 2 c2) (toDense 2 p2.entries) (1/3) tstar →
      l1 (toDense 2 r.t.entries - tstar) ≤ ((1 - 1/3) / (1/3)) * Real.sqrt (2 : ℕ) * (1/10) := by
  have hz : deltaSq (stepEntries c2.transpose.rows (Vec.scale (1/3) p2).entries (1 - 1/3)
      p2.entries) p2.entries = 0 := by
    rw [SR.deltaSq_eq (SR.step_wf rfl rfl canon2.dist.1 (1/3) _) canon2.dist.1]
    apply Finset.sum_eq_zero
    intro i _
    rw [step_p2, sub_self]
    norm_num
  obtain ⟨r, hr, hcr, _⟩ := SR.first_check_converges 5 (by norm_num) c2 p2 (1/3) (1/10) valid2 hz
  exact ⟨r, hr, hcr, fun tstar hstar =>
    compute_converged_bound 2 5 c2 p2 (1/3) (1/10) {} canon2 (by norm_num) (by simp) r hr hcr
      tstar hstar⟩

end examples

end EtVerif.C01b
