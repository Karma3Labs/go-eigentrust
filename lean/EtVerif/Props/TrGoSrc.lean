/-
  TrGoSrc — properties C05 (iteration control), C18 (flat-tail statistics) and C01 (distance from the fixed
  point) stated about the value returned by the translation of `basic.Compute` TOGETHER WITH THE CONVERGENCE
  CHECKER TRANSLATED FROM THE SOURCE (`Gen.Compute_src` of Gen/Translated.lean, the second universe of
  tools/go2lean: `math.Sqrt`, `math.IsNaN`, `math.IsInf` are the uninterpreted parameters `sqrtO`, `nanO`,
  `infO`).  The theorems are the `go_compute_*` of Props/TrGo05 (which are about `Gen.Compute`, the translation
  that calls a hand-written extern checker) restated for `Gen.Compute_src`: same names with the suffix `_src`,
  same conclusions with `toGStatsSrc sqrtO` in the place of `toGStats`; four conclusions have additional
  conjuncts about the fields of the Go statistics record: `go_compute_src_stats`, `_stats_fields`,
  `_criteria_stop` — `DeltaNorm` is `sqrtO` of the model's squared delta —, `_withIterations` — the initial
  statistics also in the `toGStats` form.  The vocabulary below repeats that of Props/TrGo05 under this
  namespace; from Props/TrGo05 only the refusal lemmas are used.

  Every theorem is a composition: the refinement theorem (Props/TrSrc: `compute_src_refines_ok_partial`,
  `compute_src_refines_err_partial`, `compute_src_refuses_validation`) gives the existence of the `.ok` result of
  the translated function (no panic, termination within the fuel) and identifies it with the model's value
  through the bridge maps `toGV`, `toGM`, `toGOpts`, `toGStatsSrc sqrtO`; the model-level property theorem
  (Props/C05, C05b, C18, C01b) then speaks about that value.

  Hypotheses of the refinement that every `Compute_src` theorem carries (see Props/TrSrc):
  * `hO`     — `OracleOK sqrtO nanO infO e` (Proofs/TrChecker): on compensated sums of squares `x`,
               `(nanO (sqrtO x) || infO (sqrtO x)) = nonFinite x` and `le (sqrtO x) e = sqrtLe x e`, for the `e`
               given to `Compute`.  In the ℝ section it is a hypothesis about the `e` of the statement.  The two
               validation theorems (`go_compute_src_invalid_rejected`, `go_compute_src_invalid_error`) do not
               need it: the Go code refuses before the checker is consulted;
  * `hres`   — the model's `resultDim` is the dimension of the vector given to `WithResultIn`;
  * `hcols`  — column indices in range (else Go's `Transpose` panics);
  * `hap`    — `a·p` stores an entry (nil-vs-empty slices are not modelled);
  * `hfuel`  — the fuel also bounds the inner merge loops INCLUDING the `SubVec` loop inside the translated
               `ConvergenceChecker.Update`: `n + |p| + max (n + |p|) |t0| ≤ fuel` (stronger than the
               `n + |p| ≤ fuel` of Props/TrGo05; `t0` is the start vector, `p` when none is given — in the
               theorems about the default options it reads `n + |p| + (n + |p|) ≤ fuel`);
    `hfuel63` — `fuel < 2^63 − 1` (`math.MaxInt`).

  What the returned Go state `st` exposes besides the returned pair `(vector, error)`: `st.flatTailStats`, the
  statistics object the Go code fills (`WithFlatTailStats`).  It is `toGStatsSrc sqrtO S` for the model's
  statistics `S` (Proofs/TrComputeSrc): `Length`, `Threshold`, `Ranking` are the model's (`toGStatsSrc_Length`,
  `_Threshold`, `_Ranking` below) and — the difference to Props/TrGo05, where `DeltaNorm` carries the model's
  SQUARED delta — `DeltaNorm` is `sqrtO` of the model's squared delta once a ranking has been recorded
  (`toGStatsSrc_DeltaNorm`), the initial `1` before (`toGStatsSrc_init`).

  Not restated: the `go_flatTail_*` theorems that close Props/TrGo05 (about the translated flat-tail checker alone,
  which is the same function in both universes).  NOT transported, as in Props/TrGo05:
  * Props/C05a (dense analysis of `Dense.F` on `Fin n → ℝ`): no Go function — it enters only through C05b;
  * the loop-level theorems of C05/C18 about `computeLoop` from an ARBITRARY start state: the refinement is
    for `Compute`, which always starts the loop in `initState`;
  * `C05.check_delta` (the delta tested at a check is the change since the previous check) is a statement about
    the model's `dsqAt` alone; on the Go side it is visible through `DeltaNorm` of the statistics object
    (`go_compute_src_stats_fields`: `sqrtO` of the delta at the head of the final run);
  * the model's `r.iters`, `r.checks`, `r.endedBy` are not part of the Go return value: they appear as the
    model run `r` that the returned vector / statistics are functions of.
-/
import EtVerif.Props.TrSrc
import EtVerif.Props.TrGo05
import EtVerif.Props.TrC18
import EtVerif.Props.C05
import EtVerif.Props.C05b
import EtVerif.Props.C18
import EtVerif.Props.C01b

namespace EtVerif.TrGoSrc
open EtVerif EtVerif.GoSem EtVerif.Gen EtVerif.Tr Scalar

/-! ## vocabulary: the schedule and the verdicts of `compute c p a e o` -/

section vocabulary
variable {α : Type} [Scalar α]

/-- first scheduled check (Go defaults `minIterations` to `checkFreq`) -/
abbrev minIOf (o : ComputeOpts α) : Nat := (o.minIterations.getD (o.checkFreq.getD 1)).toNat
/-- distance between scheduled checks -/
abbrev freqOf (o : ComputeOpts α) : Nat := (o.checkFreq.getD 1).toNat
/-- iteration limit; `maxIterations` unset or 0 means unlimited -/
abbrev maxIOf (o : ComputeOpts α) : Option Nat :=
  if o.maxIterations.getD 0 = 0 then none else some (o.maxIterations.getD 0).toNat
/-- number of ranked peers; `numLeaders = 0` means all `n` -/
abbrev nlOf (c : CSM α) (o : ComputeOpts α) : Nat := if o.numLeaders = 0 then c.major else o.numLeaders
/-- the `k`-th pure power iterate `t ↦ (1-a)·Cᵀt + a·p` of the start vector (`WithInitialTrust`, else `p`) -/
abbrev iterOf (c : CSM α) (p : Vec α) (a : α) (o : ComputeOpts α) (k : Nat) : List (Entry α) :=
  iterate c.transpose.rows (Vec.scale a p).entries (sub one a) k (o.t0.getD p).entries
/-- a scheduled check at iteration `k` would end the loop -/
abbrev stopAtOf (c : CSM α) (p : Vec α) (a e : α) (o : ComputeOpts α) (k : Nat) : Bool :=
  stopAt c.transpose.rows (Vec.scale a p).entries (sub one a) e (minIOf o) (freqOf o) o.flatTail (nlOf c o)
    (o.t0.getD p).entries k
/-- a check at iteration `k` meets a non-finite delta (Go: `Compute` returns an error) -/
abbrev nonFiniteAtOf (c : CSM α) (p : Vec α) (a : α) (o : ComputeOpts α) (k : Nat) : Bool :=
  nonFiniteAt c.transpose.rows (Vec.scale a p).entries (sub one a) (minIOf o) (freqOf o) (o.t0.getD p).entries k
/-- `Converged()` at a check at iteration `k` -/
abbrev convergedAtOf (c : CSM α) (p : Vec α) (a e : α) (o : ComputeOpts α) (k : Nat) : Bool :=
  convergedAt c.transpose.rows (Vec.scale a p).entries (sub one a) e (minIOf o) (freqOf o)
    (o.t0.getD p).entries k
/-- `Reached()` at a check at iteration `k` -/
abbrev flatAtOf (c : CSM α) (p : Vec α) (a : α) (o : ComputeOpts α) (k : Nat) : Bool :=
  flatAt c.transpose.rows (Vec.scale a p).entries (sub one a) (minIOf o) (freqOf o) o.flatTail (nlOf c o)
    (o.t0.getD p).entries k
/-- the observation `(ranking of the k-th iterate, squared delta at check k)` fed to the flat-tail checker -/
abbrev obsAtOf (c : CSM α) (p : Vec α) (a : α) (o : ComputeOpts α) (k : Nat) : List Nat × α :=
  obsAt c.transpose.rows (Vec.scale a p).entries (sub one a) (minIOf o) (freqOf o) (nlOf c o)
    (o.t0.getD p).entries k

end vocabulary

/-! ## the refinement in the form used below -/

section scalar
variable {α : Type} [Scalar α]

set_option linter.unusedSectionVars false

theorem toGStatsSrc_Length (sqrtO : α → α) (s : FlatTailStats α) :
    (toGStatsSrc sqrtO s).Length = (s.length : Int) := rfl

theorem toGStatsSrc_Threshold (sqrtO : α → α) (s : FlatTailStats α) :
    (toGStatsSrc sqrtO s).Threshold = (s.threshold : Int) := rfl

theorem toGStatsSrc_Ranking (sqrtO : α → α) (s : FlatTailStats α) :
    (toGStatsSrc sqrtO s).Ranking = (s.ranking.getD []).map (fun (i : Nat) => (i : Int)) := rfl

theorem toGStatsSrc_DeltaNorm (sqrtO : α → α) (s : FlatTailStats α) (rk : List Nat) (h : s.ranking = some rk) :
    (toGStatsSrc sqrtO s).DeltaNorm = sqrtO s.deltaSq := by
  simp only [toGStatsSrc, srcStats, toGStats, h, Option.isSome_some, if_true]

/-- no root is taken of the initial `DeltaNorm = 1` (no ranking recorded yet) -/
theorem toGStatsSrc_init (sqrtO : α → α) :
    toGStatsSrc sqrtO (FlatTailStats.init : FlatTailStats α) = toGStats (FlatTailStats.init : FlatTailStats α) :=
  rfl

/-- Whenever the model run `r` ends properly, the translated Go `Compute` (with the checker translated from the
    source) returns (no panic, within the fuel) the model's vector with a nil error, and has filled the
    statistics object with the model's statistics in their source form (the delta under the root). -/
theorem go_compute_src_returns (capO : Nat → Int) (fuel : Nat) (sqrtO : α → α) (nanO infO : α → Bool)
    (c : CSM α) (p : Vec α) (a e : α) (hO : OracleOK sqrtO nanO infO e)
    (o : ComputeOpts α) (tRes : Option (Vec α)) (gs : Option (GFlatTailStats α))
    (hres : o.resultDim = tRes.map (·.dim)) (hcols : c.colsInRange = true)
    (hap : (Vec.scale a p).entries ≠ [])
    (r : ComputeResult α) (hr : compute fuel c p a e o = .ok r) (hend : r.endedBy ≠ .outOfFuel)
    (hfuel : c.major + p.entries.length + max (c.major + p.entries.length) (o.t0.getD p).entries.length ≤ fuel)
    (hfuel63 : fuel < 9223372036854775807) :
    ∃ st, Gen.Compute_src capO fuel sqrtO nanO infO (toGM c) (toGV p) a e (toGOpts o tRes gs) =
        .ok (st, (toGV r.t, none)) ∧
      st.flatTailStats = toGStatsSrc sqrtO r.stats := by
  obtain ⟨⟨st, out⟩, hx, hout⟩ := map_eq_ok
    (TrSrc.compute_src_refines_ok_partial capO fuel sqrtO nanO infO c p a e hO o tRes gs hres hcols hap r hr hend
      hfuel hfuel63)
  obtain ⟨rfl, h2⟩ := Prod.mk.inj hout
  exact ⟨st, hx, h2⟩

/-! ## C05 — the returned vector is the pure iterate; the iteration count -/

/-- **C05.compute_spec on the Go code.**  Whenever the model run ends properly, the Go `Compute` returns
    (nil error) the `r.iters`-th pure power iterate of the start vector (`WithInitialTrust`, else `p`), of
    dimension `n`; all validations had passed; `r.iters ≤ maxIterations` when a limit is set;
    `r.iters ≤ fuel`. -/
theorem go_compute_src_returns_iterate (capO : Nat → Int) (fuel : Nat) (sqrtO : α → α) (nanO infO : α → Bool)
    (c : CSM α) (p : Vec α) (a e : α) (hO : OracleOK sqrtO nanO infO e)
    (o : ComputeOpts α) (tRes : Option (Vec α)) (gs : Option (GFlatTailStats α))
    (hres : o.resultDim = tRes.map (·.dim)) (hcols : c.colsInRange = true)
    (hap : (Vec.scale a p).entries ≠ [])
    (r : ComputeResult α) (hr : compute fuel c p a e o = .ok r) (hend : r.endedBy ≠ .outOfFuel)
    (hfuel : c.major + p.entries.length + max (c.major + p.entries.length) (o.t0.getD p).entries.length ≤ fuel)
    (hfuel63 : fuel < 9223372036854775807) :
    ∃ st, Gen.Compute_src capO fuel sqrtO nanO infO (toGM c) (toGV p) a e (toGOpts o tRes gs) =
        .ok (st, (toGV ⟨c.major, iterOf c p a o r.iters⟩, none)) ∧
      ValidInput c p a e o ∧
      (o.maxIterations.getD 0 ≠ 0 → (r.iters : Int) ≤ o.maxIterations.getD 0) ∧
      r.iters ≤ fuel := by
  obtain ⟨st, hst, _⟩ :=
    go_compute_src_returns capO fuel sqrtO nanO infO c p a e hO o tRes gs hres hcols hap r hr hend hfuel hfuel63
  obtain ⟨hv, ht, hmax, hfu, _⟩ := C05.compute_spec fuel c p a e o r hr
  exact ⟨st, by rw [hst, ht], hv, hmax, hfu⟩

/-- **C05.stopIter_spec / checks_schedule on the Go code.**  The vector the Go `Compute` returns is the
    `r.iters`-th iterate, where the iteration count of the run is characterised by: never more than the limit;
    no scheduled check before it ended the loop; the checks performed are exactly the scheduled ones
    (`minI, minI + freq, …`; inclusive of `r.iters` iff a check ended the loop); the run ended by the limit
    (then exactly `maxIterations` iterations) or by the criteria (then at a scheduled check strictly before the
    limit, with a finite delta, converged, flat tail reached). -/
theorem go_compute_src_stop_spec (capO : Nat → Int) (fuel : Nat) (sqrtO : α → α) (nanO infO : α → Bool)
    (c : CSM α) (p : Vec α) (a e : α) (hO : OracleOK sqrtO nanO infO e)
    (o : ComputeOpts α) (tRes : Option (Vec α)) (gs : Option (GFlatTailStats α))
    (hres : o.resultDim = tRes.map (·.dim)) (hcols : c.colsInRange = true)
    (hap : (Vec.scale a p).entries ≠ [])
    (r : ComputeResult α) (hr : compute fuel c p a e o = .ok r) (hend : r.endedBy ≠ .outOfFuel)
    (hfuel : c.major + p.entries.length + max (c.major + p.entries.length) (o.t0.getD p).entries.length ≤ fuel)
    (hfuel63 : fuel < 9223372036854775807) :
    ∃ st, Gen.Compute_src capO fuel sqrtO nanO infO (toGM c) (toGV p) a e (toGOpts o tRes gs) =
        .ok (st, (toGV ⟨c.major, iterOf c p a o r.iters⟩, none)) ∧
      (∀ m, maxIOf o = some m → r.iters ≤ m) ∧
      (∀ k, k < r.iters → stopAtOf c p a e o k = false) ∧
      r.checks = (List.range (if r.endedBy = .criteria then r.iters + 1 else r.iters)).filter
        (isCheck (minIOf o) (freqOf o)) ∧
      (∀ k, k ∈ r.checks ↔
        (k < r.iters ∨ (k = r.iters ∧ r.endedBy = .criteria)) ∧ ∃ i, k = minIOf o + i * freqOf o) ∧
      (r.endedBy = .maxIterations ∨ r.endedBy = .criteria) ∧
      (r.endedBy = .maxIterations → maxIOf o = some r.iters) ∧
      (r.endedBy = .criteria →
        isCheck (minIOf o) (freqOf o) r.iters = true ∧ (∀ m, maxIOf o = some m → r.iters < m) ∧
        nonFiniteAtOf c p a o r.iters = false ∧ convergedAtOf c p a e o r.iters = true ∧
        flatAtOf c p a o r.iters = true) := by
  obtain ⟨st, hst, _⟩ :=
    go_compute_src_returns capO fuel sqrtO nanO infO c p a e hO o tRes gs hres hcols hap r hr hend hfuel hfuel63
  obtain ⟨_, ht, _, _, s, hl, hit, _, hch⟩ := C05.compute_spec fuel c p a e o r hr
  have hnf : r.endedBy ≠ .nonFinite := (_root_.EtVerif.compute_ok_inv fuel c p a e o r hr).2.1
  have hl' : computeLoop c.transpose.rows (Vec.scale a p).entries (sub one a) e (minIOf o) (freqOf o)
      (maxIOf o) o.flatTail (nlOf c o) fuel (initState (o.t0.getD p).entries) = (s, r.endedBy) := hl
  obtain ⟨h1, _, h3, h4, h5, h6, _, _⟩ := C05.stopIter_spec _ _ _ _ _ _ _ _ _ fuel _ s r.endedBy hl'
  have hsched := C05.checks_schedule _ _ _ _ _ _ _ _ _ fuel _ s r.endedBy hl'
  have hor : (r.endedBy = .criteria ∨ r.endedBy = .nonFinite) ↔ r.endedBy = .criteria := by
    simp [hnf]
  refine ⟨st, by rw [hst, ht], ?_, ?_, ?_, ?_, ?_, ?_, ?_⟩
  · intro m hm; rw [hit]; exact h1 m hm
  · intro k hk; rw [hit] at hk; exact h3 k hk
  · rw [hch, h4, List.reverse_reverse, hit]
    simp only [hor]
  · intro k
    rw [hch, List.mem_reverse, hsched k, hit]
    simp only [hor]
  · cases hb : r.endedBy with
    | criteria => exact .inr rfl
    | maxIterations => exact .inl rfl
    | outOfFuel => exact absurd hb hend
    | nonFinite => exact absurd hb hnf
  · intro hb; rw [hit]; exact h5 hb
  · intro hb
    obtain ⟨c1, _, c3, c4, c5, c6⟩ := h6 hb
    rw [hit]
    exact ⟨c1, c3, c4, c5, c6⟩

/-- **C05.stopIter_first on the Go code.**  If all validations pass, `K < fuel` is the FIRST iteration at
    which the iteration limit is reached or a scheduled check ends the loop, and (unless it is the limit that
    is hit) the delta of that check is finite, then the Go `Compute` returns (nil error) exactly the `K`-th
    iterate; the model run has `K` iterations and is ended by the limit iff the limit is what was hit (a check
    scheduled exactly at `maxIterations` is not performed). -/
theorem go_compute_src_stop_first (capO : Nat → Int) (fuel : Nat) (sqrtO : α → α) (nanO infO : α → Bool)
    (c : CSM α) (p : Vec α) (a e : α) (hO : OracleOK sqrtO nanO infO e)
    (o : ComputeOpts α) (tRes : Option (Vec α)) (gs : Option (GFlatTailStats α))
    (hres : o.resultDim = tRes.map (·.dim)) (hcols : c.colsInRange = true)
    (hap : (Vec.scale a p).entries ≠ [])
    (hv : ValidInput c p a e o) (K : Nat) (hK : K < fuel)
    (hbefore : ∀ k, k < K → maxHit (maxIOf o) k = false ∧ stopAtOf c p a e o k = false)
    (hat : maxHit (maxIOf o) K = true ∨ stopAtOf c p a e o K = true)
    (hfin : maxHit (maxIOf o) K = true ∨ nonFiniteAtOf c p a o K = false)
    (hfuel : c.major + p.entries.length + max (c.major + p.entries.length) (o.t0.getD p).entries.length ≤ fuel)
    (hfuel63 : fuel < 9223372036854775807) :
    ∃ st r, compute fuel c p a e o = .ok r ∧ r.iters = K ∧
      (r.endedBy = .maxIterations ↔ maxHit (maxIOf o) K = true) ∧
      (r.endedBy = .maxIterations ∨ r.endedBy = .criteria) ∧
      Gen.Compute_src capO fuel sqrtO nanO infO (toGM c) (toGV p) a e (toGOpts o tRes gs) =
        .ok (st, (toGV ⟨c.major, iterOf c p a o K⟩, none)) ∧
      st.flatTailStats = toGStatsSrc sqrtO r.stats := by
  cases hl : loopOf fuel c p a e o with
  | mk s by_ =>
    have hl' : computeLoop c.transpose.rows (Vec.scale a p).entries (sub one a) e (minIOf o) (freqOf o)
        (maxIOf o) o.flatTail (nlOf c o) fuel (initState (o.t0.getD p).entries) = (s, by_) := hl
    obtain ⟨h1, h2, h3⟩ := C05.stopIter_first _ _ _ _ _ _ _ _ _ fuel _ K hK hbefore hat s by_ hl'
    have hit := C05.loop_returns_iterate_init _ _ _ _ _ _ _ _ _ fuel _ s by_ hl'
    have hnf : by_ ≠ .nonFinite := by
      rintro rfl
      obtain ⟨_, _, _, _, _, _, h7, _⟩ := C05.stopIter_spec _ _ _ _ _ _ _ _ _ fuel _ s _ hl'
      obtain ⟨_, _, _, hnf⟩ := h7 rfl
      rw [h1] at hnf
      rcases hfin with hm | hf
      · have := h3.mpr hm; cases this
      · exact Bool.false_ne_true (hf.symm.trans hnf)
    have hr := compute_ok_of_loop fuel c p a e o hv s by_ hl hnf
    obtain ⟨st, hst, hstats⟩ :=
      go_compute_src_returns capO fuel sqrtO nanO infO c p a e hO o tRes gs hres hcols hap _ hr h2
      hfuel hfuel63
    refine ⟨st, _, hr, h1, h3, ?_, ?_, hstats⟩
    · cases by_ with
      | criteria => exact .inr rfl
      | maxIterations => exact .inl rfl
      | outOfFuel => exact absurd rfl h2
      | nonFinite => exact absurd rfl hnf
    · rw [hst]
      simp only [hit, h1]

/-- **`WithIterations n`** (`minIterations = maxIterations = n`) on the Go code: the Go `Compute` returns
    (nil error) exactly the `n`-th iterate of the start vector, and — no check having been performed — leaves
    the initial statistics `(length 0, threshold 1, delta 1, ranking nil)` in the statistics object (in both
    forms, `toGStatsSrc_init`: no root has been taken). -/
theorem go_compute_src_withIterations (capO : Nat → Int) (fuel n : Nat) (sqrtO : α → α) (nanO infO : α → Bool)
    (c : CSM α) (p : Vec α) (a e : α) (hO : OracleOK sqrtO nanO infO e)
    (o : ComputeOpts α) (tRes : Option (Vec α)) (gs : Option (GFlatTailStats α))
    (hres : o.resultDim = tRes.map (·.dim)) (hcols : c.colsInRange = true)
    (hap : (Vec.scale a p).entries ≠ [])
    (hmin : o.minIterations = some (n : Int)) (hmax : o.maxIterations = some (n : Int))
    (hv : ValidInput c p a e o) (hn : n < fuel)
    (hfuel : c.major + p.entries.length + max (c.major + p.entries.length) (o.t0.getD p).entries.length ≤ fuel)
    (hfuel63 : fuel < 9223372036854775807) :
    ∃ st, Gen.Compute_src capO fuel sqrtO nanO infO (toGM c) (toGV p) a e (toGOpts o tRes gs) =
        .ok (st, (toGV ⟨c.major, iterOf c p a o n⟩, none)) ∧
      st.flatTailStats = toGStatsSrc sqrtO (FlatTailStats.init : FlatTailStats α) ∧
      st.flatTailStats = toGStats (FlatTailStats.init : FlatTailStats α) := by
  obtain ⟨r, hr, _, hby, hch, ht⟩ := C05.compute_withIterations fuel n c p a e o hmin hmax hv hn
  have hend : r.endedBy ≠ .outOfFuel := by rw [hby]; decide
  obtain ⟨st, hst, hstats⟩ :=
    go_compute_src_returns capO fuel sqrtO nanO infO c p a e hO o tRes gs hres hcols hap r hr hend hfuel hfuel63
  have hs := (C18.compute_stats fuel c p a e o r hr).1
  rw [hch] at hs
  have hinit : st.flatTailStats = toGStatsSrc sqrtO (FlatTailStats.init : FlatTailStats α) := by
    rw [hstats, hs]
    rfl
  exact ⟨st, by rw [hst, ht], hinit, hinit.trans (toGStatsSrc_init sqrtO)⟩

/-- **C05.compute_ok on the Go code**: all validations pass and the model's loop ends in state `s` by the
    criteria or the limit — the Go `Compute` returns the loop's vector (dimension `n`), a nil error, and the
    loop's statistics. -/
theorem go_compute_src_ok_of_loop (capO : Nat → Int) (fuel : Nat) (sqrtO : α → α) (nanO infO : α → Bool)
    (c : CSM α) (p : Vec α) (a e : α) (hO : OracleOK sqrtO nanO infO e)
    (o : ComputeOpts α) (tRes : Option (Vec α)) (gs : Option (GFlatTailStats α))
    (hres : o.resultDim = tRes.map (·.dim)) (hcols : c.colsInRange = true)
    (hap : (Vec.scale a p).entries ≠ [])
    (hv : ValidInput c p a e o) (s : LoopState α) (by_ : EndedBy)
    (hl : loopOf fuel c p a e o = (s, by_)) (hnf : by_ ≠ .nonFinite) (hof : by_ ≠ .outOfFuel)
    (hfuel : c.major + p.entries.length + max (c.major + p.entries.length) (o.t0.getD p).entries.length ≤ fuel)
    (hfuel63 : fuel < 9223372036854775807) :
    ∃ st, Gen.Compute_src capO fuel sqrtO nanO infO (toGM c) (toGV p) a e (toGOpts o tRes gs) =
        .ok (st, (toGV ⟨c.major, s.t1⟩, none)) ∧
      st.flatTailStats = toGStatsSrc sqrtO s.stats :=
  go_compute_src_returns capO fuel sqrtO nanO infO c p a e hO o tRes gs hres hcols hap _
    (compute_ok_of_loop fuel c p a e o hv s by_ hl hnf) hof hfuel hfuel63

/-- **Fuel independence (C05.compute_fuel_mono) on the Go code**: a Go run whose model run ended properly
    returns the same vector, nil error and statistics for every larger fuel (below `2^63 − 1`): the result
    does not depend on the bound put on the loops; with `maxIterations = 0` this expresses "unlimited". -/
theorem go_compute_src_fuel_independent (capO : Nat → Int) (fuel fuel' : Nat) (sqrtO : α → α) (nanO infO : α → Bool)
    (c : CSM α) (p : Vec α) (a e : α) (hO : OracleOK sqrtO nanO infO e)
    (o : ComputeOpts α) (tRes : Option (Vec α)) (gs : Option (GFlatTailStats α))
    (hres : o.resultDim = tRes.map (·.dim)) (hcols : c.colsInRange = true)
    (hap : (Vec.scale a p).entries ≠ [])
    (r : ComputeResult α) (hr : compute fuel c p a e o = .ok r) (hend : r.endedBy ≠ .outOfFuel)
    (hfuel : c.major + p.entries.length + max (c.major + p.entries.length) (o.t0.getD p).entries.length ≤ fuel)
    (hle : fuel ≤ fuel')
    (hfuel63 : fuel' < 9223372036854775807) :
    ∃ st st',
      Gen.Compute_src capO fuel sqrtO nanO infO (toGM c) (toGV p) a e (toGOpts o tRes gs) =
          .ok (st, (toGV r.t, none)) ∧
      Gen.Compute_src capO fuel' sqrtO nanO infO (toGM c) (toGV p) a e (toGOpts o tRes gs) =
          .ok (st', (toGV r.t, none)) ∧
      st.flatTailStats = toGStatsSrc sqrtO r.stats ∧ st'.flatTailStats = toGStatsSrc sqrtO r.stats := by
  have hr' : compute fuel' c p a e o = .ok r :=
    C05.compute_fuel_mono fuel fuel' hle c p a e o _ hr (fun r' h => by cases h; exact hend)
  obtain ⟨st, hst, hs⟩ :=
    go_compute_src_returns capO fuel sqrtO nanO infO c p a e hO o tRes gs hres hcols hap r hr hend hfuel
    (by omega)
  obtain ⟨st', hst', hs'⟩ :=
    go_compute_src_returns capO fuel' sqrtO nanO infO c p a e hO o tRes gs hres hcols hap r hr' hend
    (by omega) hfuel63
  exact ⟨st, st', hst, hst', hs, hs'⟩

/-! ### runs that return an error: failed validation (before any iteration), non-finite delta -/

/-- **C05.invalid_rejected on the Go code.**  Each out-of-range parameter makes the Go `Compute` return
    `nil, err` — for EVERY fuel, in particular fuel 0: before any iteration (no hypothesis on `a·p`, on the
    fuel or on the oracles `sqrtO`, `nanO`, `infO` is needed). -/
theorem go_compute_src_invalid_rejected (capO : Nat → Int) (fuel : Nat) (sqrtO : α → α) (nanO infO : α → Bool)
    (c : CSM α) (p : Vec α) (a e : α)
    (o : ComputeOpts α) (tRes : Option (Vec α)) (gs : Option (GFlatTailStats α))
    (hres : o.resultDim = tRes.map (·.dim)) (hcols : c.colsInRange = true)
    (h : c.major ≠ c.minor ∨ c.major = 0 ∨ p.dim ≠ c.major ∨
      (∃ t0, o.t0 = some t0 ∧ t0.dim ≠ c.major) ∨
      (∃ d, o.resultDim = some d ∧ d ≠ c.major) ∨
      lt a zero = true ∨ lt one a = true ∨ le e zero = true ∨
      o.checkFreq.getD 1 < 1 ∨ o.maxIterations.getD 0 < 0 ∨
      o.minIterations.getD (o.checkFreq.getD 1) ≤ 0) :
    ∃ st msg, Gen.Compute_src capO fuel sqrtO nanO infO (toGM c) (toGV p) a e (toGOpts o tRes gs) =
      .ok (st, (GVector.zero, some msg)) :=
  TrSrc.compute_src_refuses_validation capO fuel sqrtO nanO infO c p a e o tRes gs hres hcols
    (TrGo05.refusal_of_bad_param c p a e o h)

/-- **C05.invalid_error on the Go code**: whenever the model's validation prefix (`validate`, the checks in
    source order) reports an error, the model's `compute` returns that error for every fuel and the Go `Compute`
    returns `nil, err` for every fuel and all oracles.  (Which Go error message it is, is not part of the
    refinement.) -/
theorem go_compute_src_invalid_error (capO : Nat → Int) (fuel : Nat) (sqrtO : α → α) (nanO infO : α → Bool)
    (c : CSM α) (p : Vec α) (a e : α)
    (o : ComputeOpts α) (tRes : Option (Vec α)) (gs : Option (GFlatTailStats α))
    (hres : o.resultDim = tRes.map (·.dim)) (hcols : c.colsInRange = true)
    (err : SErr) (h : validate c p a e o = some err) :
    compute fuel c p a e o = .error err ∧
    ∃ st msg, Gen.Compute_src capO fuel sqrtO nanO infO (toGM c) (toGV p) a e (toGOpts o tRes gs) =
      .ok (st, (GVector.zero, some msg)) :=
  ⟨C05.invalid_error fuel c p a e o err h,
    TrSrc.compute_src_refuses_validation capO fuel sqrtO nanO infO c p a e o tRes gs hres hcols
      (TrGo05.refusal_of_validate c p a e o err h)⟩

/-- **C05.compute_nonFinite on the Go code**: all validations pass but a scheduled check meets a non-finite
    delta — the Go `Compute` returns `nil, err`. -/
theorem go_compute_src_nonFinite (capO : Nat → Int) (fuel : Nat) (sqrtO : α → α) (nanO infO : α → Bool)
    (c : CSM α) (p : Vec α) (a e : α) (hO : OracleOK sqrtO nanO infO e)
    (o : ComputeOpts α) (tRes : Option (Vec α)) (gs : Option (GFlatTailStats α))
    (hres : o.resultDim = tRes.map (·.dim)) (hcols : c.colsInRange = true)
    (hap : (Vec.scale a p).entries ≠ [])
    (hv : ValidInput c p a e o) (s : LoopState α) (hl : loopOf fuel c p a e o = (s, .nonFinite))
    (hfuel : c.major + p.entries.length + max (c.major + p.entries.length) (o.t0.getD p).entries.length ≤ fuel)
    (hfuel63 : fuel < 9223372036854775807) :
    ∃ st msg, Gen.Compute_src capO fuel sqrtO nanO infO (toGM c) (toGV p) a e (toGOpts o tRes gs) =
      .ok (st, (GVector.zero, some msg)) :=
  TrSrc.compute_src_refines_err_partial capO fuel sqrtO nanO infO c p a e hO o tRes gs hres hcols hap _
    (C05.compute_nonFinite fuel c p a e o hv s hl) hfuel hfuel63

/-! ## C18 — the statistics the Go code leaves in the statistics object -/

/-- **C18.compute_stats on the Go code.**  The statistics object filled by the Go `Compute` holds the fold,
    over the checks performed (`r.checks`, oldest first), of `FlatTailStats.update` on the observations
    `(ranking of the k-th iterate, squared delta at check k)`, in its source form (`toGStatsSrc sqrtO`: the delta
    under the root); when the run ended by the criteria its `Ranking` is the ranking of the RETURNED vector, its
    `Length` is at least the requested flat tail and its `DeltaNorm` is `sqrtO` of the model's squared delta. -/
theorem go_compute_src_stats (capO : Nat → Int) (fuel : Nat) (sqrtO : α → α) (nanO infO : α → Bool)
    (c : CSM α) (p : Vec α) (a e : α) (hO : OracleOK sqrtO nanO infO e)
    (o : ComputeOpts α) (tRes : Option (Vec α)) (gs : Option (GFlatTailStats α))
    (hres : o.resultDim = tRes.map (·.dim)) (hcols : c.colsInRange = true)
    (hap : (Vec.scale a p).entries ≠ [])
    (r : ComputeResult α) (hr : compute fuel c p a e o = .ok r) (hend : r.endedBy ≠ .outOfFuel)
    (hfuel : c.major + p.entries.length + max (c.major + p.entries.length) (o.t0.getD p).entries.length ≤ fuel)
    (hfuel63 : fuel < 9223372036854775807) :
    ∃ st, Gen.Compute_src capO fuel sqrtO nanO infO (toGM c) (toGV p) a e (toGOpts o tRes gs) =
        .ok (st, (toGV r.t, none)) ∧
      st.flatTailStats = toGStatsSrc sqrtO (ftFold (r.checks.map (obsAtOf c p a o))) ∧
      (r.endedBy = .criteria →
        st.flatTailStats.Ranking = (rankOf r.t.entries (nlOf c o)).map (fun (i : Nat) => (i : Int)) ∧
        (o.flatTail : Int) ≤ st.flatTailStats.Length ∧
        st.flatTailStats.DeltaNorm = sqrtO r.stats.deltaSq) := by
  obtain ⟨st, hst, hstats⟩ :=
    go_compute_src_returns capO fuel sqrtO nanO infO c p a e hO o tRes gs hres hcols hap r hr hend hfuel hfuel63
  obtain ⟨h1, h2⟩ := C18.compute_stats fuel c p a e o r hr
  refine ⟨st, hst, ?_, ?_⟩
  · rw [hstats]; exact congrArg (toGStatsSrc sqrtO) h1
  · intro hb
    obtain ⟨hrk, hlen⟩ := h2 hb
    rw [hstats]
    refine ⟨?_, ?_, toGStatsSrc_DeltaNorm sqrtO r.stats _ hrk⟩
    · rw [toGStatsSrc_Ranking, hrk]; rfl
    · rw [toGStatsSrc_Length]
      exact_mod_cast hlen

/-- **C18.ft_length / ft_ranking / ft_delta / ft_threshold on the Go code.**  When at least one check was
    performed, the statistics `S` the Go `Compute` leaves (`st.flatTailStats = toGStatsSrc sqrtO S`) are, in terms
    of the decomposition `runs obs` of the observed `(ranking, squared delta)` sequence into maximal runs of
    equal rankings: `Length` = size of the final run − 1; `Ranking` = the ranking of the final run = the last
    observed ranking; `DeltaNorm` = `sqrtO` of the squared delta at the head of the final run (a ranking has been
    recorded, so the root has been taken: last conjunct); `Threshold` = `max 1` (sizes of all earlier runs),
    i.e. one more than the longest broken run, at least 1. -/
theorem go_compute_src_stats_fields (capO : Nat → Int) (fuel : Nat) (sqrtO : α → α) (nanO infO : α → Bool)
    (c : CSM α) (p : Vec α) (a e : α) (hO : OracleOK sqrtO nanO infO e)
    (o : ComputeOpts α) (tRes : Option (Vec α)) (gs : Option (GFlatTailStats α))
    (hres : o.resultDim = tRes.map (·.dim)) (hcols : c.colsInRange = true)
    (hap : (Vec.scale a p).entries ≠ [])
    (r : ComputeResult α) (hr : compute fuel c p a e o = .ok r) (hend : r.endedBy ≠ .outOfFuel)
    (hfuel : c.major + p.entries.length + max (c.major + p.entries.length) (o.t0.getD p).entries.length ≤ fuel)
    (hfuel63 : fuel < 9223372036854775807)
    (hne : r.checks.map (obsAtOf c p a o) ≠ []) :
    ∃ st S, Gen.Compute_src capO fuel sqrtO nanO infO (toGM c) (toGV p) a e (toGOpts o tRes gs) =
        .ok (st, (toGV r.t, none)) ∧
      st.flatTailStats = toGStatsSrc sqrtO S ∧
      S.length + 1 = ((runs (r.checks.map (obsAtOf c p a o))).getLast (runs_ne_nil hne)).2.2 ∧
      S.ranking = some ((runs (r.checks.map (obsAtOf c p a o))).getLast (runs_ne_nil hne)).1 ∧
      S.ranking = some ((r.checks.map (obsAtOf c p a o)).getLast hne).1 ∧
      S.deltaSq = ((runs (r.checks.map (obsAtOf c p a o))).getLast (runs_ne_nil hne)).2.1 ∧
      S.threshold = ((runs (r.checks.map (obsAtOf c p a o))).dropLast.map (·.2.2)).foldl max 1 ∧
      1 ≤ S.threshold ∧
      (∀ x ∈ (runs (r.checks.map (obsAtOf c p a o))).dropLast, x.2.2 ≤ S.threshold) ∧
      (S.threshold = 1 ∨ ∃ x ∈ (runs (r.checks.map (obsAtOf c p a o))).dropLast, x.2.2 = S.threshold) ∧
      st.flatTailStats.Length = (S.length : Int) ∧
      st.flatTailStats.Threshold = (S.threshold : Int) ∧
      st.flatTailStats.Ranking =
        (((r.checks.map (obsAtOf c p a o)).getLast hne).1).map (fun (i : Nat) => (i : Int)) ∧
      st.flatTailStats.DeltaNorm =
        sqrtO ((runs (r.checks.map (obsAtOf c p a o))).getLast (runs_ne_nil hne)).2.1 := by
  obtain ⟨st, hst, hstats, _⟩ :=
    go_compute_src_stats capO fuel sqrtO nanO infO c p a e hO o tRes gs hres hcols hap r hr hend hfuel hfuel63
  obtain ⟨t1, t2, t3, t4⟩ := C18.ft_threshold (r.checks.map (obsAtOf c p a o))
  have hrk := (C18.ft_ranking _ hne).2
  refine ⟨st, _, hst, hstats, C18.ft_length _ hne, (C18.ft_ranking _ hne).1, hrk,
    C18.ft_delta _ hne, t1, t2, t3, t4, ?_, ?_, ?_, ?_⟩
  · rw [hstats, toGStatsSrc_Length]
  · rw [hstats, toGStatsSrc_Threshold]
  · rw [hstats, toGStatsSrc_Ranking, hrk]; rfl
  · rw [hstats, toGStatsSrc_DeltaNorm sqrtO _ _ hrk, C18.ft_delta _ hne]

/-- **C18.ft_stop on the Go code.**  A Go run whose model run ended by the criteria returned the iterate of a
    scheduled check (strictly before the iteration limit) at which convergence holds and the flat tail is
    reached — the statistics object (the model's in source form: `DeltaNorm` is `sqrtO` of the model's squared
    delta, second conjunct) has `Length ≥ flatTail`, the last `flatTail + 1` checked rankings are identical — and
    at no earlier scheduled check was the delta non-finite or did both hold. -/
theorem go_compute_src_criteria_stop (capO : Nat → Int) (fuel : Nat) (sqrtO : α → α) (nanO infO : α → Bool)
    (c : CSM α) (p : Vec α) (a e : α) (hO : OracleOK sqrtO nanO infO e)
    (o : ComputeOpts α) (tRes : Option (Vec α)) (gs : Option (GFlatTailStats α))
    (hres : o.resultDim = tRes.map (·.dim)) (hcols : c.colsInRange = true)
    (hap : (Vec.scale a p).entries ≠ [])
    (r : ComputeResult α) (hr : compute fuel c p a e o = .ok r) (hcr : r.endedBy = .criteria)
    (hfuel : c.major + p.entries.length + max (c.major + p.entries.length) (o.t0.getD p).entries.length ≤ fuel)
    (hfuel63 : fuel < 9223372036854775807) :
    ∃ st, Gen.Compute_src capO fuel sqrtO nanO infO (toGM c) (toGV p) a e (toGOpts o tRes gs) =
        .ok (st, (toGV ⟨c.major, iterOf c p a o r.iters⟩, none)) ∧
      (st.flatTailStats = toGStatsSrc sqrtO r.stats ∧ st.flatTailStats.DeltaNorm = sqrtO r.stats.deltaSq) ∧
      isCheck (minIOf o) (freqOf o) r.iters = true ∧ (∀ m, maxIOf o = some m → r.iters < m) ∧
      convergedAtOf c p a e o r.iters = true ∧
      o.flatTail ≤ r.stats.length ∧
      (o.flatTail + 1 ≤ (r.checks.map (obsAtOf c p a o)).length ∧
        ∃ rk, ∀ ob ∈ (r.checks.map (obsAtOf c p a o)).drop
          ((r.checks.map (obsAtOf c p a o)).length - (o.flatTail + 1)), ob.1 = rk) ∧
      (∀ k, k < r.iters → isCheck (minIOf o) (freqOf o) k = true →
        nonFiniteAtOf c p a o k = false ∧
        ¬ (convergedAtOf c p a e o k = true ∧ flatAtOf c p a o k = true)) := by
  have hend : r.endedBy ≠ .outOfFuel := by rw [hcr]; decide
  obtain ⟨st, hst, hstats⟩ :=
    go_compute_src_returns capO fuel sqrtO nanO infO c p a e hO o tRes gs hres hcols hap r hr hend hfuel hfuel63
  obtain ⟨_, ht, _, _, s, hl, hit, hs, hch⟩ := C05.compute_spec fuel c p a e o r hr
  rw [hcr] at hl
  have hl' : computeLoop c.transpose.rows (Vec.scale a p).entries (sub one a) e (minIOf o) (freqOf o)
      (maxIOf o) o.flatTail (nlOf c o) fuel (initState (o.t0.getD p).entries) = (s, .criteria) := hl
  obtain ⟨f1, f2, f3, f4, f5, f6⟩ := C18.ft_stop _ _ _ _ _ _ _ _ _ fuel _ s hl'
  have hrk := ((C18.compute_stats fuel c p a e o r hr).2 hcr).1
  refine ⟨st, by rw [hst, ht], ⟨hstats, by rw [hstats]; exact toGStatsSrc_DeltaNorm sqrtO r.stats _ hrk⟩,
    ?_, ?_, ?_, ?_, ?_, ?_⟩
  · rw [hit]; exact f1
  · rw [hit]; exact f2
  · rw [hit]; exact f3
  · rw [hs]; exact f4
  · rw [hch]; exact f5
  · rw [hit]; exact f6

/-- **C18.ft_stop_first on the Go code** (converse): if all validations pass and `K < fuel` is a scheduled
    check before the iteration limit with a finite delta at which convergence holds and the flat tail is
    reached, and at no earlier scheduled check the delta was non-finite or both held, then the Go `Compute`
    returns (nil error) exactly the `K`-th iterate, the model run being ended by the criteria after `K`
    iterations. -/
theorem go_compute_src_criteria_first (capO : Nat → Int) (fuel : Nat) (sqrtO : α → α) (nanO infO : α → Bool)
    (c : CSM α) (p : Vec α) (a e : α) (hO : OracleOK sqrtO nanO infO e)
    (o : ComputeOpts α) (tRes : Option (Vec α)) (gs : Option (GFlatTailStats α))
    (hres : o.resultDim = tRes.map (·.dim)) (hcols : c.colsInRange = true)
    (hap : (Vec.scale a p).entries ≠ [])
    (hv : ValidInput c p a e o) (K : Nat) (hK : K < fuel)
    (hmax : ∀ m, maxIOf o = some m → K < m)
    (hcheck : isCheck (minIOf o) (freqOf o) K = true)
    (hfin : nonFiniteAtOf c p a o K = false)
    (hconv : convergedAtOf c p a e o K = true)
    (hflat : flatAtOf c p a o K = true)
    (hbefore : ∀ k, k < K → isCheck (minIOf o) (freqOf o) k = true →
      nonFiniteAtOf c p a o k = false ∧
      ¬ (convergedAtOf c p a e o k = true ∧ flatAtOf c p a o k = true))
    (hfuel : c.major + p.entries.length + max (c.major + p.entries.length) (o.t0.getD p).entries.length ≤ fuel)
    (hfuel63 : fuel < 9223372036854775807) :
    ∃ st r, compute fuel c p a e o = .ok r ∧ r.iters = K ∧ r.endedBy = .criteria ∧
      Gen.Compute_src capO fuel sqrtO nanO infO (toGM c) (toGV p) a e (toGOpts o tRes gs) =
        .ok (st, (toGV ⟨c.major, iterOf c p a o K⟩, none)) ∧
      st.flatTailStats = toGStatsSrc sqrtO r.stats := by
  cases hl : loopOf fuel c p a e o with
  | mk s by_ =>
    have hl' : computeLoop c.transpose.rows (Vec.scale a p).entries (sub one a) e (minIOf o) (freqOf o)
        (maxIOf o) o.flatTail (nlOf c o) fuel (initState (o.t0.getD p).entries) = (s, by_) := hl
    obtain ⟨h1, h2⟩ := C18.ft_stop_first _ _ _ _ _ _ _ _ _ fuel _ K hK hmax hcheck hfin hconv hflat
      hbefore s by_ hl'
    subst h2
    have hit := C05.loop_returns_iterate_init _ _ _ _ _ _ _ _ _ fuel _ s _ hl'
    have hr := compute_ok_of_loop fuel c p a e o hv s _ hl (by decide)
    obtain ⟨st, hst, hstats⟩ :=
      go_compute_src_returns capO fuel sqrtO nanO infO c p a e hO o tRes gs hres hcols hap _ hr
      (by simp) hfuel hfuel63
    refine ⟨st, _, hr, h1, rfl, ?_, hstats⟩
    rw [hst]
    simp only [hit, h1]

end scalar

/-! ## ordered fields: no non-finite delta; the ranking lists the top-scored peers -/

section field
variable {K : Type} [Field K] [LinearOrder K]

/-- **C05.stopIter_first + C05b.nonFinite_never on the Go code**: in exact arithmetic no delta is non-finite,
    so the first iteration `K < fuel` at which the limit is reached or a scheduled check ends the loop is the
    iteration whose iterate the Go `Compute` returns. -/
theorem go_compute_src_stop_first_exact (capO : Nat → Int) (fuel : Nat) (sqrtO : K → K) (nanO infO : K → Bool)
    (c : CSM K) (p : Vec K) (a e : K) (hO : OracleOK sqrtO nanO infO e)
    (o : ComputeOpts K) (tRes : Option (Vec K)) (gs : Option (GFlatTailStats K))
    (hres : o.resultDim = tRes.map (·.dim)) (hcols : c.colsInRange = true)
    (hap : (Vec.scale a p).entries ≠ [])
    (hv : ValidInput c p a e o) (K' : Nat) (hK : K' < fuel)
    (hbefore : ∀ k, k < K' → maxHit (maxIOf o) k = false ∧ stopAtOf c p a e o k = false)
    (hat : maxHit (maxIOf o) K' = true ∨ stopAtOf c p a e o K' = true)
    (hfuel : c.major + p.entries.length + max (c.major + p.entries.length) (o.t0.getD p).entries.length ≤ fuel)
    (hfuel63 : fuel < 9223372036854775807) :
    ∃ st r, compute fuel c p a e o = .ok r ∧ r.iters = K' ∧
      (r.endedBy = .maxIterations ↔ maxHit (maxIOf o) K' = true) ∧
      (r.endedBy = .maxIterations ∨ r.endedBy = .criteria) ∧
      Gen.Compute_src capO fuel sqrtO nanO infO (toGM c) (toGV p) a e (toGOpts o tRes gs) =
        .ok (st, (toGV ⟨c.major, iterOf c p a o K'⟩, none)) ∧
      st.flatTailStats = toGStatsSrc sqrtO r.stats :=
  go_compute_src_stop_first capO fuel sqrtO nanO infO c p a e hO o tRes gs hres hcols hap hv K' hK hbefore hat
    (.inr (C05b.nonFinite_never _)) hfuel hfuel63

/-- **C18.ft_ranking_top / ft_ranking_dominates on the Go code.**  A Go run whose model run ended by the
    criteria and whose returned vector has pairwise distinct stored values leaves in the statistics object
    the ranking of the RETURNED vector: `min numLeaders nnz` peers; the stored entries split into `rest ++ top`
    with the ranking = the indices of `top`, `top` strictly increasing in score and every entry of `rest`
    scoring strictly below every entry of `top`; with distinct indices, a listed peer scores strictly higher
    than every unlisted one. -/
theorem go_compute_src_ranking_top (capO : Nat → Int) (fuel : Nat) (sqrtO : K → K) (nanO infO : K → Bool)
    (c : CSM K) (p : Vec K) (a e : K) (hO : OracleOK sqrtO nanO infO e)
    (o : ComputeOpts K) (tRes : Option (Vec K)) (gs : Option (GFlatTailStats K))
    (hres : o.resultDim = tRes.map (·.dim)) (hcols : c.colsInRange = true)
    (hap : (Vec.scale a p).entries ≠ [])
    (r : ComputeResult K) (hr : compute fuel c p a e o = .ok r) (hcr : r.endedBy = .criteria)
    (hfuel : c.major + p.entries.length + max (c.major + p.entries.length) (o.t0.getD p).entries.length ≤ fuel)
    (hfuel63 : fuel < 9223372036854775807)
    (hval : r.t.entries.Pairwise (fun x y => x.val ≠ y.val)) :
    ∃ st, Gen.Compute_src capO fuel sqrtO nanO infO (toGM c) (toGV p) a e (toGOpts o tRes gs) =
        .ok (st, (toGV r.t, none)) ∧
      st.flatTailStats.Ranking = (rankOf r.t.entries (nlOf c o)).map (fun (i : Nat) => (i : Int)) ∧
      (rankOf r.t.entries (nlOf c o)).length = min (nlOf c o) r.t.entries.length ∧
      (∃ rest top : List (Entry K),
        (rest ++ top).Perm r.t.entries ∧ top.length = min (nlOf c o) r.t.entries.length ∧
        rankOf r.t.entries (nlOf c o) = top.map (·.idx) ∧
        top.Pairwise (fun x y => x.val < y.val) ∧
        ∀ x ∈ rest, ∀ y ∈ top, x.val < y.val) ∧
      ((r.t.entries.map (·.idx)).Nodup → ∀ x y : Entry K, x ∈ r.t.entries → y ∈ r.t.entries →
        y.idx ∈ rankOf r.t.entries (nlOf c o) → x.idx ∉ rankOf r.t.entries (nlOf c o) → x.val < y.val) := by
  have hend : r.endedBy ≠ .outOfFuel := by rw [hcr]; decide
  obtain ⟨st, hst, _, hrk⟩ :=
    go_compute_src_stats capO fuel sqrtO nanO infO c p a e hO o tRes gs hres hcols hap r hr hend hfuel hfuel63
  obtain ⟨hlen, htop⟩ := C18.ft_ranking_top r.t.entries (nlOf c o) hval
  exact ⟨st, hst, (hrk hcr).1, hlen, htop,
    fun hidx x y hx hy hyr hxr => C18.ft_ranking_dominates r.t.entries (nlOf c o) hval hidx x y hx hy hyr hxr⟩

/-- **C18.ft_ranking_all on the Go code**: with `numLeaders = 0` (replaced by `n`) or `numLeaders ≥ nnz`, the
    ranking left by a run ended by the criteria lists every stored peer of the returned vector, in ascending
    score order. -/
theorem go_compute_src_ranking_all (capO : Nat → Int) (fuel : Nat) (sqrtO : K → K) (nanO infO : K → Bool)
    (c : CSM K) (p : Vec K) (a e : K) (hO : OracleOK sqrtO nanO infO e)
    (o : ComputeOpts K) (tRes : Option (Vec K)) (gs : Option (GFlatTailStats K))
    (hres : o.resultDim = tRes.map (·.dim)) (hcols : c.colsInRange = true)
    (hap : (Vec.scale a p).entries ≠ [])
    (r : ComputeResult K) (hr : compute fuel c p a e o = .ok r) (hcr : r.endedBy = .criteria)
    (hfuel : c.major + p.entries.length + max (c.major + p.entries.length) (o.t0.getD p).entries.length ≤ fuel)
    (hfuel63 : fuel < 9223372036854775807)
    (hnl : r.t.entries.length ≤ nlOf c o) :
    ∃ st, Gen.Compute_src capO fuel sqrtO nanO infO (toGM c) (toGV p) a e (toGOpts o tRes gs) =
        .ok (st, (toGV r.t, none)) ∧
      st.flatTailStats.Ranking = ((sortByVal r.t.entries).map (·.idx)).map (fun (i : Nat) => (i : Int)) ∧
      (sortByVal r.t.entries).Perm r.t.entries ∧
      (sortByVal r.t.entries).Pairwise (fun x y => x.val ≤ y.val) := by
  have hend : r.endedBy ≠ .outOfFuel := by rw [hcr]; decide
  obtain ⟨st, hst, _, hrk⟩ :=
    go_compute_src_stats capO fuel sqrtO nanO infO c p a e hO o tRes gs hres hcols hap r hr hend hfuel hfuel63
  obtain ⟨h1, h2, h3⟩ := C18.ft_ranking_all r.t.entries (nlOf c o) hnl
  exact ⟨st, hst, by rw [(hrk hcr).1, h1], h2, h3⟩

end field

/-! ## ℝ: termination within the documented bound (C05b) and distance from the fixed point (C01b) -/

section real
open EtVerif.Dense EtVerif.C01b

/-- the fuel hypothesis of the refinement under the default options (start vector `p`): `max (n + |p|) |p|` is
    `n + |p|` -/
theorem fuel_default {n m fuel : Nat} (h : n + m + (n + m) ≤ fuel) : n + m + max (n + m) m ≤ fuel := by
  rw [Nat.max_eq_left (Nat.le_add_left _ _)]; exact h

/-- **C05 termination on the Go code, general form.**  Canonical inputs, `0 < a < 1`, `0 < e`, options leaving
    the default schedule in force, `N = ⌈ln(e/4)/ln(1-a)⌉`: there is ONE model run `r`, ended by the criteria
    with `1 ≤ r.iters ≤ N + 2`, such that for EVERY fuel above `N + 2` (and within `hfuel`, `hfuel63` of the
    file header) the Go `Compute` returns — no panic, nil error, not for lack of fuel — the vector and
    statistics of `r`: the Go loop stops by its own criteria within the documented number of iterations, and the
    result does not depend on the fuel.  `hO` is about the `e` given. -/
theorem go_compute_src_terminates_schedule (capO : Nat → Int) (n : Nat) (hn : 1 ≤ n)
    (sqrtO : ℝ → ℝ) (nanO infO : ℝ → Bool)
    (c : CSM ℝ) (p : Vec ℝ)
    (a e : ℝ) (hO : OracleOK sqrtO nanO infO e)
    (o : ComputeOpts ℝ) (tRes : Option (Vec ℝ)) (gs : Option (GFlatTailStats ℝ))
    (hres : o.resultDim = tRes.map (·.dim)) (hcols : c.colsInRange = true)
    (hap : (Vec.scale a p).entries ≠ [])
    (hc : Canon n c p) (ha0 : 0 < a) (ha1 : a < 1) (he : 0 < e) (hs : DefaultSchedule o)
    (ht0 : ∀ t0, o.t0 = some t0 → t0.dim = n ∧ Dist n t0.entries)
    (hrd : ∀ d, o.resultDim = some d → d = n) :
    ∃ r : ComputeResult ℝ, r.endedBy = .criteria ∧ 1 ≤ r.iters ∧
      r.iters ≤ ⌈Real.log (e / 4) / Real.log (1 - a)⌉₊ + 2 ∧
      ∀ fuel, ⌈Real.log (e / 4) / Real.log (1 - a)⌉₊ + 2 < fuel →
        c.major + p.entries.length + max (c.major + p.entries.length) (o.t0.getD p).entries.length ≤ fuel →
        fuel < 9223372036854775807 →
        ∃ st, Gen.Compute_src capO fuel sqrtO nanO infO (toGM c) (toGV p) a e (toGOpts o tRes gs) =
            .ok (st, (toGV r.t, none)) ∧
          st.flatTailStats = toGStatsSrc sqrtO r.stats := by
  obtain ⟨r, hcr, h1, h2, hall⟩ := C05b.compute_terminates_schedule n hn c p a e o hc ha0 ha1 he hs ht0 hrd
  refine ⟨r, hcr, h1, h2, fun fuel hf hfuel hfuel63 => ?_⟩
  exact go_compute_src_returns capO fuel sqrtO nanO infO c p a e hO o tRes gs hres hcols hap r (hall fuel hf)
    (by rw [hcr]; decide) hfuel hfuel63

/-- **C05 termination on the Go code, default options** (no option given: start vector `p`, no limits, no
    flat tail, a check after every iteration): for every admissible fuel `> N + 2` the Go `Compute` returns a
    vector with nil error, the model run being ended by the criteria after between 1 and `N + 2` iterations. -/
theorem go_compute_src_terminates_default (capO : Nat → Int) (n : Nat) (hn : 1 ≤ n)
    (sqrtO : ℝ → ℝ) (nanO infO : ℝ → Bool)
    (c : CSM ℝ) (p : Vec ℝ)
    (a e : ℝ) (hO : OracleOK sqrtO nanO infO e) (gs : Option (GFlatTailStats ℝ)) (hcols : c.colsInRange = true)
    (hap : (Vec.scale a p).entries ≠ [])
    (hc : Canon n c p) (ha0 : 0 < a) (ha1 : a < 1) (he : 0 < e) (fuel : Nat)
    (hf : ⌈Real.log (e / 4) / Real.log (1 - a)⌉₊ + 2 < fuel)
    (hfuel : c.major + p.entries.length + (c.major + p.entries.length) ≤ fuel)
    (hfuel63 : fuel < 9223372036854775807) :
    ∃ st r, compute fuel c p a e {} = .ok r ∧ r.endedBy = .criteria ∧ 1 ≤ r.iters ∧
      r.iters ≤ ⌈Real.log (e / 4) / Real.log (1 - a)⌉₊ + 2 ∧
      Gen.Compute_src capO fuel sqrtO nanO infO (toGM c) (toGV p) a e (toGOpts {} none gs) =
          .ok (st, (toGV r.t, none)) ∧
      st.flatTailStats = toGStatsSrc sqrtO r.stats := by
  obtain ⟨r, hr, hcr, h1, h2⟩ := C05b.compute_terminates_default n hn c p a e hc ha0 ha1 he fuel hf
  obtain ⟨st, hst, hstats⟩ :=
    go_compute_src_returns capO fuel sqrtO nanO infO c p a e hO {} none gs rfl hcols hap r hr
    (by rw [hcr]; decide) (fuel_default hfuel) hfuel63
  exact ⟨st, r, hr, hcr, h1, h2, hst, hstats⟩

/-- … with an initial vector (`WithInitialTrust`), a distribution of dimension `n`: same bound. -/
theorem go_compute_src_terminates_with_t0 (capO : Nat → Int) (n : Nat) (hn : 1 ≤ n)
    (sqrtO : ℝ → ℝ) (nanO infO : ℝ → Bool)
    (c : CSM ℝ) (p : Vec ℝ)
    (a e : ℝ) (hO : OracleOK sqrtO nanO infO e)
    (t0 : Vec ℝ) (gs : Option (GFlatTailStats ℝ)) (hcols : c.colsInRange = true)
    (hap : (Vec.scale a p).entries ≠ [])
    (hc : Canon n c p) (ha0 : 0 < a) (ha1 : a < 1) (he : 0 < e)
    (hdim : t0.dim = n) (ht0 : Dist n t0.entries) (fuel : Nat)
    (hf : ⌈Real.log (e / 4) / Real.log (1 - a)⌉₊ + 2 < fuel)
    (hfuel : c.major + p.entries.length + max (c.major + p.entries.length) t0.entries.length ≤ fuel)
    (hfuel63 : fuel < 9223372036854775807) :
    ∃ st r, compute fuel c p a e { t0 := some t0 } = .ok r ∧ r.endedBy = .criteria ∧ 1 ≤ r.iters ∧
      r.iters ≤ ⌈Real.log (e / 4) / Real.log (1 - a)⌉₊ + 2 ∧
      Gen.Compute_src capO fuel sqrtO nanO infO (toGM c) (toGV p) a e (toGOpts { t0 := some t0 } none gs) =
        .ok (st, (toGV r.t, none)) ∧
      st.flatTailStats = toGStatsSrc sqrtO r.stats := by
  obtain ⟨r, hr, hcr, h1, h2⟩ :=
    C05b.compute_terminates_with_t0 n hn c p a e t0 hc ha0 ha1 he hdim ht0 fuel hf
  obtain ⟨st, hst, hstats⟩ :=
    go_compute_src_returns capO fuel sqrtO nanO infO c p a e hO { t0 := some t0 } none gs rfl hcols hap
    r hr (by rw [hcr]; decide) hfuel hfuel63
  exact ⟨st, r, hr, hcr, h1, h2, hst, hstats⟩

/-- **`a = 1`** on the Go code: every iterate from the first on is `p`; the Go `Compute` returns after at most 2
    iterations (any admissible fuel `> 2`, any `e > 0`). -/
theorem go_compute_src_terminates_alpha_one (capO : Nat → Int) (n : Nat) (hn : 1 ≤ n)
    (sqrtO : ℝ → ℝ) (nanO infO : ℝ → Bool)
    (c : CSM ℝ) (p : Vec ℝ)
    (e : ℝ) (hO : OracleOK sqrtO nanO infO e) (gs : Option (GFlatTailStats ℝ)) (hcols : c.colsInRange = true)
    (hap : (Vec.scale (1 : ℝ) p).entries ≠ [])
    (hc : Canon n c p) (he : 0 < e) (fuel : Nat) (hf : 2 < fuel)
    (hfuel : c.major + p.entries.length + (c.major + p.entries.length) ≤ fuel)
    (hfuel63 : fuel < 9223372036854775807) :
    ∃ st r, compute fuel c p 1 e {} = .ok r ∧ r.endedBy = .criteria ∧ 1 ≤ r.iters ∧ r.iters ≤ 2 ∧
      Gen.Compute_src capO fuel sqrtO nanO infO (toGM c) (toGV p) 1 e (toGOpts {} none gs) =
          .ok (st, (toGV r.t, none)) ∧
      st.flatTailStats = toGStatsSrc sqrtO r.stats := by
  obtain ⟨r, hr, hcr, h1, h2⟩ := C05b.compute_terminates_alpha_one n hn c p e hc he fuel hf
  obtain ⟨st, hst, hstats⟩ :=
    go_compute_src_returns capO fuel sqrtO nanO infO c p 1 e hO {} none gs rfl hcols hap r hr
    (by rw [hcr]; decide) (fuel_default hfuel) hfuel63
  exact ⟨st, r, hr, hcr, h1, h2, hst, hstats⟩

/-- **C05b.compute_terminates_first on the Go code**: under the default options the iterate the Go `Compute`
    returns is the one of the FIRST iteration `≥ 1` at which the convergence verdict holds — the loop does not
    run past the first successful check. -/
theorem go_compute_src_terminates_first (capO : Nat → Int) (n : Nat) (hn : 1 ≤ n)
    (sqrtO : ℝ → ℝ) (nanO infO : ℝ → Bool)
    (c : CSM ℝ) (p : Vec ℝ)
    (a e : ℝ) (hO : OracleOK sqrtO nanO infO e) (gs : Option (GFlatTailStats ℝ)) (hcols : c.colsInRange = true)
    (hap : (Vec.scale a p).entries ≠ [])
    (hc : Canon n c p) (ha0 : 0 < a) (ha1 : a < 1) (he : 0 < e) (fuel : Nat)
    (hf : ⌈Real.log (e / 4) / Real.log (1 - a)⌉₊ + 2 < fuel)
    (hfuel : c.major + p.entries.length + (c.major + p.entries.length) ≤ fuel)
    (hfuel63 : fuel < 9223372036854775807) :
    ∃ st r, compute fuel c p a e {} = .ok r ∧ r.endedBy = .criteria ∧
      Gen.Compute_src capO fuel sqrtO nanO infO (toGM c) (toGV p) a e (toGOpts {} none gs) =
          .ok (st, (toGV r.t, none)) ∧
      convergedAt c.transpose.rows (Vec.scale a p).entries (1 - a) e 1 1 p.entries r.iters = true ∧
      ∀ K', 1 ≤ K' → K' < r.iters →
        convergedAt c.transpose.rows (Vec.scale a p).entries (1 - a) e 1 1 p.entries K' = false := by
  obtain ⟨r, hr, hcr, h1, h2⟩ := C05b.compute_terminates_first n hn c p a e hc ha0 ha1 he fuel hf
  obtain ⟨st, hst, _⟩ := go_compute_src_returns capO fuel sqrtO nanO infO c p a e hO {} none gs rfl hcols hap r hr
    (by rw [hcr]; decide) (fuel_default hfuel) hfuel63
  exact ⟨st, r, hr, hcr, hst, h1, h2⟩

/-- **C01 on the Go code.**  Canonical `c`, `p` of dimension `n`, `0 < a`, a well-formed initial vector when one
    is given: a Go run whose model run ended by the exit criteria — with any check schedule, iteration limit
    and flat-tail setting — returns (nil error) a vector within `((1-a)/a)·√n·e` (L1) of every solution `t*` of
    `t = (1-a)·Cᵀt + a·p`. -/
theorem go_compute_src_converged_bound (capO : Nat → Int) (n fuel : Nat) (sqrtO : ℝ → ℝ) (nanO infO : ℝ → Bool)
    (c : CSM ℝ) (p : Vec ℝ) (a e : ℝ) (hO : OracleOK sqrtO nanO infO e)
    (o : ComputeOpts ℝ) (tRes : Option (Vec ℝ)) (gs : Option (GFlatTailStats ℝ))
    (hres : o.resultDim = tRes.map (·.dim)) (hcols : c.colsInRange = true)
    (hap : (Vec.scale a p).entries ≠ [])
    (hc : Canon n c p) (ha0 : 0 < a) (ht0 : ∀ t0, o.t0 = some t0 → WF n t0.entries)
    (r : ComputeResult ℝ) (hr : compute fuel c p a e o = .ok r) (hcr : r.endedBy = .criteria)
    (hfuel : c.major + p.entries.length + max (c.major + p.entries.length) (o.t0.getD p).entries.length ≤ fuel)
    (hfuel63 : fuel < 9223372036854775807)
    (tstar : Fin n → ℝ) (hstar : tstar = F (denseC n c) (toDense n p.entries) a tstar) :
    ∃ st, Gen.Compute_src capO fuel sqrtO nanO infO (toGM c) (toGV p) a e (toGOpts o tRes gs) =
        .ok (st, (toGV r.t, none)) ∧
      l1 (toDense n r.t.entries - tstar) ≤ ((1 - a) / a) * Real.sqrt n * e := by
  obtain ⟨st, hst, _⟩ := go_compute_src_returns capO fuel sqrtO nanO infO c p a e hO o tRes gs hres hcols hap r hr
    (by rw [hcr]; decide) hfuel hfuel63
  exact ⟨st, hst, C01b.compute_converged_bound n fuel c p a e o hc ha0 ht0 r hr hcr tstar hstar⟩

/-- … with existence and uniqueness of the solution bundled: there is exactly one `t*`, and the vector the Go
    `Compute` returned is within the bound of it. -/
theorem go_compute_src_converged_bound_unique (capO : Nat → Int) (n fuel : Nat) (sqrtO : ℝ → ℝ) (nanO infO : ℝ → Bool)
    (c : CSM ℝ) (p : Vec ℝ)
    (a e : ℝ) (hO : OracleOK sqrtO nanO infO e)
    (o : ComputeOpts ℝ) (tRes : Option (Vec ℝ)) (gs : Option (GFlatTailStats ℝ))
    (hres : o.resultDim = tRes.map (·.dim)) (hcols : c.colsInRange = true)
    (hap : (Vec.scale a p).entries ≠ [])
    (hc : Canon n c p) (ha0 : 0 < a) (ht0 : ∀ t0, o.t0 = some t0 → WF n t0.entries)
    (r : ComputeResult ℝ) (hr : compute fuel c p a e o = .ok r) (hcr : r.endedBy = .criteria)
    (hfuel : c.major + p.entries.length + max (c.major + p.entries.length) (o.t0.getD p).entries.length ≤ fuel)
    (hfuel63 : fuel < 9223372036854775807) :
    ∃ st, Gen.Compute_src capO fuel sqrtO nanO infO (toGM c) (toGV p) a e (toGOpts o tRes gs) =
        .ok (st, (toGV r.t, none)) ∧
      ∃! tstar : Fin n → ℝ, tstar = F (denseC n c) (toDense n p.entries) a tstar ∧
        l1 (toDense n r.t.entries - tstar) ≤ ((1 - a) / a) * Real.sqrt n * e := by
  obtain ⟨st, hst, _⟩ := go_compute_src_returns capO fuel sqrtO nanO infO c p a e hO o tRes gs hres hcols hap r hr
    (by rw [hcr]; decide) hfuel hfuel63
  exact ⟨st, hst, C01b.compute_converged_bound_unique n fuel c p a e o hc ha0 ht0 r hr hcr⟩

/-- **C05 termination + C01 on the Go code**: canonical inputs, `0 < a < 1`, `0 < e`, no option: for every
    admissible fuel `> N + 2` the Go `Compute` returns (nil error) a vector within `((1-a)/a)·√n·e` (L1) of the
    unique solution `t*`. -/
theorem go_compute_src_default_bound (capO : Nat → Int) (n : Nat) (hn : 1 ≤ n) (sqrtO : ℝ → ℝ) (nanO infO : ℝ → Bool)
    (c : CSM ℝ) (p : Vec ℝ)
    (a e : ℝ) (hO : OracleOK sqrtO nanO infO e) (gs : Option (GFlatTailStats ℝ)) (hcols : c.colsInRange = true)
    (hap : (Vec.scale a p).entries ≠ [])
    (hc : Canon n c p) (ha0 : 0 < a) (ha1 : a < 1) (he : 0 < e) (fuel : Nat)
    (hf : ⌈Real.log (e / 4) / Real.log (1 - a)⌉₊ + 2 < fuel)
    (hfuel : c.major + p.entries.length + (c.major + p.entries.length) ≤ fuel)
    (hfuel63 : fuel < 9223372036854775807) :
    ∃ st out, Gen.Compute_src capO fuel sqrtO nanO infO (toGM c) (toGV p) a e (toGOpts {} none gs) =
        .ok (st, (toGV out, none)) ∧
      ∃! tstar : Fin n → ℝ, tstar = F (denseC n c) (toDense n p.entries) a tstar ∧
        l1 (toDense n out.entries - tstar) ≤ ((1 - a) / a) * Real.sqrt n * e := by
  obtain ⟨st, r, hr, hcr, _, _, hst, _⟩ :=
    go_compute_src_terminates_default capO n hn sqrtO nanO infO c p a e hO gs hcols hap hc ha0 ha1 he fuel hf hfuel
      hfuel63
  exact ⟨st, r.t, hst,
    C01b.compute_converged_bound_unique n fuel c p a e {} hc ha0 (fun t0 h => by cases h) r hr hcr⟩

/- Not transported from C01b: `step_refines`, `iterate_refines`, `check_iff_l2`, `denseC_nonneg`,
   `denseC_rowsum`, `toDense_dist`, `fixedpoint_dist` speak about the model's `stepEntries` / `iterate` /
   `deltaSq` or about the dense data only, not about a value `Compute` returns (the loop body of the translated
   `Compute` is not a separate Go function); they enter through `compute_converged_bound`. -/

end real

end EtVerif.TrGoSrc
