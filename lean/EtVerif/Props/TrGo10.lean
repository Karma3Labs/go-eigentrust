/-
  TrGo10 — C10 (matrix construction, transpose and resize equal their dense counterparts) stated about the
  TRANSLATED Go code: the values the CURRENT SOURCE of `NewCSRMatrix`, `CSMatrix.Transpose`, `CSRMatrix.RowVector`,
  `CSMatrix.SetMinorDim`, `Vector.SetDim` (Gen/Translated.lean, regenerated by tools/go2lean on every run) return
  have the cells / sortedness / well-formedness the model-level theorems of Props/C10 state — compositions of the
  refinements of Props/TrC10 (and `TrC09.setDim`) with Props/C10 (any ordered field).  Property theorems only.

  Every theorem asserts the existence of the `.ok` result (no panic, termination; these functions need no
  fuel: all their loops are `range` loops) and the property's conclusion about that result, through the bridge
  maps `toGM`, `toGV`, `toGCoo`.  `toGM` forgets the model's `hidden` rows (`Entries[len:cap]`), which are not part
  of the translated struct; `HiddenClean` conclusions are therefore about the model value `out` only.

  NOT transported (details at the end of the file): everything about `SetMajorDim`, `SetDim` (matrix),
  `CSMatrix.Merge`, `resize_step`/`resize_history` (no refinement: `SetMajorDim` reslices within the capacity),
  and the shared views `TransposeToCSC` / `TransposeToCSR` (not translated).
-/
import EtVerif.Props.TrC10
import EtVerif.Props.TrC09
import EtVerif.Props.C10

namespace EtVerif.TrGo10
open EtVerif EtVerif.GoSem EtVerif.Gen EtVerif.Tr Scalar

variable {K : Type} [Field K] [LinearOrder K]

set_option linter.unusedSectionVars false

/-! ## The refinements' executable side conditions follow from the properties' hypotheses -/

private theorem sortedStrict_of_sorted : ∀ (es : List (Entry K)), Sorted es → sortedStrict es = true
  | [], _ => rfl
  | [_], _ => rfl
  | a :: b :: t, h => by
    have h' : List.Pairwise (fun x y : Entry K => x.idx < y.idx) (a :: b :: t) := h
    have h'' := List.pairwise_cons.mp h'
    simp only [sortedStrict, Bool.and_eq_true, decide_eq_true_eq]
    exact ⟨h''.1 b (by simp), sortedStrict_of_sorted (b :: t) h''.2⟩

/-- What `Transpose` needs not to panic. -/
private theorem colsInRange_of_wfm {M : CSM K} (hw : WFM M) : M.colsInRange = true := by
  unfold CSM.colsInRange
  rw [List.all_eq_true]
  intro r hr
  rw [List.all_eq_true]
  intro e he
  exact decide_eq_true ((hw.2 r hr).2 e he)

/-- What the binary search of `SetMinorDim` needs. -/
private theorem rowsSorted_of_wfm {M : CSM K} (hw : WFM M) : ∀ r ∈ M.rows, sortedStrict r = true :=
  fun r hr => sortedStrict_of_sorted r (hw.2 r hr).1

/-- Hypothesis `hr` of `C10.newCSR_cells` ⇒ the executable side condition of `TrC10.newCSR_refines`. -/
private theorem cooRows_of {rows : Nat} {es : List (Coo K)} {inc : Bool}
    (hr : ∀ e ∈ es, (e.val ≠ 0 ∨ inc = true) → e.row < rows) : cooRowsInRange rows es inc = true := by
  unfold cooRowsInRange
  rw [List.all_eq_true]
  intro e he
  simp only [s_isZero, Bool.or_eq_true, Bool.and_eq_true, decide_eq_true_eq, Bool.not_eq_true']
  by_cases hz : e.val = 0
  · cases inc with
    | false => exact Or.inl ⟨hz, rfl⟩
    | true => exact Or.inr (hr e he (Or.inr rfl))
  · exact Or.inr (hr e he (Or.inl hz))

/-! ## NewCSRMatrix -/

/-- `C10.newCSR_cells` on the Go code: for a coordinate list with pairwise DISTINCT coordinates whose kept
    entries (non-zero, or all when `includeZero`) have a row index `< rows`, Go `NewCSRMatrix(rows, cols, es,
    includeZero)` returns (no panic) a matrix in which every listed cell has its listed value and every other cell
    is `0`. -/
theorem go_newCSR_cells (rows cols : Nat) (es : List (Coo K)) (inc : Bool)
    (hd : (es.map (fun e => (e.row, e.col))).Nodup)
    (hr : ∀ e ∈ es, (e.val ≠ 0 ∨ inc = true) → e.row < rows) :
    ∃ st out, Gen.NewCSRMatrix (rows : Int) (cols : Int) (es.map toGCoo) inc = .ok (st, toGM out) ∧
      (∀ e ∈ es, denRows out.rows e.row e.col = e.val) ∧
      (∀ i j, (∀ e ∈ es, ¬ (e.row = i ∧ e.col = j)) → denRows out.rows i j = 0) := by
  obtain ⟨r, hx, hout⟩ := map_eq_ok (TrC10.newCSR_refines rows cols es inc (cooRows_of hr))
  obtain ⟨h1, h2⟩ := C10.newCSR_cells rows cols es inc hd hr
  exact ⟨r.1, CSM.newCSR rows cols es inc, by rw [hx, ← hout], h1, h2⟩

/-- `C10.newCSR_stored`, `newCSR_row_sorted`, `newCSR_no_zero` on the Go code — no distinctness needed: Go
    `NewCSRMatrix` (kept entries' rows in range) returns a matrix with dimensions `rows × cols` and `rows` rows,
    in which row `i < rows` stores exactly (as a multiset) the listed cells of row `i` that are non-zero (all of
    them when `includeZero`), every row is sorted by column (weakly), and without `includeZero` no stored value
    is `0`. -/
theorem go_newCSR_stored (rows cols : Nat) (es : List (Coo K)) (inc : Bool)
    (hr : ∀ e ∈ es, (e.val ≠ 0 ∨ inc = true) → e.row < rows) :
    ∃ st out, Gen.NewCSRMatrix (rows : Int) (cols : Int) (es.map toGCoo) inc = .ok (st, toGM out) ∧
      out.major = rows ∧ out.minor = cols ∧ out.rows.length = rows ∧
      (∀ i, i < rows → (out.rows.getD i []).Perm
        ((es.filter (fun e => decide (e.row = i) && (decide (e.val ≠ 0) || inc))).map
          (fun e => ⟨e.col, e.val⟩))) ∧
      (∀ i, (out.rows.getD i []).Pairwise (fun a b => a.idx ≤ b.idx)) ∧
      (inc = false → ∀ i, ∀ x ∈ out.rows.getD i [], x.val ≠ 0) := by
  obtain ⟨r, hx, hout⟩ := map_eq_ok (TrC10.newCSR_refines rows cols es inc (cooRows_of hr))
  refine ⟨r.1, CSM.newCSR rows cols es inc, by rw [hx, ← hout], rfl, rfl, Mx.newCSR_length rows cols es inc,
    fun i hi => C10.newCSR_stored rows cols es inc i hi, fun i => C10.newCSR_row_sorted rows cols es inc i, ?_⟩
  intro hinc i
  subst hinc
  exact C10.newCSR_no_zero rows cols es i

/-- `C10.newCSR_wf` on the Go code: with pairwise distinct coordinates and the kept entries' rows `< rows` and
    columns `< cols`, the matrix Go `NewCSRMatrix` returns is well-formed (`WFM`: `rows` rows, every row STRICTLY
    sorted by column, every stored column index `< cols`), with dimensions `rows × cols`. -/
theorem go_newCSR_wf (rows cols : Nat) (es : List (Coo K)) (inc : Bool)
    (hd : (es.map (fun e => (e.row, e.col))).Nodup)
    (hr : ∀ e ∈ es, (e.val ≠ 0 ∨ inc = true) → e.row < rows)
    (hc : ∀ e ∈ es, (e.val ≠ 0 ∨ inc = true) → e.col < cols) :
    ∃ st out, Gen.NewCSRMatrix (rows : Int) (cols : Int) (es.map toGCoo) inc = .ok (st, toGM out) ∧
      WFM out ∧ HiddenClean out ∧ out.major = rows ∧ out.minor = cols ∧ out.rows.length = rows := by
  obtain ⟨r, hx, hout⟩ := map_eq_ok (TrC10.newCSR_refines rows cols es inc (cooRows_of hr))
  exact ⟨r.1, CSM.newCSR rows cols es inc, by rw [hx, ← hout], C10.newCSR_wf rows cols es inc hd hc⟩

/-- `C10.newCSR_perm` on the Go code: with pairwise distinct coordinates (kept entries' rows in range), Go
    `NewCSRMatrix` returns the SAME matrix for every reordering of the coordinate list. -/
theorem go_newCSR_perm (rows cols : Nat) (es es' : List (Coo K)) (inc : Bool)
    (hd : (es.map (fun e => (e.row, e.col))).Nodup) (hp : es.Perm es')
    (hr : ∀ e ∈ es, (e.val ≠ 0 ∨ inc = true) → e.row < rows) :
    ∃ st st' out, Gen.NewCSRMatrix (rows : Int) (cols : Int) (es.map toGCoo) inc = .ok (st, out) ∧
      Gen.NewCSRMatrix (rows : Int) (cols : Int) (es'.map toGCoo) inc = .ok (st', out) := by
  have hr' : ∀ e ∈ es', (e.val ≠ 0 ∨ inc = true) → e.row < rows :=
    fun e he => hr e (hp.mem_iff.mpr he)
  obtain ⟨r, hx, hout⟩ := map_eq_ok (TrC10.newCSR_refines rows cols es inc (cooRows_of hr))
  obtain ⟨r', hx', hout'⟩ := map_eq_ok (TrC10.newCSR_refines rows cols es' inc (cooRows_of hr'))
  refine ⟨r.1, r'.1, r.2, by rw [hx], ?_⟩
  rw [hx', hout, C10.newCSR_perm rows cols es es' inc hd hp, ← hout']

/-! ## Transpose, RowVector -/

/-- `C10.transpose_den`, `transpose_dims`, `transpose_wf` on the Go code: for a well-formed matrix, Go
    `m.Transpose(ctx)` (cancellation poll not part of the translation, C07) returns a nil error and a matrix that
    is the DENSE TRANSPOSE — cell `(j, i)` of the result is cell `(i, j)` of the input —, has the two dimensions
    swapped, and is well-formed (one row per column, strictly sorted, indices below the old major dimension). -/
theorem go_transpose_den (M : CSM K) (hw : WFM M) :
    ∃ st out, Gen.CSMatrix_Transpose (toGM M) = .ok (st, (toGM out, none)) ∧
      out.major = M.minor ∧ out.minor = M.major ∧ out.rows.length = M.minor ∧
      WFM out ∧ HiddenClean out ∧ ∀ i j, denRows out.rows j i = denRows M.rows i j := by
  obtain ⟨r, hx, hout⟩ := map_eq_ok (TrC10.transpose_refines M (colsInRange_of_wfm hw))
  obtain ⟨h1, h2, h3⟩ := C10.transpose_wf M hw
  exact ⟨r.1, M.transpose, by rw [hx, ← hout], rfl, rfl, h3, h1, h2, fun i j => C10.transpose_den M hw i j⟩

/-- `C10.transpose_stored` on the Go code: the stored cells of the matrix Go `Transpose` returns are exactly the
    mirrored stored cells of the input (explicit zeros included). -/
theorem go_transpose_stored (M : CSM K) (hw : WFM M) :
    ∃ st out, Gen.CSMatrix_Transpose (toGM M) = .ok (st, (toGM out, none)) ∧
      ∀ j (x : Entry K), x ∈ out.rows.getD j [] ↔
        j < M.minor ∧ (⟨j, x.val⟩ : Entry K) ∈ M.rows.getD x.idx [] := by
  obtain ⟨r, hx, hout⟩ := map_eq_ok (TrC10.transpose_refines M (colsInRange_of_wfm hw))
  exact ⟨r.1, M.transpose, by rw [hx, ← hout], fun j x => C10.transpose_stored M j x⟩

/-- `C10.transpose_involutive` on the Go code: for a well-formed matrix, calling Go `Transpose` on the result of
    `Transpose` returns (both calls: nil error, no panic) the original matrix, as an equality of the Go
    representations (dimensions and row table). -/
theorem go_transpose_involutive (M : CSM K) (hw : WFM M) :
    ∃ st t st', Gen.CSMatrix_Transpose (toGM M) = .ok (st, (t, none)) ∧
      Gen.CSMatrix_Transpose t = .ok (st', (toGM M, none)) := by
  obtain ⟨r, hx, hout⟩ := map_eq_ok (TrC10.transpose_refines M (colsInRange_of_wfm hw))
  obtain ⟨r', hx', hout'⟩ := map_eq_ok
    (TrC10.transpose_refines M.transpose (colsInRange_of_wfm (C10.transpose_wf M hw).1))
  refine ⟨r.1, toGM M.transpose, r'.1, by rw [hx, ← hout], ?_⟩
  have h2 : r'.2 = (toGM M, none) := by
    rw [hout', C10.transpose_involutive M hw]
    rfl
  rw [hx', ← h2]

/-- `C10.rowVec_view` on the Go code: for a well-formed matrix and an in-range row `i`, Go `m.RowVector(i)`
    returns (no panic) the vector whose entries are row `i` of the table, of dimension `minor`, well-formed, and
    denoting row `i`. -/
theorem go_rowVector_view (M : CSM K) (hw : WFM M) (i : Nat) (hi : i < M.major) :
    ∃ st out, Gen.CSRMatrix_RowVector (toGM M) (i : Int) = .ok (st, toGV out) ∧
      out.entries = M.rows.getD i [] ∧ out.dim = M.minor ∧ WF out.dim out.entries ∧
      ∀ j, denE out.entries j = denRows M.rows i j := by
  obtain ⟨r, hx, hout⟩ := map_eq_ok (TrC10.rowVector_refines M i (by rw [hw.1]; exact hi))
  exact ⟨r.1, M.rowVec i, by rw [hx, ← hout], C10.rowVec_view M hw i⟩

/-- `C10.colVec_view` on the Go code: for a well-formed matrix and a column `j < minor`, Go `Transpose` followed by
    `RowVector(j)` on its result returns the vector of dimension `major`, well-formed, that denotes COLUMN `j`. -/
theorem go_colVector_view (M : CSM K) (hw : WFM M) (j : Nat) (hj : j < M.minor) :
    ∃ st t st' out, Gen.CSMatrix_Transpose (toGM M) = .ok (st, (t, none)) ∧
      Gen.CSRMatrix_RowVector t (j : Int) = .ok (st', toGV out) ∧
      out.dim = M.major ∧ WF out.dim out.entries ∧ ∀ i, denE out.entries i = denRows M.rows i j := by
  obtain ⟨r, hx, hout⟩ := map_eq_ok (TrC10.transpose_refines M (colsInRange_of_wfm hw))
  obtain ⟨r', hx', hout'⟩ := map_eq_ok
    (TrC10.rowVector_refines M.transpose j (by rw [(C10.transpose_wf M hw).2.2]; exact hj))
  exact ⟨r.1, toGM M.transpose, r'.1, M.transpose.rowVec j, by rw [hx, ← hout], by rw [hx', ← hout'],
    C10.colVec_view M hw j⟩

/-! ## Resize (minor dimension; vectors) -/

/-- `C10.setMinorDim_den` (and the `setMinor` case of `C10.resize_step`) on the Go code: for a well-formed
    matrix, Go `m.SetMinorDim(d)` returns (no panic) leaving in the receiver a matrix with the same major
    dimension, minor dimension `d`, well-formed for it, that is the dense CROP / zero-pad of the columns: cell
    `(i, j)` is the old cell when `j < d`, else `0`. -/
theorem go_setMinorDim_crop (M : CSM K) (hw : WFM M) (d : Nat) :
    ∃ st out, CSMatrix_SetMinorDim (toGM M) (d : Int) = .ok (st, ()) ∧ st.m = toGM out ∧
      out.major = M.major ∧ out.minor = d ∧ WFM out ∧ (HiddenClean M → HiddenClean out) ∧
      ∀ i j, denRows out.rows i j = if j < d then denRows M.rows i j else 0 := by
  obtain ⟨r, hx, hout⟩ := map_eq_ok (TrC10.setMinorDim M d (rowsSorted_of_wfm hw))
  exact ⟨r.1, M.setMinorDim d, by rw [hx], hout, Mx.setMinorDim_major M d, Mx.setMinorDim_minor M d,
    Mx.setMinorDim_wfm hw d, fun hc => C10.hiddenClean_setMinorDim M hc d,
    fun i j => C10.setMinorDim_den M hw d i j⟩

/-- `C10.vec_setDim` on the Go code: for a well-formed vector, Go `v.SetDim(d)` returns (no panic) leaving in the
    receiver a vector of dimension `d`, well-formed for it, that is the dense crop / zero-pad: `out_i = v_i` for
    `i < d`, else `0`. -/
theorem go_vector_setDim (v : Vec K) (h : WF v.dim v.entries) (d : Nat) :
    ∃ st out, Vector_SetDim (toGV v) (d : Int) = .ok (st, ()) ∧ st.v = toGV out ∧
      out.dim = d ∧ WF d out.entries ∧
      ∀ i, denE out.entries i = if i < d then denE v.entries i else 0 := by
  obtain ⟨r, hx, hout⟩ := map_eq_ok (TrC09.setDim v d (sortedStrict_of_sorted _ h.1))
  exact ⟨r.1, v.setDim d, by rw [hx], hout, C10.vec_setDim v h d⟩

/-- Cells removed by a shrink of the minor dimension do not reappear when it grows again (the `SetMinorDim` part
    of `C10.shrink_then_grow`), on the Go code: two successive `SetMinorDim` calls. -/
theorem go_setMinorDim_shrink_then_grow (M : CSM K) (hw : WFM M) (d d' : Nat) :
    ∃ st m1 st' out, CSMatrix_SetMinorDim (toGM M) (d : Int) = .ok (st, ()) ∧ st.m = m1 ∧
      CSMatrix_SetMinorDim m1 (d' : Int) = .ok (st', ()) ∧ st'.m = toGM out ∧ WFM out ∧
      ∀ i j, denRows out.rows i j = if j < d ∧ j < d' then denRows M.rows i j else 0 := by
  have hw1 := Mx.setMinorDim_wfm hw d
  obtain ⟨r, hx, hout⟩ := map_eq_ok (TrC10.setMinorDim M d (rowsSorted_of_wfm hw))
  obtain ⟨r', hx', hout'⟩ := map_eq_ok (TrC10.setMinorDim (M.setMinorDim d) d' (rowsSorted_of_wfm hw1))
  refine ⟨r.1, toGM (M.setMinorDim d), r'.1, (M.setMinorDim d).setMinorDim d', by rw [hx], hout,
    by rw [hx'], hout', Mx.setMinorDim_wfm hw1 d', fun i j => ?_⟩
  rw [C10.setMinorDim_den _ hw1, C10.setMinorDim_den _ hw]
  by_cases ha : j < d <;> by_cases hb : j < d' <;> simp [ha, hb]

/-! ## Construction followed by transposition (two calls) -/

/-- `NewCSRMatrix(rows, cols, es, includeZero)` and then `Transpose` of the matrix that call RETURNED: for a
    coordinate list with pairwise distinct coordinates whose kept entries lie inside `rows × cols`, both calls
    return (no panic) a nil error, the result has dimensions `cols × rows`, is well-formed, holds every listed
    value at the MIRRORED cell `(col, row)` and `0` in every cell that mirrors no listed coordinate. -/
theorem go_newCSR_then_transpose (rows cols : Nat) (es : List (Coo K)) (inc : Bool)
    (hd : (es.map (fun e => (e.row, e.col))).Nodup)
    (hr : ∀ e ∈ es, (e.val ≠ 0 ∨ inc = true) → e.row < rows)
    (hc : ∀ e ∈ es, (e.val ≠ 0 ∨ inc = true) → e.col < cols) :
    ∃ st m st' out, Gen.NewCSRMatrix (rows : Int) (cols : Int) (es.map toGCoo) inc = .ok (st, m) ∧
      Gen.CSMatrix_Transpose m = .ok (st', (toGM out, none)) ∧
      out.major = cols ∧ out.minor = rows ∧ out.rows.length = cols ∧ WFM out ∧
      (∀ e ∈ es, denRows out.rows e.col e.row = e.val) ∧
      (∀ i j, (∀ e ∈ es, ¬ (e.row = i ∧ e.col = j)) → denRows out.rows j i = 0) := by
  obtain ⟨r, hx, hout⟩ := map_eq_ok (TrC10.newCSR_refines rows cols es inc (cooRows_of hr))
  obtain ⟨hw, _, hmaj, hmin, _⟩ := C10.newCSR_wf rows cols es inc hd hc
  obtain ⟨h1, h2⟩ := C10.newCSR_cells rows cols es inc hd hr
  obtain ⟨st', out, ht, ta, tb, tc, tw, _, tden⟩ := go_transpose_den (CSM.newCSR rows cols es inc) hw
  refine ⟨r.1, toGM (CSM.newCSR rows cols es inc), st', out, by rw [hx, ← hout], ht,
    by rw [ta, hmin], by rw [tb, hmaj], by rw [tc, hmin], tw,
    fun e he => by rw [tden]; exact h1 e he, fun i j h => by rw [tden]; exact h2 i j h⟩

/-- non-vacuity of the hypotheses: a well-formed 2×3 matrix, a distinct in-range coordinate list. -/
example : WFM (⟨2, 3, [[⟨0, 1⟩, ⟨2, 3⟩], [⟨1, 2⟩]], []⟩ : CSM ℚ) ∧
    (let es : List (Coo ℚ) := [⟨1, 2, 5⟩, ⟨0, 0, 1⟩, ⟨1, 0, 0⟩, ⟨2, 1, 7⟩]
     (es.map (fun e => (e.row, e.col))).Nodup ∧
     (∀ e ∈ es, (e.val ≠ 0 ∨ false = true) → e.row < 3) ∧
     (∀ e ∈ es, (e.val ≠ 0 ∨ false = true) → e.col < 3)) := by
  unfold WFM WF Sorted
  decide

/-
  Not transported:
  * `C10.setMajorDim_den`, `setDim_den`, `setDim_wf`, `shrink_then_grow` (in full), `hiddenClean_setMajorDim`,
    `hiddenClean_setDim`, `hiddenClean_merge`, `resize_step`, `resize_history`: `CSMatrix.SetMajorDim` reslices
    within the capacity of the backing array, which the translation's list semantics does not carry (Props/TrC10
    header), so `SetMajorDim`, `CSRMatrix.SetDim` and `CSMatrix.Merge` have no refinement theorem; only the
    `SetMinorDim` step of the history is transported (`go_setMinorDim_crop`, `go_setMinorDim_shrink_then_grow`)
    and the `transpose` step (`go_transpose_den`).
  * `C10.views_agree`, `sharedView_wf_iff`: `TransposeToCSC` / `TransposeToCSR` are not translated.
  * `C10.hiddenClean_transpose`, `hiddenClean_newCSR`: stated (as `HiddenClean out`) inside `go_transpose_den`,
    `go_newCSR_wf`, but `hidden` is not a field of the translated struct, so this says nothing about Go memory.
  * `TrC10.dim`, `TrC10.nnz`, `TrC10.setRowVector_refines`: Props/C10 has no model-level theorem about `CSM.dim`,
    `CSM.nnz` or `SetRowVector` to compose them with.
-/

end EtVerif.TrGo10
