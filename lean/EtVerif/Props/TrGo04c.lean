/-
  TrGo04c — C04 about SEQUENCES of calls of the translated Go `Canonicalize` (Gen/Translated.lean, regenerated
  from the current source on every run): canonicalising an already canonical slice changes nothing
  (idempotence, exact over any ordered field), and a zero-sum slice, refused and left untouched, is refused again.
  Compositions of `TrGo04.go_canonicalize_sum_one` and `go_canonicalize_zero_sum`; property theorems only.
-/
import EtVerif.Props.TrGo04

namespace EtVerif.TrGo04c
open EtVerif EtVerif.GoSem EtVerif.Gen EtVerif.Tr Scalar EtVerif.TrGo04

variable {K : Type} [Field K] [LinearOrder K]

/-- Two calls in a row: on a slice whose values do not sum to zero, `Canonicalize(entries)` followed by
    `Canonicalize(entries)` on the slice the first call left — both return (no panic) a nil error, and the
    second call leaves the slice exactly as the first did. -/
theorem go_canonicalize_idempotent (es : List (Entry K)) (h : (es.map (·.val)).sum ≠ 0) :
    ∃ st st' es', Gen.Canonicalize (toGs es) = .ok (st, none) ∧ st.entries = toGs es' ∧
      (es'.map (·.val)).sum = 1 ∧
      Gen.Canonicalize st.entries = .ok (st', none) ∧ st'.entries = st.entries := by
  obtain ⟨st, es', ha, hb, _, hsum, _⟩ := go_canonicalize_sum_one es h
  obtain ⟨st', es'', ha', hb', heq', _, _⟩ :=
    go_canonicalize_sum_one es' (by rw [hsum]; exact one_ne_zero)
  refine ⟨st, st', es', ha, hb, hsum, by rw [hb]; exact ha', ?_⟩
  rw [hb', hb, heq', hsum]
  congr 1
  simp [div_one]

/-- The error branch repeats too: a zero-sum slice is refused with `ErrZeroSum` and left untouched, so a second
    call sees the same slice and refuses it again. -/
theorem go_canonicalize_zero_sum_twice (es : List (Entry K)) (h : (es.map (·.val)).sum = 0) :
    ∃ st st', Gen.Canonicalize (toGs es) = .ok (st, (some ⟨"ErrZeroSum"⟩ : Option GoError)) ∧
      st.entries = toGs es ∧
      Gen.Canonicalize st.entries = .ok (st', (some ⟨"ErrZeroSum"⟩ : Option GoError)) ∧
      st'.entries = toGs es := by
  obtain ⟨st, ha, hb⟩ := go_canonicalize_zero_sum es h
  obtain ⟨st', ha', hb'⟩ := go_canonicalize_zero_sum es h
  exact ⟨st, st', ha, hb, by rw [hb]; exact ha', hb'⟩

/-- Non-vacuity of the hypothesis of `go_canonicalize_idempotent`. -/
example : (([⟨0, 2⟩, ⟨3, -1⟩] : List (Entry ℚ)).map (·.val)).sum ≠ 0 := by norm_num

end EtVerif.TrGo04c
