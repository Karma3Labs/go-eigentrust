/-
  C02 — "Given canonical inputs (every row of C, the pre-trust and the initial vector are
  non-negative and sum to 1), the vector returned after any number of iterations - converged or
  cut off by an iteration limit, with any initial vector and check schedule - has only finite
  non-negative entries that sum to 1 within rounding, has the input dimension, and lists each
  peer at most once in increasing index order."

  Stated for exact arithmetic in an arbitrary linearly ordered field `K` (so: every entry is an
  element of the field, non-negative, and the entries sum to exactly 1).
  Property theorems only; helper lemmas live in Proofs/StepRefine.lean.

  Vocabulary:
  * `WF n es`      = indices strictly increasing and all `< n` (each peer at most once, in order);
  * `Dist n es`    = `WF n es`, every stored value `≥ 0`, stored values sum to 1;
  * `Canon n c p`  = `c` is a well-formed `n × n` matrix with non-negative stored values and every
                     row summing to 1, `p` has dimension `n` and `Dist n p.entries`;
  * `denE es i`    = dense value of `es` at `i`; `denRows rows i j` = dense cell `(i, j)`;
  * `stepEntries ct ap q t` = one loop body `t ← q·(ct t) + ap` of `Compute`;
  * `iterate ct ap q k t0`  = `(stepEntries ct ap q)^[k] t0`.
-/
import EtVerif.Proofs.StepRefine
import EtVerif.Props.C05

namespace EtVerif.C02
open EtVerif Scalar

variable {K : Type} [Field K] [LinearOrder K]

/-! ## the sparse step refines the dense map `t ↦ (1-a)·Cᵀt + a·p` -/

/-- For a well-formed matrix `c` and an index-sorted current vector `t`, the vector produced by
    one loop body denotes `(1-a)·Cᵀt + a·p` at every index `j` — for every `a` (`a = 1`: the
    product is cleared; `a = 0`: `a·p` is the empty vector) and every `p`. -/
theorem step_den (c : CSM K) (hw : WFM c) (p : Vec K) (a : K) (t : List (Entry K))
    (ht : Sorted t) (j : Nat) :
    denE (stepEntries c.transpose.rows (Vec.scale a p).entries (1 - a) t) j
      = (1 - a) * (∑ i ∈ Finset.range c.major, denRows c.rows i j * denE t i)
        + a * denE p.entries j :=
  SR.step_den hw p a ht j

/-! ## each peer at most once, in increasing index order -/

/-- The result of one loop body is well-formed for dimension `n` (strictly increasing indices,
    all `< n`) as soon as the matrix has `n` columns and the pre-trust vector is well-formed for
    `n` — whatever the current vector, the stored values and `a` are. -/
theorem step_wf (n : Nat) (c : CSM K) (hmin : c.minor = n) (p : Vec K) (hd : p.dim = n)
    (hp : WF n p.entries) (a : K) (t : List (Entry K)) :
    WF n (stepEntries c.transpose.rows (Vec.scale a p).entries (1 - a) t) :=
  SR.step_wf hmin hd hp a t

/-! ## one step keeps distributions -/

variable [IsStrictOrderedRing K]

/-- **Core of C02.**  With canonical `c`, `p` and `0 ≤ a ≤ 1` (including `a = 0` and `a = 1`), one
    loop body maps a distribution to a distribution: well-formed, non-negative, sum exactly 1. -/
theorem step_mass (n : Nat) (c : CSM K) (p : Vec K) (hc : Canon n c p) (a : K)
    (ha0 : 0 ≤ a) (ha1 : a ≤ 1) (t : List (Entry K)) (ht : Dist n t) :
    Dist n (stepEntries c.transpose.rows (Vec.scale a p).entries (1 - a) t) :=
  SR.step_mass hc ha0 ha1 ht

/-- Explicit zeros: under the same hypotheses every stored value of the result is strictly
    positive, except that for `a = 1` the stored zeros of the pre-trust vector (if it has any)
    are handed through (`ScaleVec(1, p)` keeps `p` as it is). -/
theorem step_zero_origin (n : Nat) (c : CSM K) (p : Vec K) (hc : Canon n c p) (a : K)
    (ha0 : 0 ≤ a) (ha1 : a ≤ 1) (t : List (Entry K)) (ht : Dist n t) (x : Entry K)
    (hx : x ∈ stepEntries c.transpose.rows (Vec.scale a p).entries (1 - a) t)
    (hz : x.val = 0) : a = 1 ∧ x ∈ p.entries := by
  -- stored values of the scaled product are positive
  have hq : 0 ≤ 1 - a := sub_nonneg.mpr ha1
  have hprod : ∀ y ∈ mulVecEntries c.transpose.rows t, 0 < y.val := by
    intro y hy
    obtain ⟨_, hv, hne⟩ := mem_mulVecEntries hy
    have h0 : 0 ≤ denE (mulVecEntries c.transpose.rows t) y.idx := by
      rw [den_mulVecEntries]
      exact SR.vecDot_transpose_nonneg hc ht.1.1 ht.2.1 y.idx
    rw [den_mulVecEntries, ← hv] at h0
    exact lt_of_le_of_ne h0 (Ne.symm hne)
  have hscaled : ∀ y ∈ (if isZero (1 - a) then [] else
      scaleEntries (1 - a) (mulVecEntries c.transpose.rows t)), 0 < y.val := by
    intro y hy
    split at hy
    · cases hy
    · rename_i hqz
      have hq0 : (1 - a) ≠ 0 := by simpa using hqz
      by_cases hq1 : (1 - a) = 1
      · rw [hq1, scaleEntries_one] at hy; exact hprod y hy
      · obtain ⟨z, hzm, _, rfl⟩ := (mem_scaleEntries hq1).mp hy
        exact mul_pos (hprod z hzm) (lt_of_le_of_ne hq (Ne.symm hq0))
  have hap : ∀ y ∈ (Vec.scale a p).entries, 0 ≤ y.val ∧ (y.val = 0 → a = 1 ∧ y ∈ p.entries) := by
    intro y hy
    unfold Vec.scale at hy
    split at hy
    · cases hy
    · by_cases h1 : a = 1
      · simp only [h1, scaleEntries_one] at hy
        exact ⟨hc.dist.2.1 y hy, fun _ => ⟨h1, hy⟩⟩
      · obtain ⟨z, hzm, hne, rfl⟩ := (mem_scaleEntries h1).mp hy
        exact ⟨mul_nonneg (hc.dist.2.1 z hzm) ha0, fun h => absurd h hne⟩
  unfold stepEntries at hx
  simp only at hx
  rcases mem_addEntries hx with h | h | ⟨u, hu, v, hv, _, rfl⟩
  · exact absurd hz (ne_of_gt (hscaled x h))
  · exact (hap x h).2 hz
  · exfalso
    exact (add_pos_of_pos_of_nonneg (hscaled u hu) (hap v hv).1).ne' hz

/-! ## every iterate, and every vector returned by `Compute`, is a distribution -/

theorem iterate_distribution (n : Nat) (c : CSM K) (p : Vec K) (hc : Canon n c p) (a : K)
    (ha0 : 0 ≤ a) (ha1 : a ≤ 1) (t0 : List (Entry K)) (ht0 : Dist n t0) (k : Nat) :
    Dist n ((stepEntries c.transpose.rows (Vec.scale a p).entries (1 - a))^[k] t0) := by
  induction k with
  | zero => exact ht0
  | succ k ih =>
    rw [Function.iterate_succ_apply']
    exact SR.step_mass hc ha0 ha1 ih

/-- **C02 at the level of `Compute`.**  Canonical `c`, `p`; the initial vector, when one is
    given, is a distribution (its dimension is validated by `compute` itself, as are
    `0 ≤ a ≤ 1`).  Then *every* successful `compute` — any fuel, check schedule
    (`minIterations`, `checkFreq`), iteration limit, flat-tail setting, `epsilon`, and whether it
    ended by the criteria, the iteration limit or the fuel — returns a vector of dimension `n`
    that is a distribution: indices strictly increasing and `< n`, every stored value `≥ 0`,
    stored values summing to exactly 1. -/
theorem compute_distribution (n fuel : Nat) (c : CSM K) (p : Vec K) (a e : K)
    (o : ComputeOpts K) (hc : Canon n c p)
    (ht0 : ∀ t0, o.t0 = some t0 → Dist n t0.entries)
    (r : ComputeResult K) (h : compute fuel c p a e o = .ok r) :
    r.t.dim = n ∧ Dist n r.t.entries := by
  obtain ⟨hv, ht, _⟩ := C05.compute_spec fuel c p a e o r h
  have ha0 := hv.alpha_nonneg
  have ha1 := hv.alpha_le_one
  have hstart : Dist n (o.t0.getD p).entries := by
    cases h0 : o.t0 with
    | none => exact hc.dist
    | some t0 => exact ht0 t0 h0
  rw [ht]
  exact ⟨hc.major_eq, iterate_distribution n c p hc a ha0 ha1 _ hstart r.iters⟩

/-- … in particular `Vector.Sum` (the compensated sum the Go code computes) of the returned
    vector is exactly 1. -/
theorem compute_sum_one (n fuel : Nat) (c : CSM K) (p : Vec K) (a e : K)
    (o : ComputeOpts K) (hc : Canon n c p)
    (ht0 : ∀ t0, o.t0 = some t0 → Dist n t0.entries)
    (r : ComputeResult K) (h : compute fuel c p a e o = .ok r) :
    Vec.sum r.t = 1 := by
  unfold Vec.sum
  rw [kbnSum_eq_sum]
  exact (compute_distribution n fuel c p a e o hc ht0 r h).2.2.2

/-! ## non-vacuity: two peers trusting each other, uniform pre-trust, over ℚ -/

section examples
attribute [local instance 10000] fieldScalar

/-- `C = [[0,1],[1,0]]` -/
private def c2 : CSM ℚ := ⟨2, 2, [[⟨1, 1⟩], [⟨0, 1⟩]], []⟩
/-- `p = (1/2, 1/2)` -/
private def p2 : Vec ℚ := ⟨2, [⟨0, 1/2⟩, ⟨1, 1/2⟩]⟩
/-- `t0 = (1, 0)` with an explicitly stored zero -/
private def t2 : Vec ℚ := ⟨2, [⟨0, 1⟩, ⟨1, 0⟩]⟩

private theorem canon2 : Canon 2 c2 p2 := canon_two_peers

private theorem dist_t2 : Dist 2 t2.entries := by
  refine ⟨⟨?_, ?_⟩, ?_, ?_⟩
  · simp only [t2, Sorted, List.pairwise_cons, List.forall_mem_cons, List.not_mem_nil,
      false_imp_iff, implies_true, and_true, List.Pairwise.nil]
    decide
  · simp only [t2, List.forall_mem_cons, List.not_mem_nil, false_imp_iff, implies_true, and_true]
    decide
  · simp only [t2, List.forall_mem_cons, List.not_mem_nil, false_imp_iff, implies_true, and_true]
    exact ⟨zero_le_one, le_rfl⟩
  · simp only [t2, List.map_cons, List.map_nil, List.sum_cons, List.sum_nil, add_zero]

example : WFM c2 ∧ Sorted t2.entries := ⟨canon2.wfm, dist_t2.1.1⟩

example : Dist 2 (stepEntries c2.transpose.rows (Vec.scale (1/3) p2).entries (1 - 1/3) t2.entries) :=
  step_mass 2 c2 p2 canon2 (1/3) (by norm_num) (by norm_num) _ dist_t2

/-- `a = 0` and `a = 1` are covered -/
example : Dist 2 (stepEntries c2.transpose.rows (Vec.scale 0 p2).entries (1 - 0) t2.entries) :=
  step_mass 2 c2 p2 canon2 0 le_rfl zero_le_one _ dist_t2
example : Dist 2 (stepEntries c2.transpose.rows (Vec.scale 1 p2).entries (1 - 1) t2.entries) :=
  step_mass 2 c2 p2 canon2 1 zero_le_one le_rfl _ dist_t2

example : Dist 2 ((stepEntries c2.transpose.rows (Vec.scale (1/3) p2).entries (1 - 1/3))^[7]
    t2.entries) :=
  iterate_distribution 2 c2 p2 canon2 (1/3) (by norm_num) (by norm_num) _ dist_t2 7

private def isOk (x : Except SErr (ComputeResult ℚ)) : Bool :=
  match x with
  | .ok _ => true
  | .error _ => false

/-- a run that converges (default options) … -/
example : ∃ r, compute 100 c2 p2 (1/3) (1/10) {} = .ok r ∧ r.t.dim = 2 ∧ Dist 2 r.t.entries := by
  have hok : isOk (compute 100 c2 p2 (1/3) (1/10) {}) = true := by decide +kernel
  cases h : compute 100 c2 p2 (1/3) (1/10) {} with
  | error err => rw [h] at hok; cases hok
  | ok r => exact ⟨r, rfl, compute_distribution 2 100 c2 p2 (1/3) (1/10) {} canon2 (by simp) r h⟩

/-- … and a run cut off by the iteration limit, from the initial vector `(1, 0)`, with a
    non-default schedule and a flat-tail requirement -/
example : ∃ r, compute 100 c2 p2 (1/3) (1/1000)
      { t0 := some t2, maxIterations := some 3, minIterations := some 2, checkFreq := some 2,
        flatTail := 1 } = .ok r ∧
    r.endedBy = .maxIterations ∧ r.t.dim = 2 ∧ Dist 2 r.t.entries := by
  have hok : (match compute 100 c2 p2 (1/3) (1/1000)
      { t0 := some t2, maxIterations := some 3, minIterations := some 2, checkFreq := some 2,
        flatTail := 1 } with
      | .ok r => decide (r.endedBy = .maxIterations)
      | .error _ => false) = true := by decide +kernel
  cases h : compute 100 c2 p2 (1/3) (1/1000)
      { t0 := some t2, maxIterations := some 3, minIterations := some 2, checkFreq := some 2,
        flatTail := 1 } with
  | error err => rw [h] at hok; cases hok
  | ok r =>
    rw [h] at hok
    refine ⟨r, rfl, by simpa using hok, compute_distribution 2 100 c2 p2 (1/3) (1/1000) _ canon2 ?_ r h⟩
    intro t0 ht0
    cases ht0
    exact dist_t2

end examples

end EtVerif.C02
