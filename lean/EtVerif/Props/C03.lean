/-
  C03 — The compute endpoints return the EigenTrust scores of the documented effective inputs.
  Property theorems only (helper lemmas live in Proofs/OapiLemmas.lean).

  Vocabulary (Proofs/OapiLemmas.lean, namespace `EtVerif.OapiL`):
  * `ValidReq r`   — documented validity of an inline request: local trust `.inline m` with
                     `1 ≤ size`, indices in `[0, size)`, pairwise distinct `(i, j)`; pre-trust and
                     initial trust absent or `.inline v` with `1 ≤ size`, indices in range and
                     pairwise distinct, values `> 0`; `alpha ∈ [0,1]`, `epsilon ∈ (0,1]`,
                     `flatTail, numLeaders, maxIterations ≥ 0`, `minIterations, checkFreq ≥ 1`;
  * `docDim r`     — the documented dimension: the largest given size;
  * `matDen ref i j` / `vecDen ref j` — dense value of the given local trust / optional vector
                     (the listed value; `0` where nothing is listed, or when absent);
  * `denRows rows i j`, `denE es j` — dense values of the sparse results; `WF` (Proofs/Vec.lean),
                     `WFM` (Proofs/Matrix.lean) — well-formed entry list / matrix.
-/
import EtVerif.Proofs.OapiLemmas
import EtVerif.Props.C05
import Mathlib.Algebra.Order.Field.Rat
import Mathlib.Tactic.NormNum

namespace EtVerif.C03
open EtVerif EtVerif.Oapi EtVerif.OapiL

variable {K : Type} [Field K] [LinearOrder K]

set_option linter.unusedSectionVars false

/-! ## 1. which requests are accepted -/

/-- Every valid request passes loading, alignment and the guards (whatever the store holds). -/
theorem prepare_ok (k : Consts K) (s : Store K) {r : ComputeReq K} (h : ValidReq r) :
    ∃ eff, prepare k s r = some eff := by
  obtain ⟨_, _, _, _, _, _, _, _, _, _, _, hp⟩ := prepare_valid k s h
  exact ⟨_, hp⟩

/-- The loaders' verdict on a local trust reference: rejected exactly when it is an inline matrix
    with `size ≤ 0` or an index outside `[0, size)`, an unknown stored id, object storage (not
    modelled) or an unknown scheme. -/
theorem loadMatrix_none_iff (s : Store K) (ref : MatrixRef K) :
    loadMatrix s ref = none ↔
      (∃ m, ref = .inline m ∧ (m.size ≤ 0 ∨
        ∃ e ∈ m.entries, ¬ (0 ≤ e.1 ∧ e.1 < m.size ∧ 0 ≤ e.2.1 ∧ e.2.1 < m.size))) ∨
      (∃ id, ref = .stored id ∧ s.get? id = none) ∨
      (∃ u, ref = .objectStorage u) ∨ (∃ u, ref = .unknown u) := by
  cases ref with
  | inline m =>
    refine loadInlineMatrix_eq_none_iff.trans ⟨fun h => .inl ⟨m, rfl, ?_⟩, ?_⟩
    · rw [not_and_or, not_lt, InRangeM, not_forall₂] at h
      exact h.imp_right fun ⟨e, he, hn⟩ => ⟨e, he, hn⟩
    · rintro (⟨_, ⟨⟩, hs | ⟨e, he, hn⟩⟩ | ⟨_, ⟨⟩, _⟩ | ⟨_, ⟨⟩⟩ | ⟨_, ⟨⟩⟩)
      · exact fun h => absurd h.1 (not_lt.mpr hs)
      · exact fun h => hn (h.2 e he)
  | stored id =>
    refine ⟨fun h => .inr (.inl ⟨id, rfl, h⟩), ?_⟩
    rintro (⟨_, ⟨⟩, _⟩ | ⟨_, ⟨⟩, h⟩ | ⟨_, ⟨⟩⟩ | ⟨_, ⟨⟩⟩)
    exact h
  | objectStorage u => exact ⟨fun _ => .inr (.inr (.inl ⟨u, rfl⟩)), fun _ => rfl⟩
  | unknown u => exact ⟨fun _ => .inr (.inr (.inr ⟨u, rfl⟩)), fun _ => rfl⟩

/-- The loaders' verdict on a vector reference: rejected exactly when it is an inline vector with
    `size ≤ 0`, an index outside `[0, size)` or a value `≤ 0`, object storage or an unknown
    scheme. -/
theorem loadVector_none_iff (ref : VectorRef K) :
    loadVector ref = none ↔
      (∃ v, ref = .inline v ∧ (v.size ≤ 0 ∨
        ∃ e ∈ v.entries, ¬ (0 ≤ e.1 ∧ e.1 < v.size ∧ 0 < e.2))) ∨
      (∃ u, ref = .objectStorage u) ∨ (∃ u, ref = .unknown u) := by
  cases ref with
  | inline v =>
    refine loadInlineVector_eq_none_iff.trans ⟨fun h => .inl ⟨v, rfl, ?_⟩, ?_⟩
    · rw [not_and_or, not_lt, InRangeV, not_forall₂] at h
      exact h.imp_right fun ⟨e, he, hn⟩ => ⟨e, he, hn⟩
    · rintro (⟨_, ⟨⟩, hs | ⟨e, he, hn⟩⟩ | ⟨_, ⟨⟩⟩ | ⟨_, ⟨⟩⟩)
      · exact fun h => absurd h.1 (not_lt.mpr hs)
      · exact fun h => hn (h.2 e he)
  | objectStorage u => exact ⟨fun _ => .inr (.inl ⟨u, rfl⟩), fun _ => rfl⟩
  | unknown u => exact ⟨fun _ => .inr (.inr ⟨u, rfl⟩), fun _ => rfl⟩

/-- a local trust reference the loader refuses ⇒ 400 -/
theorem prepare_invalid_localTrust (k : Consts K) (s : Store K) (r : ComputeReq K)
    (h : loadMatrix s r.localTrust = none) : prepare k s r = none :=
  prepare_eq_none_of (.inl h)

/-- a pre-trust reference the loader refuses ⇒ 400 -/
theorem prepare_invalid_preTrust (k : Consts K) (s : Store K) (r : ComputeReq K)
    (h : ∃ ref, r.preTrust = some ref ∧ loadVector ref = none) : prepare k s r = none :=
  prepare_eq_none_of (.inr (.inl (loadOptVec_eq_none_iff.mpr h)))

/-- an initial-trust reference the loader refuses ⇒ 400 -/
theorem prepare_invalid_initialTrust (k : Consts K) (s : Store K) (r : ComputeReq K)
    (h : ∃ ref, r.initialTrust = some ref ∧ loadVector ref = none) : prepare k s r = none :=
  prepare_eq_none_of (.inr (.inr (.inl (loadOptVec_eq_none_iff.mpr h))))

/-- `alpha` outside `[0, 1]` ⇒ 400 -/
theorem prepare_invalid_alpha (k : Consts K) (s : Store K) (r : ComputeReq K)
    (h : ∃ a, r.alpha = some a ∧ (a < 0 ∨ 1 < a)) : prepare k s r = none :=
  have ⟨a, h1, h2⟩ := h
  prepare_eq_none_of (.inr (.inr (.inr (.inl
    (guardA_of_bad (.inl ⟨a, h1, h2.imp decide_eq_true decide_eq_true⟩))))))

/-- `epsilon` outside `(0, 1]` ⇒ 400 -/
theorem prepare_invalid_epsilon (k : Consts K) (s : Store K) (r : ComputeReq K)
    (h : ∃ e, r.epsilon = some e ∧ (e ≤ 0 ∨ 1 < e)) : prepare k s r = none :=
  have ⟨e, h1, h2⟩ := h
  prepare_eq_none_of (.inr (.inr (.inr (.inl
    (guardA_of_bad (.inr ⟨e, h1, h2.imp decide_eq_true decide_eq_true⟩))))))

/-- an iteration option below its documented minimum (`flatTail, numLeaders, maxIterations ≥ 0`,
    `minIterations, checkFreq ≥ 1`) ⇒ 400 -/
theorem prepare_invalid_option (k : Consts K) (s : Store K) (r : ComputeReq K)
    (h : (∃ x, r.flatTail = some x ∧ x < 0) ∨ (∃ x, r.numLeaders = some x ∧ x < 0) ∨
      (∃ x, r.maxIterations = some x ∧ x < 0) ∨ (∃ x, r.minIterations = some x ∧ x < 1) ∨
      (∃ x, r.checkFreq = some x ∧ x < 1)) : prepare k s r = none :=
  prepare_eq_none_of (.inr (.inr (.inr (.inr (guardB_of_bad h)))))

/-- Exact characterisation of the 400 answers for an inline local trust: the request is refused
    if and only if a loader refuses one of the three references or a parameter is out of its
    documented range.  (In particular nothing else — e.g. repeated coordinates — is checked.) -/
theorem prepare_none_iff (k : Consts K) (s : Store K) (r : ComputeReq K) (m : IMatrix K)
    (hm : r.localTrust = .inline m) :
    prepare k s r = none ↔
      loadInlineMatrix m = none ∨ (∃ ref, r.preTrust = some ref ∧ loadVector ref = none) ∨
      (∃ ref, r.initialTrust = some ref ∧ loadVector ref = none) ∨
      ¬ ((∀ a, r.alpha = some a → 0 ≤ a ∧ a ≤ 1) ∧ (∀ e, r.epsilon = some e → 0 < e ∧ e ≤ 1)) ∨
      ¬ (optOK r.flatTail 0 ∧ optOK r.numLeaders 0 ∧ optOK r.maxIterations 0 ∧
          optOK r.minIterations 1 ∧ optOK r.checkFreq 1) := by
  have hl : loadMatrix s r.localTrust = loadInlineMatrix m := by rw [hm]; rfl
  rw [← guardA_false_iff, ← guardB_false_iff, Bool.not_eq_false, Bool.not_eq_false,
    ← loadOptVec_eq_none_iff, ← loadOptVec_eq_none_iff, ← hl]
  refine prepare_eq_none_iff fun c0 pOpt tOpt h1 => ?_
  obtain ⟨eff, he⟩ := finish_isSome k r (loadInlineMatrix_square (hl ▸ h1)) pOpt tOpt
  rw [he]
  exact nofun

/-- a refused request is answered 400 by both endpoints -/
theorem badRequest_of_prepare_none (fuel : Nat) (k : Consts K) (s : Store K) (r : ComputeReq K)
    (h : prepare k s r = none) :
    handleCompute fuel k s r = .badRequest ∧
    handleComputeWithStats fuel k s r = .badRequest :=
  OapiL.badRequest_of_prepare_none fuel h

/-! ## 2. the effective inputs of a valid request -/

/-- Dimensions: everything handed to `basic.Compute` / `DiscountTrustVector` has the documented
    dimension `n = docDim r ≥ 1` and is well-formed. -/
theorem prepare_dims (k : Consts K) (s : Store K) {r : ComputeReq K} (h : ValidReq r)
    {eff : Effective K} (he : prepare k s r = some eff) :
    0 < docDim r ∧
    eff.c.major = docDim r ∧ eff.c.minor = docDim r ∧ WFM eff.c ∧
    eff.p.dim = docDim r ∧ WF (docDim r) eff.p.entries ∧
    eff.discounts.major = docDim r ∧ eff.discounts.minor = docDim r ∧ WFM eff.discounts ∧
    (∀ t, eff.t0 = some t → t.dim = docDim r ∧ WF (docDim r) t.entries) := by
  obtain ⟨c0, c2, pes, tOpt, _, ha, hp, _, _, ht, hpos, hprep⟩ := prepare_valid k s h
  cases he.symm.trans hprep
  obtain ⟨d1, d2, d3, d4, d5, d6, d7, d8⟩ := effOf_dims k r
    (tOpt.map fun t => ⟨docDim r, t.entries⟩) ha hp
  refine ⟨hpos, d1, d2, d3, d4, d5, d6, d7, d8, ?_⟩
  intro t ht'
  cases tOpt with
  | none => cases ht'
  | some t' =>
    obtain rfl : canonicalizeTrustVector ⟨docDim r, t'.entries⟩ = t := Option.some.inj ht'
    exact ⟨C04.canonTV_dim _, wf_canonTV (ht t' rfl).1⟩

/-- Defaults: absent `alpha` is `0.5`, absent `epsilon` is `1e-6 / n`, the initial trust is passed
    on exactly when given, the iteration options are passed through unchanged. -/
theorem prepare_defaults (k : Consts K) (s : Store K) {r : ComputeReq K} (h : ValidReq r)
    {eff : Effective K} (he : prepare k s r = some eff) :
    eff.a = r.alpha.getD k.half ∧
    eff.e = r.epsilon.getD (k.epsNum / (docDim r : K)) ∧
    eff.opts.t0 = eff.t0 ∧ (eff.t0 = none ↔ r.initialTrust = none) ∧
    eff.opts.resultDim = none ∧
    eff.opts.flatTail = (r.flatTail.getD 0).toNat ∧
    eff.opts.numLeaders = (r.numLeaders.getD 0).toNat ∧
    eff.opts.maxIterations = r.maxIterations ∧ eff.opts.minIterations = r.minIterations ∧
    eff.opts.checkFreq = r.checkFreq := by
  obtain ⟨c0, c2, pes, tOpt, _, _, _, _, ht, _, _, hprep⟩ := prepare_valid k s h
  cases he.symm.trans hprep
  refine ⟨rfl, rfl, rfl, ?_, rfl, rfl, rfl, rfl, rfl, rfl⟩
  rw [← ht]
  show Option.map _ (Option.map _ tOpt) = none ↔ _
  cases tOpt <;> simp

/-- Pre-trust: absent or all-zero pre-trust is uniform, otherwise the given values divided by
    their sum (`vecDen r.preTrust` is identically `0` when the pre-trust is absent). -/
theorem prepare_pretrust [IsStrictOrderedRing K] (k : Consts K) (s : Store K) {r : ComputeReq K}
    (h : ValidReq r) {eff : Effective K} (he : prepare k s r = some eff) (j : Nat) :
    denE eff.p.entries j =
      if ∑ j' ∈ Finset.range (docDim r), vecDen r.preTrust j' = 0 then
        (if j < docDim r then 1 / (docDim r : K) else 0)
      else vecDen r.preTrust j / ∑ j' ∈ Finset.range (docDim r), vecDen r.preTrust j' := by
  obtain ⟨c0, c2, pes, tOpt, _, _, hp, hpd, _, _, _, hprep⟩ := prepare_valid k s h
  cases he.symm.trans hprep
  rw [effOf_p_den k r _ c2 hp j]
  simp only [hpd]

/-- an absent pre-trust has dense value `0` everywhere, hence is treated as all-zero -/
theorem pretrust_absent {r : ComputeReq K} (h : r.preTrust = none) (n : Nat) :
    ∑ j' ∈ Finset.range n, vecDen r.preTrust j' = 0 := by
  rw [h]; simp [vecDen]

/-- Local trust: with `pos i j = max (L i j) 0`, row `i < n` is `pos i · / Σ pos i ·` when that
    sum is non-zero; every peer without positive outgoing trust trusts according to the
    (effective) pre-trust. -/
theorem prepare_localtrust [IsStrictOrderedRing K] (k : Consts K) (s : Store K)
    {r : ComputeReq K} (h : ValidReq r) {eff : Effective K} (he : prepare k s r = some eff)
    (i : Nat) (hi : i < docDim r) (j : Nat) :
    denRows eff.c.rows i j =
      if ∑ j' ∈ Finset.range (docDim r), max (matDen r.localTrust i j') 0 = 0 then
        denE eff.p.entries j
      else max (matDen r.localTrust i j) 0 /
        ∑ j' ∈ Finset.range (docDim r), max (matDen r.localTrust i j') 0 := by
  obtain ⟨c0, c2, pes, tOpt, hL, ha, _, _, _, _, _, hprep⟩ := prepare_valid k s h
  cases he.symm.trans hprep
  rw [effOf_c_den k r _ ha hi j]
  simp only [hL]

/-- Discounts: with `neg i j = max (-(L i j)) 0`, row `i` of the discount matrix is
    `neg i · / Σ neg i ·`, and zero for a peer that distrusts nobody. -/
theorem prepare_discounts [IsStrictOrderedRing K] (k : Consts K) (s : Store K)
    {r : ComputeReq K} (h : ValidReq r) {eff : Effective K} (he : prepare k s r = some eff)
    (i j : Nat) :
    denRows eff.discounts.rows i j =
      if ∑ j' ∈ Finset.range (docDim r), max (-(matDen r.localTrust i j')) 0 = 0 then 0
      else max (-(matDen r.localTrust i j)) 0 /
        ∑ j' ∈ Finset.range (docDim r), max (-(matDen r.localTrust i j')) 0 := by
  obtain ⟨c0, c2, pes, tOpt, hL, ha, _, _, _, _, _, hprep⟩ := prepare_valid k s h
  cases he.symm.trans hprep
  rw [effOf_d_den k r _ ha i j]
  simp only [hL]

/-- Initial trust: canonicalised like the pre-trust (uniform if it sums to zero). -/
theorem prepare_initial [IsStrictOrderedRing K] (k : Consts K) (s : Store K) {r : ComputeReq K}
    (h : ValidReq r) {eff : Effective K} (he : prepare k s r = some eff) (t : Vec K)
    (ht : eff.t0 = some t) (j : Nat) :
    denE t.entries j =
      if ∑ j' ∈ Finset.range (docDim r), vecDen r.initialTrust j' = 0 then
        (if j < docDim r then 1 / (docDim r : K) else 0)
      else vecDen r.initialTrust j / ∑ j' ∈ Finset.range (docDim r), vecDen r.initialTrust j' := by
  obtain ⟨c0, c2, pes, tOpt, _, _, _, _, _, htd, _, hprep⟩ := prepare_valid k s h
  cases he.symm.trans hprep
  cases tOpt with
  | none => cases ht
  | some t' =>
    obtain rfl : canonicalizeTrustVector ⟨docDim r, t'.entries⟩ = t := Option.some.inj ht
    obtain ⟨hw, hd⟩ := htd t' rfl
    rw [den_canonTV, vsum_eq_sum hw]
    simp only [hd]

/-! ## 3. the two endpoints agree -/

/-- `/compute-with-stats` answers 200 with scores `v` exactly when `/compute` answers 200 with
    the same `v`; and the non-200 statuses coincide. -/
theorem endpoints_agree (fuel : Nat) (k : Consts K) (s : Store K) (r : ComputeReq K) :
    (∀ v st, handleComputeWithStats fuel k s r = .ok (v, st) → handleCompute fuel k s r = .ok v) ∧
    (∀ v, handleCompute fuel k s r = .ok v →
      ∃ st, handleComputeWithStats fuel k s r = .ok (v, st)) ∧
    (handleComputeWithStats fuel k s r = .badRequest ↔ handleCompute fuel k s r = .badRequest) ∧
    (handleComputeWithStats fuel k s r = .notFound ↔ handleCompute fuel k s r = .notFound) ∧
    (handleComputeWithStats fuel k s r = .serverError ↔
      handleCompute fuel k s r = .serverError) := by
  unfold handleComputeWithStats handleCompute
  cases computeCore fuel k s r with
  | ok o =>
    refine ⟨fun _ _ h => ?_, fun _ h => ?_, ⟨nofun, nofun⟩, ⟨nofun, nofun⟩, ⟨nofun, nofun⟩⟩
    · cases h
      rfl
    · cases h
      exact ⟨_, rfl⟩
  | badRequest =>
    exact ⟨nofun, nofun, ⟨fun _ => rfl, fun _ => rfl⟩, ⟨nofun, nofun⟩, ⟨nofun, nofun⟩⟩
  | notFound =>
    exact ⟨nofun, nofun, ⟨nofun, nofun⟩, ⟨fun _ => rfl, fun _ => rfl⟩, ⟨nofun, nofun⟩⟩
  | serverError =>
    exact ⟨nofun, nofun, ⟨nofun, nofun⟩, ⟨nofun, nofun⟩, ⟨fun _ => rfl, fun _ => rfl⟩⟩

/-! ## 4. the scores -/

/-- A 200 answer carries the discounted result of `basic.Compute` on the effective inputs. -/
theorem compute_scores_def (fuel : Nat) (k : Consts K) (s : Store K) (r : ComputeReq K)
    (o : ComputeOut K) (h : computeCore fuel k s r = .ok o) :
    ∃ eff res, prepare k s r = some eff ∧
      compute fuel eff.c eff.p eff.a eff.e eff.opts = .ok res ∧
      o.scores = discountTrustVector res.t eff.discounts ∧ o.stats = res.stats ∧
      o.iters = res.iters := by
  obtain ⟨eff, res, hp, hc, rfl⟩ := computeCore_ok h
  exact ⟨eff, res, hp, hc, rfl, rfl, rfl⟩

/-- For a valid request the vector returned by `basic.Compute` on the effective inputs has the
    documented dimension and is well-formed. -/
theorem compute_result_wf (fuel : Nat) (k : Consts K) (s : Store K) {r : ComputeReq K}
    (hv : ValidReq r) {eff : Effective K} (hp : prepare k s r = some eff)
    {res : ComputeResult K} (hc : compute fuel eff.c eff.p eff.a eff.e eff.opts = .ok res) :
    res.t.dim = docDim r ∧ WF (docDim r) res.t.entries := by
  obtain ⟨_, d1, d2, d3, d4, d5, d6, d7, d8, d9⟩ := prepare_dims k s hv hp
  obtain ⟨_, hdef⟩ := prepare_defaults k s hv hp
  obtain ⟨_, hres, _⟩ := C05.compute_spec fuel eff.c eff.p eff.a eff.e eff.opts res hc
  refine ⟨by rw [hres]; exact d1, ?_⟩
  rw [hres]
  simp only
  apply wf_iterate
  · rw [Mx.transpose_length]; exact d2
  · exact wf_vecScale _ d5
  · rw [hdef.2.1]
    cases ht : eff.t0 with
    | none => exact d5
    | some t => exact (d9 t ht).2

/-- For a valid request the scores have size `n = docDim r` and their entries are keyed by peer
    index: strictly increasing indices, all below `n`. -/
theorem scores_size (fuel : Nat) (k : Consts K) (s : Store K) {r : ComputeReq K}
    (hv : ValidReq r) (o : ComputeOut K) (h : computeCore fuel k s r = .ok o) :
    o.scores.dim = docDim r ∧ WF (docDim r) o.scores.entries := by
  obtain ⟨eff, res, hp, hc, hs, _, _⟩ := compute_scores_def fuel k s r o h
  obtain ⟨_, _, _, _, _, _, _, d7, d8, _⟩ := prepare_dims k s hv hp
  obtain ⟨hdim, hwf⟩ := compute_result_wf fuel k s hv hp hc
  rw [hs]
  refine ⟨hdim, ?_⟩
  have := C08.discount_wf res.t eff.discounts (by rw [hdim]; exact hwf)
    (by rw [hdim, ← d7]; exact d8.2)
  rw [C08.discount_dim, hdim] at this
  exact this

/-- Negative trust is applied as a reputation-weighted discount after convergence: with `t` the
    vector `basic.Compute` returns for the effective inputs and `D` the effective discount
    matrix, `score_j = t_j - Σ_{i<n} t_i · D_ij`. -/
theorem scores_discounted (fuel : Nat) (k : Consts K) (s : Store K) {r : ComputeReq K}
    (hv : ValidReq r) (o : ComputeOut K) (h : computeCore fuel k s r = .ok o) :
    ∃ eff res, prepare k s r = some eff ∧
      compute fuel eff.c eff.p eff.a eff.e eff.opts = .ok res ∧
      ∀ j, denE o.scores.entries j = denE res.t.entries j -
        ∑ i ∈ Finset.range (docDim r), denE res.t.entries i * denRows eff.discounts.rows i j := by
  obtain ⟨eff, res, hp, hc, hs, _, _⟩ := compute_scores_def fuel k s r o h
  obtain ⟨hdim, hwf⟩ := compute_result_wf fuel k s hv hp hc
  refine ⟨eff, res, hp, hc, fun j => ?_⟩
  rw [hs, C08.discount_spec res.t eff.discounts (by rw [hdim]; exact hwf) j, hdim]
  rfl

/-- Over exact arithmetic a valid request is never answered 500: with the handler's constants
    in range (`0 ≤ 0.5 ≤ 1`, `1e-6 > 0`) the effective inputs pass every validation of
    `basic.Compute`, and a non-finite delta cannot occur; so both endpoints answer 200. -/
theorem valid_ok [IsStrictOrderedRing K] (fuel : Nat) (k : Consts K) (s : Store K)
    {r : ComputeReq K} (hv : ValidReq r) (hh : 0 ≤ k.half ∧ k.half ≤ 1) (he : 0 < k.epsNum) :
    ∃ o, computeCore fuel k s r = .ok o ∧ handleCompute fuel k s r = .ok o.scores ∧
      handleComputeWithStats fuel k s r = .ok (o.scores, o.stats) := by
  obtain ⟨eff, hp⟩ := prepare_ok k s hv
  obtain ⟨hpos, d1, d2, _, d4, _, _, _, _, d9⟩ := prepare_dims k s hv hp
  obtain ⟨f1, f2, f3, _, f5, _, _, f8, f9, f10⟩ := prepare_defaults k s hv hp
  have hvalid : ValidInput eff.c eff.p eff.a eff.e eff.opts := by
    refine ⟨d1.trans d2.symm, by rw [d1]; exact hpos.ne', d4.trans d1.symm, fun t ht => ?_,
      fun d hd => ?_, ?_, ?_, ?_, ?_, ?_, ?_⟩
    · rw [f3] at ht
      rw [d1]
      exact (d9 t ht).1
    · rw [f5] at hd
      cases hd
    · rw [f1]
      exact getD_rec (P := fun a => Scalar.lt a Scalar.zero = false)
        (decide_eq_false (not_lt.mpr hh.1))
        fun a ha => decide_eq_false (not_lt.mpr (hv.alpha a ha).1)
    · rw [f1]
      exact getD_rec (P := fun a => Scalar.lt Scalar.one a = false)
        (decide_eq_false (not_lt.mpr hh.2))
        fun a ha => decide_eq_false (not_lt.mpr (hv.alpha a ha).2)
    · rw [f2]
      exact getD_rec (P := fun e => Scalar.le e Scalar.zero = false)
        (decide_eq_false (not_le.mpr (div_pos he (Nat.cast_pos.mpr hpos))))
        fun e hep => decide_eq_false (not_le.mpr (hv.epsilon e hep).1)
    · rw [f10]
      exact getD_rec (Int.le_refl 1) hv.checkFreq
    · rw [f8]
      exact getD_rec (Int.le_refl 0) hv.maxIterations
    · rw [f9, f10]
      exact getD_rec (getD_rec (Int.le_refl 1) hv.checkFreq) hv.minIterations
  have hnf := loopOf_not_nonFinite fuel eff.c eff.p eff.a eff.e eff.opts
  obtain ⟨res, hres, _⟩ := C05.compute_ok fuel eff.c eff.p eff.a eff.e eff.opts hvalid
    (loopOf fuel eff.c eff.p eff.a eff.e eff.opts).1 (loopOf fuel eff.c eff.p eff.a eff.e eff.opts).2
    rfl hnf
  have hcore : computeCore fuel k s r =
      .ok { scores := discountTrustVector res.t eff.discounts, stats := res.stats,
            iters := res.iters } := by
    unfold computeCore
    rw [hp]
    simp only [hres]
  refine ⟨_, hcore, ?_, ?_⟩
  · unfold handleCompute; rw [hcore]
  · unfold handleComputeWithStats; rw [hcore]

/-! ## 5. stored and inline local trust -/

/-- The body of `GET /local-trust/{id}` for a stored matrix `M` (well-formed, square, no stored
    zero, size ≥ 1), sent as an inline local trust, is accepted and loads to a matrix with the
    very same rows and dimensions as `M`. -/
theorem stored_eq_inline (M : CSM K) (hw : WFM M) (hsq : M.major = M.minor)
    (hnz : ∀ i, ∀ e ∈ M.rows.getD i [], e.val ≠ 0) (h1 : 1 ≤ M.major) :
    ∃ M', loadInlineMatrix
        ⟨(M.major : Int), (entriesOf M).map fun (i, j, v) => ((i : Int), (j : Int), v)⟩ = some M' ∧
      M'.rows = M.rows ∧ M'.major = M.major ∧ M'.minor = M.minor ∧ M'.hidden = [] :=
  ⟨_, load_renderI hw hsq hnz h1, rfl, rfl, hsq, rfl⟩

/-- Hence a request naming a stored matrix `M` (satisfying the store invariant `MatInv`, which
    holds in every store reachable from the empty one, see `C13.reachable_inv`) is prepared and
    answered exactly like the request carrying the GET body of `M` inline; that inline request is
    valid whenever the rest of the request is, its documented dimension is the largest of
    `M`'s size and the given vector sizes, and its dense local trust is the content of `M`.
    All theorems of sections 1–4 therefore apply to stored references through `r'`. -/
theorem stored_request_reduces (fuel : Nat) (k : Consts K) (s : Store K) (r : ComputeReq K)
    (id : String) (M : CSM K) (hid : r.localTrust = .stored id) (hg : s.get? id = some M)
    (hM : MatInv M) :
    prepare k s r = prepare k s { r with localTrust := .inline (renderI M) } ∧
    computeCore fuel k s r = computeCore fuel k s { r with localTrust := .inline (renderI M) } ∧
    handleCompute fuel k s r = handleCompute fuel k s { r with localTrust := .inline (renderI M) } ∧
    handleComputeWithStats fuel k s r =
      handleComputeWithStats fuel k s { r with localTrust := .inline (renderI M) } ∧
    (ValidRest r → ValidReq { r with localTrust := .inline (renderI M) }) ∧
    docDim { r with localTrust := .inline (renderI M) } =
      max M.major (max (vecSize r.preTrust) (vecSize r.initialTrust)) ∧
    (∀ i j, matDen (MatrixRef.inline (renderI M)) i j = denRows M.rows i j) := by
  have hp : prepare k s r = prepare k s { r with localTrust := .inline (renderI M) } :=
    prepare_congr ((congrArg (loadMatrix s) hid).trans (hg.trans (load_renderI_eq hM).symm))
  obtain ⟨hc, h1, h2⟩ := endpoints_congr hp fuel
  refine ⟨hp, hc, h1, h2, fun hr => hr.withInline (valid_renderI hM.wfm hM.square hM.pos), ?_,
    denIM_renderI hM⟩
  show max ((M.major : Int).toNat) _ = _
  rw [Int.toNat_natCast]

/-! ## non-vacuity at `K := ℚ` -/

section examples

-- `ℚ` carries two `Scalar` instances (`ratScalar` for the driver, `fieldScalar` for proofs);
-- the examples use the proof instance.
attribute [local instance 10000] fieldScalar

/-- the first worked example of the API document: 3 peers -/
private def exLT : IMatrix ℚ := ⟨3, [(0, 1, 1), (0, 2, 1), (1, 2, 100)]⟩
/-- the pre-trust example of the API document -/
private def exPT : IVector ℚ := ⟨3, [(0, 1/2), (2, 1)]⟩
private def exK : Consts ℚ := ⟨1/2, 1/1000000⟩
private def exReq : ComputeReq ℚ :=
  { localTrust := .inline exLT, preTrust := some (.inline exPT) }

private theorem exReq_valid : ValidReq exReq := by
  refine ⟨⟨exLT, rfl, ?_⟩, ?_, trivial, nofun, nofun, nofun, nofun, nofun, nofun, nofun⟩
  · unfold ValidIMatrix InRangeM
    decide +kernel
  · show ValidIVector exPT
    unfold ValidIVector InRangeV
    decide +kernel

/-- a 2-peer request with a distrust entry, a larger initial trust and explicit parameters -/
private def exReq2 : ComputeReq ℚ :=
  { localTrust := .inline ⟨2, [(0, 1, 1), (1, 0, -1)]⟩
    initialTrust := some (.inline ⟨3, [(2, 5)]⟩)
    alpha := some (1/4), epsilon := some (1/100), flatTail := some 2, minIterations := some 3
    checkFreq := some 2 }

private theorem exReq2_valid : ValidReq exReq2 := by
  refine ⟨⟨_, rfl, ?_⟩, trivial, ?_, ?_, ?_, ?_, nofun, nofun, ?_, ?_⟩
  · unfold ValidIMatrix InRangeM
    decide +kernel
  · show ValidIVector _
    unfold ValidIVector InRangeV
    decide +kernel
  · rintro _ ⟨⟩
    decide +kernel
  · rintro _ ⟨⟩
    decide +kernel
  · rintro _ ⟨⟩
    decide
  · rintro _ ⟨⟩
    decide
  · rintro _ ⟨⟩
    decide

example : ∃ eff, prepare exK [] exReq = some eff := prepare_ok exK [] exReq_valid
example : docDim exReq = 3 := by decide
example : docDim exReq2 = 3 := by decide

private theorem exPT_den :
    vecDen exReq.preTrust 0 = 1/2 ∧ vecDen exReq.preTrust 1 = 0 ∧ vecDen exReq.preTrust 2 = 1 := by
  decide +kernel

-- The dense values below are closed terms over `ℚ`: the general theorems reduce each claim to
-- one, and the kernel evaluates it.
example : ∃ eff, prepare exK [] exReq = some eff ∧
    denE eff.p.entries 0 = 1/3 ∧ denE eff.p.entries 1 = 0 ∧ denE eff.p.entries 2 = 2/3 := by
  obtain ⟨eff, he⟩ := prepare_ok exK [] exReq_valid
  refine ⟨eff, he, ?_, ?_, ?_⟩ <;>
  · rw [prepare_pretrust exK [] exReq_valid he]
    decide +kernel

/-- peer 0 splits its trust between peers 1 and 2; peer 2, without outgoing trust, trusts
    according to the pre-trust -/
example : ∃ eff, prepare exK [] exReq = some eff ∧
    denRows eff.c.rows 0 1 = 1/2 ∧ denRows eff.c.rows 1 2 = 1 ∧
    denRows eff.c.rows 2 0 = denE eff.p.entries 0 ∧
    eff.a = 1/2 ∧ eff.e = (1/1000000) / 3 ∧ eff.t0 = none := by
  obtain ⟨eff, he⟩ := prepare_ok exK [] exReq_valid
  have hdef := prepare_defaults exK [] exReq_valid he
  refine ⟨eff, he, ?_, ?_, ?_, hdef.1, hdef.2.1.trans (by decide +kernel), hdef.2.2.2.1.mpr rfl⟩
  · rw [prepare_localtrust exK [] exReq_valid he 0 (by decide), if_neg (by decide +kernel)]
    decide +kernel
  · rw [prepare_localtrust exK [] exReq_valid he 1 (by decide), if_neg (by decide +kernel)]
    decide +kernel
  · rw [prepare_localtrust exK [] exReq_valid he 2 (by decide), if_pos (by decide +kernel)]

/-- the distrust of peer 1 towards peer 0 becomes a discount row; peer 1 has no positive
    outgoing trust, so it trusts according to the (absent ⇒ uniform) pre-trust; the given
    initial trust of size 3 enlarges everything to 3 peers -/
example : ∃ eff, prepare exK [] exReq2 = some eff ∧
    denRows eff.discounts.rows 1 0 = 1 ∧ denRows eff.discounts.rows 0 1 = 0 ∧
    denRows eff.c.rows 1 2 = 1/3 ∧ denE eff.p.entries 2 = 1/3 ∧
    eff.a = 1/4 ∧ eff.e = 1/100 ∧ eff.c.major = 3 ∧
    (∃ t, eff.t0 = some t ∧ denE t.entries 2 = 1 ∧ denE t.entries 0 = 0) := by
  obtain ⟨eff, he⟩ := prepare_ok exK [] exReq2_valid
  have hdef := prepare_defaults exK [] exReq2_valid he
  have hp2 : denE eff.p.entries 2 = 1/3 := by
    rw [prepare_pretrust exK [] exReq2_valid he]
    decide +kernel
  refine ⟨eff, he, ?_, ?_, ?_, hp2, hdef.1, hdef.2.1,
    (prepare_dims exK [] exReq2_valid he).2.1.trans (by decide), ?_⟩
  · rw [prepare_discounts exK [] exReq2_valid he]
    decide +kernel
  · rw [prepare_discounts exK [] exReq2_valid he]
    decide +kernel
  · rw [prepare_localtrust exK [] exReq2_valid he 1 (by decide), hp2]
    decide +kernel
  · cases ht : eff.t0 with
    | none => exact absurd (hdef.2.2.2.1.mp ht) nofun
    | some t =>
      refine ⟨t, rfl, ?_, ?_⟩ <;>
      · rw [prepare_initial exK [] exReq2_valid he t ht]
        decide +kernel

/-- invalid requests: size 0, index out of range, non-positive pre-trust value, alpha > 1,
    minIterations = 0 — all answered 400 by both endpoints -/
example : prepare exK [] { exReq with localTrust := .inline ⟨0, []⟩ } = none :=
  prepare_invalid_localTrust _ _ _ ((loadMatrix_none_iff _ _).mpr (.inl ⟨_, rfl, .inl (by decide)⟩))
example : prepare exK [] { exReq with localTrust := .inline ⟨2, [(0, 2, 1)]⟩ } = none :=
  prepare_invalid_localTrust _ _ _
    ((loadMatrix_none_iff _ _).mpr (.inl ⟨_, rfl, .inr ⟨(0, 2, 1), by simp, by decide⟩⟩))
example : prepare exK [] { exReq with localTrust := .stored "nope" } = none :=
  prepare_invalid_localTrust _ _ _ ((loadMatrix_none_iff _ _).mpr (.inr (.inl ⟨_, rfl, rfl⟩)))
example : prepare exK [] { exReq with preTrust := some (.inline ⟨2, [(0, 0)]⟩) } = none :=
  prepare_invalid_preTrust _ _ _ ⟨_, rfl,
    (loadVector_none_iff _).mpr (.inl ⟨_, rfl, .inr ⟨(0, 0), by simp, by norm_num⟩⟩)⟩
example : prepare exK [] { exReq with alpha := some 2 } = none :=
  prepare_invalid_alpha _ _ _ ⟨2, rfl, .inr (by norm_num)⟩
example : prepare exK [] { exReq with epsilon := some 0 } = none :=
  prepare_invalid_epsilon _ _ _ ⟨0, rfl, .inl (by norm_num)⟩
example : handleCompute 10 exK [] { exReq with minIterations := some 0 } = .badRequest ∧
    handleComputeWithStats 10 exK [] { exReq with minIterations := some 0 } = .badRequest :=
  badRequest_of_prepare_none _ _ _ _
    (prepare_invalid_option _ _ _ (.inr (.inr (.inr (.inl ⟨0, rfl, by decide⟩)))))

/-- a stored 2×2 matrix (with a distrust entry) and its GET body -/
private def exM : CSM ℚ := ⟨2, 2, [[⟨1, 3⟩], [⟨0, 1⟩, ⟨1, -2⟩]], []⟩
private theorem exM_inv : MatInv exM := by
  refine ⟨?_, rfl, nofun, noZero_iff.mpr ?_, by decide, rfl⟩
  · unfold WFM WF Sorted
    decide +kernel
  · decide +kernel

example := stored_eq_inline exM exM_inv.wfm exM_inv.square exM_inv.noZero exM_inv.pos

/-- a request naming the stored matrix, with the pre-trust of the API document (size 3) -/
private def exReqS : ComputeReq ℚ :=
  { localTrust := .stored "m", preTrust := some (.inline exPT) }

example :
    ValidReq { exReqS with localTrust := .inline (renderI exM) } ∧
    docDim { exReqS with localTrust := .inline (renderI exM) } = 3 ∧
    prepare exK [("m", exM)] exReqS =
      prepare exK [("m", exM)] { exReqS with localTrust := .inline (renderI exM) } := by
  obtain ⟨h1, _, _, _, h5, h6, _⟩ :=
    stored_request_reduces 10 exK [("m", exM)] exReqS "m" exM rfl rfl exM_inv
  refine ⟨h5 ⟨exReq_valid.preTrust, trivial, nofun, nofun, nofun, nofun, nofun, nofun, nofun⟩, ?_, h1⟩
  rw [h6]
  decide

/-- the worked example is answered 200 by both endpoints, with 3 scores keyed by peer index -/
example : ∃ o, computeCore 100 exK [] exReq = .ok o ∧
    handleCompute 100 exK [] exReq = .ok o.scores ∧
    handleComputeWithStats 100 exK [] exReq = .ok (o.scores, o.stats) ∧
    o.scores.dim = 3 ∧ WF 3 o.scores.entries := by
  obtain ⟨o, ho, h1, h2⟩ := valid_ok 100 exK [] exReq_valid (by decide +kernel) (by decide +kernel)
  exact ⟨o, ho, h1, h2, scores_size 100 exK [] exReq_valid o ho⟩

example := endpoints_agree 100 exK [] exReq
example (o : ComputeOut ℚ) (h : computeCore 100 exK [] exReq = .ok o) :=
  compute_scores_def 100 exK [] exReq o h

example (o : ComputeOut ℚ) (h : computeCore 100 exK [] exReq = .ok o) :=
  scores_discounted 100 exK [] exReq_valid o h
example (eff : Effective ℚ) (hp : prepare exK [] exReq = some eff) (res : ComputeResult ℚ)
    (hc : compute 100 eff.c eff.p eff.a eff.e eff.opts = .ok res) :=
  compute_result_wf 100 exK [] exReq_valid hp hc

end examples

end EtVerif.C03
