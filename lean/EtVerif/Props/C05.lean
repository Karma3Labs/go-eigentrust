/-
  C05 — Iteration control (control part): `Compute` performs exactly the documented number of
  iterations, returns that iterate, and rejects invalid parameters before any iteration.

  Everything is stated for an arbitrary `Scalar α`: the verdicts of the checks are whatever
  `Scalar.sqrtLe` / `nonFinite` return on the model's own deltas (`dsqAt`).

  Vocabulary (Proofs/Loop.lean):
  * `iterate ct ap q k t0`        = `(stepEntries ct ap q)^[k] t0`;
  * `initState t0`                = the state `compute` starts the loop in;
  * `maxHit maxI k`               = the loop guard `iter < maxIters` fails at `k` (`none` = unlimited);
  * `dsqAt … t0 k`                = squared delta between iterate `k` and the iterate of the previous
                                    scheduled check (`lastChk`; the initial vector for the first check);
  * `nonFiniteAt`, `convergedAt`, `flatAt`, `stopAt` = verdicts of a check at iteration `k`;
  * `validate`, `ValidInput`, `loopOf` = the validation prefix of `compute` and the loop it runs.
-/
import EtVerif.Proofs.Loop

namespace EtVerif.C05
open EtVerif Scalar

variable {α : Type} [Scalar α]

section loop
variable (ct : List (Row α)) (ap : List (Entry α)) (q e : α) (minI freq : Nat)
  (maxI : Option Nat) (flatTail nl : Nat)

/-! ### the returned vector is the pure iterate -/

/-- Whatever the loop returns from any start state `s0`, the returned vector is the start vector
    advanced by exactly `s.iter - s0.iter` power-iteration steps. -/
theorem loop_returns_iterate (fuel : Nat) (s0 s : LoopState α) (by_ : EndedBy)
    (h : computeLoop ct ap q e minI freq maxI flatTail nl fuel s0 = (s, by_)) :
    s0.iter ≤ s.iter ∧ s.t1 = (stepEntries ct ap q)^[s.iter - s0.iter] s0.t1 := by
  obtain ⟨K, _, _, hend⟩ := computeLoop_char ct ap q e minI freq maxI flatTail nl fuel s0 _ h
  have hs : s.iter = s0.iter + K ∧ s.t1 = (stepEntries ct ap q)^[K] s0.t1 := by
    rw [← advance_pow_iter ct ap q minI freq nl, ← advance_pow_t1 ct ap q minI freq nl]
    rcases hend with ⟨_, hs⟩ | ⟨_, hx⟩
    · obtain ⟨rfl, _⟩ := Prod.mk.inj hs
      exact ⟨rfl, rfl⟩
    · obtain ⟨h1, h2, _⟩ := exitOf_some e minI freq maxI flatTail nl hx
      exact ⟨h1, h2⟩
  rw [hs.1, Nat.add_sub_cancel_left]
  exact ⟨Nat.le_add_right _ _, hs.2⟩

theorem loop_returns_iterate_init (fuel : Nat) (t0 : List (Entry α)) (s : LoopState α)
    (by_ : EndedBy)
    (h : computeLoop ct ap q e minI freq maxI flatTail nl fuel (initState t0) = (s, by_)) :
    s.t1 = iterate ct ap q s.iter t0 :=
  loop_t1_eq h

/-! ### the iteration count -/

theorem stopIter_spec (fuel : Nat) (t0 : List (Entry α)) (s : LoopState α) (by_ : EndedBy)
    (h : computeLoop ct ap q e minI freq maxI flatTail nl fuel (initState t0) = (s, by_)) :
    -- never more than maxIterations (nor than the fuel)
    (∀ m, maxI = some m → s.iter ≤ m) ∧ s.iter ≤ fuel ∧
    -- no scheduled check before the returned iteration ended the loop
    (∀ k, k < s.iter → stopAt ct ap q e minI freq flatTail nl t0 k = false) ∧
    -- the checks performed (newest first) are exactly the scheduled ones:
    -- all `k ≤ s.iter` when a check ended the loop, all `k < s.iter` otherwise
    s.checks = ((List.range (if by_ = .criteria ∨ by_ = .nonFinite then s.iter + 1 else s.iter)).filter
      (isCheck minI freq)).reverse ∧
    -- ended by the iteration limit: exactly `m` iterations
    (by_ = .maxIterations → maxI = some s.iter) ∧
    -- ended by the criteria: at a scheduled check strictly before the limit, finite delta,
    -- converged and flat tail reached
    (by_ = .criteria →
      isCheck minI freq s.iter = true ∧ s.iter ∈ s.checks ∧ (∀ m, maxI = some m → s.iter < m) ∧
      nonFiniteAt ct ap q minI freq t0 s.iter = false ∧
      convergedAt ct ap q e minI freq t0 s.iter = true ∧
      flatAt ct ap q minI freq flatTail nl t0 s.iter = true) ∧
    -- ended by a non-finite delta (an error of `compute`)
    (by_ = .nonFinite →
      isCheck minI freq s.iter = true ∧ s.iter ∈ s.checks ∧ (∀ m, maxI = some m → s.iter < m) ∧
      nonFiniteAt ct ap q minI freq t0 s.iter = true) ∧
    -- fuel exhausted
    (by_ = .outOfFuel → s.iter = fuel) := by
  obtain ⟨hfuel, hbef, _, _, hof, hmx, hnf, hcr⟩ :=
    loop_spec ct ap q e minI freq maxI flatTail nl fuel t0 s by_ h
  have hmaxF : ∀ k < s.iter, maxHit maxI k = false := fun k hk => (hbef k hk).1
  refine ⟨fun m hm => le_of_maxHit_false hmaxF hm, hfuel, fun k hk => (hbef k hk).2, ?_, ?_, ?_,
    ?_, ?_⟩
  · cases by_ with
    | outOfFuel => simpa [sched] using (hof rfl).2
    | maxIterations => simpa [sched] using (hmx rfl).2.2
    | nonFinite => simpa [sched] using (hnf rfl).2.2.2.2
    | criteria => simpa [sched] using (hcr rfl).2.2.2.2.2.2
  · intro hb
    exact eq_of_maxHit_true hmaxF (hmx hb).2.1
  · intro hb
    obtain ⟨_, c1, c2, c3, c4, c5, c6⟩ := hcr hb
    refine ⟨c2, ?_, fun m hm => lt_of_maxHit_false c1 hm, c3, c4, c5⟩
    rw [c6]; exact mem_sched.mpr ⟨Nat.lt_succ_self _, c2⟩
  · intro hb
    obtain ⟨_, c1, c2, c3, c6⟩ := hnf hb
    refine ⟨c2, ?_, fun m hm => lt_of_maxHit_false c1 hm, c3⟩
    rw [c6]; exact mem_sched.mpr ⟨Nat.lt_succ_self _, c2⟩
  · intro hb; exact (hof hb).1

/-- The loop stops at the **first** iteration `K` at which the iteration limit is reached or a
    scheduled check ends it: if nothing stops the loop before `K`, and `K` does, the result
    (for any fuel `> K`) has exactly `K` iterations; it is ended by the limit iff the limit is
    what was hit (a check scheduled exactly at `maxIterations` is therefore not performed). -/
theorem stopIter_first (fuel : Nat) (t0 : List (Entry α)) (K : Nat) (hK : K < fuel)
    (hbefore : ∀ k, k < K → maxHit maxI k = false ∧
      stopAt ct ap q e minI freq flatTail nl t0 k = false)
    (hat : maxHit maxI K = true ∨ stopAt ct ap q e minI freq flatTail nl t0 K = true)
    (s : LoopState α) (by_ : EndedBy)
    (h : computeLoop ct ap q e minI freq maxI flatTail nl fuel (initState t0) = (s, by_)) :
    s.iter = K ∧ by_ ≠ .outOfFuel ∧ (by_ = .maxIterations ↔ maxHit maxI K = true) :=
  loop_first ct ap q e minI freq maxI flatTail nl fuel t0 K hK hbefore hat s by_ h

/-- The checks are performed exactly at `minI, minI + freq, minI + 2·freq, …` up to the returned
    iteration (inclusive iff a check ended the loop). -/
theorem checks_schedule (fuel : Nat) (t0 : List (Entry α)) (s : LoopState α) (by_ : EndedBy)
    (h : computeLoop ct ap q e minI freq maxI flatTail nl fuel (initState t0) = (s, by_))
    (k : Nat) :
    k ∈ s.checks ↔
      (k < s.iter ∨ (k = s.iter ∧ (by_ = .criteria ∨ by_ = .nonFinite))) ∧
        ∃ i, k = minI + i * freq := by
  obtain ⟨_, _, _, hc, _⟩ := stopIter_spec ct ap q e minI freq maxI flatTail nl fuel t0 s by_ h
  rw [hc, List.mem_reverse, List.mem_filter, List.mem_range, isCheck_iff]
  by_cases hb : by_ = .criteria ∨ by_ = .nonFinite
  · simp only [hb, if_true, and_true]
    constructor
    · rintro ⟨h1, h2⟩; exact ⟨by omega, h2⟩
    · rintro ⟨h1, h2⟩; exact ⟨by omega, h2⟩
  · simp only [hb, if_false, and_false, or_false]

/-- The delta tested at a scheduled check is the change **since the previous check**
    (`freq` iterations earlier; since the initial vector for the first check at `minI`). -/
theorem check_delta (t0 : List (Entry α)) (k : Nat) (hf : 1 ≤ freq)
    (hk : isCheck minI freq k = true) :
    dsqAt ct ap q minI freq t0 k =
      deltaSq (iterate ct ap q k t0)
        (iterate ct ap q (if k ≤ minI then 0 else k - freq) t0) := by
  unfold dsqAt
  rw [lastChk_of_isCheck hf hk]

/-- `WithIterations n` (`minIterations = maxIterations = n`): exactly `n` iterations, ended by
    the limit, no check performed (the only scheduled check `k = n` is not `< n`). -/
theorem withIterations (n fuel : Nat) (hfuel : n < fuel) (t0 : List (Entry α))
    (s : LoopState α) (by_ : EndedBy)
    (h : computeLoop ct ap q e n freq (some n) flatTail nl fuel (initState t0) = (s, by_)) :
    s.iter = n ∧ by_ = .maxIterations ∧ s.checks = [] ∧ s.t1 = iterate ct ap q n t0 := by
  obtain ⟨h1, _, h3⟩ := loop_first ct ap q e n freq (some n) flatTail nl fuel t0 n hfuel
    (fun k hk => ⟨decide_eq_false (Nat.not_le.mpr hk), (stopAt_eq_false_iff ..).mpr fun hck =>
      absurd (isCheck_iff_mod.mp hck).1 (Nat.not_le.mpr hk)⟩)
    (Or.inl (decide_eq_true (le_refl n))) s by_ h
  obtain rfl : by_ = .maxIterations := h3.mpr (decide_eq_true (le_refl n))
  refine ⟨h1, rfl, ?_, ?_⟩
  · rw [(loop_ended_maxIterations h).2.2, h1]
    exact sched_eq_nil (le_refl n)
  · rw [loop_t1_eq h, h1]

/-- Fuel monotonicity: a run that did not end for lack of fuel is the run for every larger
    fuel.  With `maxI = none` (`maxIterations = 0`, unlimited) this is the statement that the
    result does not depend on any iteration bound. -/
theorem fuel_mono (fuel : Nat) (s0 s : LoopState α) (by_ : EndedBy)
    (h : computeLoop ct ap q e minI freq maxI flatTail nl fuel s0 = (s, by_))
    (hne : by_ ≠ .outOfFuel) (fuel' : Nat) (hle : fuel ≤ fuel') :
    computeLoop ct ap q e minI freq maxI flatTail nl fuel' s0 = (s, by_) := by
  obtain ⟨K, _, hbefore, ⟨_, hs⟩ | ⟨hlt, hx⟩⟩ :=
    computeLoop_char ct ap q e minI freq maxI flatTail nl fuel s0 _ h
  · exact absurd (Prod.mk.inj hs).2 hne
  · exact computeLoop_exit ct ap q e minI freq maxI flatTail nl K fuel' s0 _
      (Nat.lt_of_lt_of_le hlt hle) hbefore hx

end loop

/-! ### validation -/

/-- Each out-of-range parameter is rejected, with an error that is the same for every fuel —
    in particular for fuel 0, i.e. before any iteration. -/
theorem invalid_rejected (c : CSM α) (p : Vec α) (a e : α) (o : ComputeOpts α)
    (h : c.major ≠ c.minor ∨ c.major = 0 ∨ p.dim ≠ c.major ∨
      (∃ t0, o.t0 = some t0 ∧ t0.dim ≠ c.major) ∨
      (∃ d, o.resultDim = some d ∧ d ≠ c.major) ∨
      lt a zero = true ∨ lt one a = true ∨ le e zero = true ∨
      o.checkFreq.getD 1 < 1 ∨ o.maxIterations.getD 0 < 0 ∨
      o.minIterations.getD (o.checkFreq.getD 1) ≤ 0) :
    ∃ err, ∀ fuel, compute fuel c p a e o = .error err := by
  apply compute_error_of_not_valid
  rintro ⟨v1, v2, v3, v4, v5, v6, v7, v8, v9, v10, v11⟩
  rcases h with h | h | h | ⟨t0, h, h'⟩ | ⟨d, h, h'⟩ | h | h | h | h | h | h
  · exact h v1
  · exact v2 h
  · exact h v3
  · exact h' (v4 t0 h)
  · exact h' (v5 d h)
  · rw [v6] at h; cases h
  · rw [v7] at h; cases h
  · rw [v8] at h; cases h
  · omega
  · omega
  · omega

/-- The error is the first failing validation in source order (`validate`), and nothing else
    of the input is inspected. -/
theorem invalid_error (fuel : Nat) (c : CSM α) (p : Vec α) (a e : α) (o : ComputeOpts α)
    (err : SErr) (h : validate c p a e o = some err) :
    compute fuel c p a e o = .error err := by
  rw [compute_eq, h]

/-- Conversely: when every validation passes and the loop does not meet a non-finite delta,
    `compute` succeeds with the loop's vector (dimension `n`), iteration count, statistics and
    checks (oldest first). -/
theorem compute_ok (fuel : Nat) (c : CSM α) (p : Vec α) (a e : α) (o : ComputeOpts α)
    (hv : ValidInput c p a e o) (s : LoopState α) (by_ : EndedBy)
    (hl : loopOf fuel c p a e o = (s, by_)) (hnf : by_ ≠ .nonFinite) :
    ∃ r, compute fuel c p a e o = .ok r ∧ r.t.dim = c.major ∧ r.t.entries = s.t1 ∧
      r.iters = s.iter ∧ r.stats = s.stats ∧ r.checks = s.checks.reverse ∧ r.endedBy = by_ :=
  ⟨_, compute_ok_of_loop fuel c p a e o hv s by_ hl hnf, rfl, rfl, rfl, rfl, rfl, rfl⟩

/-- and with a non-finite delta at a check it is an error -/
theorem compute_nonFinite (fuel : Nat) (c : CSM α) (p : Vec α) (a e : α) (o : ComputeOpts α)
    (hv : ValidInput c p a e o) (s : LoopState α)
    (hl : loopOf fuel c p a e o = (s, .nonFinite)) :
    compute fuel c p a e o = .error (.badParam "nonfinite") := by
  rw [compute_of_valid fuel c p a e o hv, hl]
  simp

/-- A successful `compute` passed every validation, and its result is the `iters`-th pure
    iterate of the start vector (`t0` option, else `p`), of dimension `n`, with
    `iters ≤ maxIterations` when a limit is set. -/
theorem compute_spec (fuel : Nat) (c : CSM α) (p : Vec α) (a e : α) (o : ComputeOpts α)
    (r : ComputeResult α) (h : compute fuel c p a e o = .ok r) :
    ValidInput c p a e o ∧
    r.t = ⟨c.major, iterate c.transpose.rows (Vec.scale a p).entries (sub one a) r.iters
      (o.t0.getD p).entries⟩ ∧
    (o.maxIterations.getD 0 ≠ 0 → (r.iters : Int) ≤ o.maxIterations.getD 0) ∧
    r.iters ≤ fuel ∧
    ∃ s, loopOf fuel c p a e o = (s, r.endedBy) ∧ r.iters = s.iter ∧ r.stats = s.stats ∧
      r.checks = s.checks.reverse := by
  obtain ⟨hv, _, s, hl, hr⟩ := compute_ok_inv fuel c p a e o r h
  have hl' := hl
  unfold loopOf at hl'
  obtain ⟨hm, hfu, _⟩ := stopIter_spec _ _ _ _ _ _ _ _ _ fuel _ s r.endedBy hl'
  have hit := loop_returns_iterate_init _ _ _ _ _ _ _ _ _ fuel _ s r.endedBy hl'
  have hiters : r.iters = s.iter := by rw [hr]
  refine ⟨hv, ?_, ?_, by omega, s, hl, hiters, by rw [hr], by rw [hr]⟩
  · rw [hr]; simp only [hit]
  · intro hne
    have := hm (o.maxIterations.getD 0).toNat (by simp [hne])
    have h0 := hv.maxIterations_nonneg
    omega

/-- `WithIterations n` at the level of `compute`: exactly `n` iterations, no check. -/
theorem compute_withIterations (fuel n : Nat) (c : CSM α) (p : Vec α) (a e : α)
    (o : ComputeOpts α) (hmin : o.minIterations = some (n : Int))
    (hmax : o.maxIterations = some (n : Int)) (hv : ValidInput c p a e o) (hfuel : n < fuel) :
    ∃ r, compute fuel c p a e o = .ok r ∧ r.iters = n ∧ r.endedBy = .maxIterations ∧
      r.checks = [] ∧
      r.t = ⟨c.major, iterate c.transpose.rows (Vec.scale a p).entries (sub one a) n
        (o.t0.getD p).entries⟩ := by
  have hn : (0 : Int) < n := by
    have := hv.minIterations_pos
    rw [hmin] at this; simpa using this
  have hn0 : ¬ ((n : Int) = 0) := by omega
  cases hl : loopOf fuel c p a e o with
  | mk s by_ =>
    have hl' := hl
    unfold loopOf at hl'
    rw [hmin, hmax] at hl'
    simp only [Option.getD_some, Int.toNat_natCast, hn0, if_false] at hl'
    obtain ⟨h1, h2, h3, h4⟩ := withIterations _ _ _ _ _ _ _ n fuel hfuel _ s by_ hl'
    have hnf : by_ ≠ .nonFinite := by rw [h2]; decide
    refine ⟨_, compute_ok_of_loop fuel c p a e o hv s by_ hl hnf, h1, h2, by simp [h3], ?_⟩
    simp only [h4]

/-- Fuel monotonicity of `compute`: a result that is not `outOfFuel` (an error, or a run ended
    by the criteria or the iteration limit) is the result for every larger fuel; with
    `maxIterations = 0` this expresses "unlimited". -/
theorem compute_fuel_mono (fuel fuel' : Nat) (hle : fuel ≤ fuel') (c : CSM α) (p : Vec α)
    (a e : α) (o : ComputeOpts α) (res : Except SErr (ComputeResult α))
    (h : compute fuel c p a e o = res)
    (hne : ∀ r, res = .ok r → r.endedBy ≠ .outOfFuel) :
    compute fuel' c p a e o = res := by
  by_cases hv : ValidInput c p a e o
  · cases hl : loopOf fuel c p a e o with
    | mk s by_ =>
      have hby : by_ ≠ .outOfFuel := by
        rintro rfl
        have := compute_ok_of_loop fuel c p a e o hv s _ hl (by decide)
        rw [h] at this
        exact hne _ this rfl
      have hl2 : loopOf fuel' c p a e o = (s, by_) := by
        unfold loopOf at hl ⊢
        exact fuel_mono _ _ _ _ _ _ _ _ _ fuel _ s by_ hl hby fuel' hle
      rw [compute_of_valid fuel c p a e o hv, hl] at h
      rw [compute_of_valid fuel' c p a e o hv, hl2]
      exact h
  · obtain ⟨err, herr⟩ := compute_error_of_not_valid c p a e o hv
    rw [herr fuel'] ; rw [herr fuel] at h; exact h

/-! ### non-vacuity: concrete runs at `α := Rat` (two peers trusting each other, `p = e₀`) -/

section examples

private def c2 : CSM Rat := ⟨2, 2, [[⟨1, 1⟩], [⟨0, 1⟩]], []⟩
private def p2 : Vec Rat := ⟨2, [⟨0, 1⟩]⟩
private def o235 : ComputeOpts Rat := { minIterations := some 2, checkFreq := some 3 }
private def view (r : Except SErr (ComputeResult Rat)) : Option (Nat × List Nat × EndedBy) :=
  match r with
  | .ok r => some (r.iters, r.checks, r.endedBy)
  | .error _ => none

/-- the hypotheses of `compute_ok` / `compute_spec` are satisfiable -/
example : ValidInput c2 p2 (1/2) (1/10) o235 :=
  (validate_eq_none_iff _ _ _ _ _).mp (by decide +kernel)

/-- default schedule: checks at 1, 2, 3, 4; converged at the 4th -/
example : view (compute 100 c2 p2 (1/2) (1/10) {}) = some (4, [1, 2, 3, 4], .criteria) := by
  decide +kernel

/-- `minIterations = 2`, `checkFreq = 3`: checks at 2, 5, 8; the first converged one is 8 -/
example : view (compute 100 c2 p2 (1/2) (1/10) o235) = some (8, [2, 5, 8], .criteria) := by
  decide +kernel

/-- same with `maxIterations = 8`: the check scheduled exactly at 8 is *not* performed -/
example : view (compute 100 c2 p2 (1/2) (1/10) { o235 with maxIterations := some 8 })
    = some (8, [2, 5], .maxIterations) := by
  decide +kernel

/-- `WithIterations 4`: four iterations, no check -/
example : view (compute 100 c2 p2 (1/2) (1/10) { minIterations := some 4, maxIterations := some 4 })
    = some (4, [], .maxIterations) := by
  decide +kernel

/-- the hypotheses of `stopIter_first` hold for the second run with `K = 8` -/
example :
    (∀ k, k < 8 → maxHit none k = false ∧
      stopAt c2.transpose.rows (Vec.scale (1/2) p2).entries (1/2 : Rat) (1/10) 2 3 0 2
        p2.entries k = false) ∧
    stopAt c2.transpose.rows (Vec.scale (1/2) p2).entries (1/2 : Rat) (1/10) 2 3 0 2
        p2.entries 8 = true := by
  decide +kernel

/-- invalid `alpha = 3/2`: rejected whatever the fuel -/
example : ∃ err, ∀ fuel, compute fuel c2 p2 (3/2) (1/10) {} = .error err :=
  invalid_rejected _ _ _ _ _
    (.inr (.inr (.inr (.inr (.inr (.inr (.inl (by decide +kernel))))))))

/-- invalid `minIterations = 0` -/
example : ∃ err, ∀ fuel, compute fuel c2 p2 (1/2) (1/10) { minIterations := some 0 } = .error err :=
  invalid_rejected _ _ _ _ _
    (.inr (.inr (.inr (.inr (.inr (.inr (.inr (.inr (.inr (.inr (by decide +kernel)))))))))))

end examples

end EtVerif.C05
