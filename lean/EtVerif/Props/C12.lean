/-
  C12 — Swapping a matrix out to a memory-mapped temp file is transparent and leak-free.
  Property theorems only (helper lemmas live in Proofs/MmapLemmas.lean).

  Model: Model/Mmap.lean (`Mm.mmap`, `Mm.munmap`, `Mm.reset`, `Mm.finalize`, `Mm.merge`,
  `Mm.setDim`) mirroring pkg/sparse/matrix.go `Mmap`, `Munmap`, `Reset`, `finalize`, `Merge`.
  A state `MState α` is a matrix `m`, one location tag per row (`Loc.heap` / `Loc.map id`), the
  adopted mapping `mapped` and the process ledger `led` (temp files, descriptors, live mappings).

  Vocabulary (Proofs/MmapLemmas.lean):
  * `MInv s` — one tag per row; `led.files = []`, `led.fds = []`, `led.maps` = the adopted mapping
    only; no non-empty row is tagged with a mapping other than the adopted one (no dangling
    pointer); all ledger ids are below the id supply.
  * `HClean M` — every row of `Entries[len:cap]` is nil (`HiddenClean` of C10/C11, any scalar).
  * `alreadyClean s` — the "already mapped" test; `cancelled f s` — the context is cancelled at a
    poll of the copy loop; `slowPath` with `okSt`, `failSt`, `cancelSt`, `removeSt` — the exits once a
    temp file is needed; `mmap_cases` — case analysis over all exits of `mmap`.
  * `Op`, `step`, `run` — histories of operations; `stepPlain`, `runPlain` — the same history on a
    plain heap matrix (swap-out, swap-in, finalisation are no-ops); `NoRemoveFault ops`.

  Everything except the "dense" corollaries holds for an arbitrary `Scalar α`.
  Limits of the model (not of the proofs): `syscall.Munmap` never fails; one ledger per state.
-/
import EtVerif.Proofs.MmapLemmas
import Mathlib.Algebra.Order.Field.Rat

namespace EtVerif.C12
open EtVerif EtVerif.Mm

variable {α : Type} [Scalar α]

set_option linter.unusedSectionVars false

/-! ## Transparency: contents never depend on swap-out, faults or cancellation -/

/-- `Mmap` keeps every visible row and both dimensions — for every fault choice and outcome. -/
theorem mmap_transparent (f : Faults) (s : MState α) :
    (mmap f s).1.m.rows = s.m.rows ∧ (mmap f s).1.m.major = s.m.major ∧
    (mmap f s).1.m.minor = s.m.minor :=
  mmap_visible f s

/-- `Munmap` keeps every visible row and both dimensions. -/
theorem munmap_transparent (s : MState α) :
    (munmap s).m.rows = s.m.rows ∧ (munmap s).m.major = s.m.major ∧
    (munmap s).m.minor = s.m.minor :=
  ⟨munmap_rows s, munmap_major s, munmap_minor s⟩

/-- The finalizer keeps every visible row and both dimensions. -/
theorem finalize_transparent (s : MState α) :
    (finalize s).m.rows = s.m.rows ∧ (finalize s).m.major = s.m.major ∧
    (finalize s).m.minor = s.m.minor :=
  munmap_transparent s

/-- Resizing a swapped-out matrix acts on the matrix exactly as `CSM.setDim` (C10). -/
theorem setDim_acts (s : MState α) (r c : Nat) : (setDim s r c).m = s.m.setDim r c := rfl

/-- Merging into a (possibly swapped-out) receiver from a (possibly swapped-out) update acts
    on the matrices exactly as `CSM.merge` (C11) on the receiver and the swapped-in update; the
    update is `Reset` afterwards. -/
theorem merge_acts (s u : MState α) :
    (merge s u).1.m = (s.m.merge (munmap u).m).1 ∧ (merge s u).2 = reset u ∧
    (merge s u).2.m = CSM.empty :=
  ⟨rfl, merge_snd_eq_reset s u, rfl⟩

/-- `Reset` leaves the empty 0×0 matrix. -/
theorem reset_empties (s : MState α) : (reset s).m = CSM.empty ∧ (reset s).locs = [] :=
  ⟨rfl, rfl⟩

/-- For every history — any interleaving of swap-outs (with arbitrary faults and
    cancellations), swap-ins, finalisations, resets, resizes and merges — the visible rows and
    dimensions equal those obtained by running the same history on a plain heap matrix with
    `Mmap`/`Munmap`/`finalize` as no-ops.  (`HClean`: the invisible part of the row table holds
    nil rows only, as it does after the C10 repair; without it `Munmap`, which drops
    `Entries[len:cap]`, would hide rows that a later `SetMajorDim` re-exposes.) -/
theorem transparent_history (s : MState α) (hc : HClean s.m) (ops : List (Op α)) :
    (run s ops).m.rows = (runPlain s.m ops).rows ∧
    (run s ops).m.major = (runPlain s.m ops).major ∧
    (run s ops).m.minor = (runPlain s.m ops).minor ∧
    HClean (run s ops).m := by
  have h := run_sim (s := s) (p := s.m) ⟨rfl, rfl, rfl, hc, hc⟩ ops
  exact ⟨h.rows_eq, h.major_eq, h.minor_eq, h.left_clean⟩

section dense
variable {K : Type} [Field K] [LinearOrder K]

/-- The dense contents after any history are those of the plain run. -/
theorem transparent_history_dense (s : MState K) (hc : HiddenClean s.m) (ops : List (Op K)) :
    denRows (run s ops).m.rows = denRows (runPlain s.m ops).rows := by
  rw [(transparent_history s hc ops).1]

/-- Merging into or out of a swapped-out matrix is the C11 overlay, cell by cell. -/
theorem merge_swapped_dense (s u : MState K) (hs : WFM s.m) (hc : HiddenClean s.m)
    (hu : WFM u.m) (i j : Nat) :
    denRows (merge s u).1.m.rows i j =
      if ∃ e ∈ u.m.rows.getD i [], e.idx = j then denRows u.m.rows i j
      else denRows s.m.rows i j := by
  have hu' : WFM (munmap u).m := by
    unfold WFM
    rw [munmap_rows, munmap_major, munmap_minor]
    exact hu
  have h := Mx.merge_den hs hc hu' i j
  rw [munmap_rows] at h
  exact h

/-- Resizing a swapped-out matrix is the C10 crop-and-zero-pad, cell by cell. -/
theorem setDim_swapped_dense (s : MState K) (hs : WFM s.m) (hc : HiddenClean s.m)
    (r c i j : Nat) :
    denRows (setDim s r c).m.rows i j = if i < r ∧ j < c then denRows s.m.rows i j else 0 :=
  Mx.setDim_den hs hc r c i j

/-- Swap-out, swap-in and finalisation keep every cell. -/
theorem swap_dense (f : Faults) (s : MState K) :
    denRows (mmap f s).1.m.rows = denRows s.m.rows ∧
    denRows (munmap s).m.rows = denRows s.m.rows ∧
    denRows (finalize s).m.rows = denRows s.m.rows := by
  rw [mmap_rows, munmap_rows, (finalize_transparent s).1]
  exact ⟨rfl, rfl, rfl⟩

end dense

/-! ## After a successful swap-out the non-empty rows live in the mapping -/

/-- After a successful `Mmap` every non-empty row is tagged with the adopted mapping, and a
    mapping is adopted whenever there is a non-empty row (only the "one tag per row" part of the
    invariant is needed). -/
theorem mmap_offheap_of_len (f : Faults) (s : MState α) (hl : s.locs.length = s.m.rows.length)
    (hok : (mmap f s).2 = .ok ()) :
    inMapCount (mmap f s).1 = nonEmptyCount (mmap f s).1 ∧
    (nonEmptyCount (mmap f s).1 > 0 → (mmap f s).1.mapped ≠ none) := by
  revert hok
  refine mmap_cases (P := fun r => r.2 = .ok () → inMapCount r.1 = nonEmptyCount r.1 ∧
    (nonEmptyCount r.1 > 0 → r.1.mapped ≠ none)) f s ?_ nofun nofun nofun nofun ?_
  · rintro (hc | h0) _
    · obtain ⟨id, hm, hd⟩ := (alreadyClean_iff s).mp hc
      refine ⟨inMapCount_eq_of_not_dirty hm hl hd, fun _ => ?_⟩
      rw [hm]
      nofun
    · rw [inMapCount_eq_zero_of_empty h0, nonEmptyCount_eq_zero_of_empty h0]
      exact ⟨rfl, fun hpos => absurd hpos (Nat.lt_irrefl 0)⟩
  · intro _ _ _ _ _
    exact ⟨inMapCount_eq_of_not_dirty (id := s.led.next + 1) rfl (List.length_map _)
      (okSt_not_dirty s), nofun⟩

/-- The same under the full invariant `MInv`. -/
theorem mmap_offheap (f : Faults) (s : MState α) (h : MInv s) (hok : (mmap f s).2 = .ok ()) :
    inMapCount (mmap f s).1 = nonEmptyCount (mmap f s).1 ∧
    (nonEmptyCount (mmap f s).1 > 0 → (mmap f s).1.mapped ≠ none) :=
  mmap_offheap_of_len f s h.len hok

/-- `Mmap` of a matrix without stored entries does nothing at all: no file is created, nothing
    is mapped, nothing is released (whatever the faults).

    This does not release a mapping the receiver already holds: "`s.m.nnz = 0 →` afterwards
    `mapped = none`" is false for the model and for the Go code — see
    `mmap_empty_keeps_stale_mapping` below: the "already mapped" test succeeds (there is no
    non-empty row that could be dirty), so the `nnz == 0` branch that would `Munmap()` the stale
    mapping is unreachable with `m.mapped != nil`. -/
theorem mmap_empty_noop (f : Faults) (s : MState α) (h0 : s.m.nnz = 0) :
    mmap f s = (s, .ok ()) :=
  mmap_noop (.inr h0) f

/-- Nothing is mapped for an empty matrix that holds no mapping yet. -/
theorem mmap_empty_unmapped (f : Faults) (s : MState α) (h0 : s.m.nnz = 0)
    (hm : s.mapped = none) : (mmap f s).1.mapped = none ∧ (mmap f s).1.led = s.led := by
  rw [mmap_empty_noop f s h0]
  exact ⟨hm, rfl⟩

/-! ## The resource ledger -/

/-- At every return of `Mmap` (success, syscall failure, cancellation) whose `os.Remove` did
    not fail, the invariant holds again: no temp file, no open descriptor, and the only live
    mapping is the adopted one. -/
theorem mmap_ledger (f : Faults) (s : MState α) (h : MInv s) (hr : f.remove = false) :
    MInv (mmap f s).1 :=
  mmap_inv h hr

/-- The ledger invariant after `Mmap`, spelled out. -/
theorem mmap_ledger_explicit (f : Faults) (s : MState α) (h : MInv s) (hr : f.remove = false) :
    (mmap f s).1.led.files = [] ∧ (mmap f s).1.led.fds = [] ∧
    (mmap f s).1.led.maps = (match (mmap f s).1.mapped with | some id => [id] | none => []) :=
  ⟨(mmap_inv h hr).files, (mmap_inv h hr).fds, (mmap_inv h hr).maps⟩

/-- `Munmap` keeps the invariant and releases the mapping. -/
theorem munmap_ledger (s : MState α) (h : MInv s) :
    MInv (munmap s) ∧ (munmap s).led.maps = [] ∧ (munmap s).mapped = none :=
  ⟨munmap_inv h, munmap_maps h, munmap_mapped s⟩

/-- `Reset` keeps the invariant and releases the mapping. -/
theorem reset_ledger (s : MState α) (h : MInv s) :
    MInv (reset s) ∧ (reset s).led.maps = [] ∧ (reset s).mapped = none :=
  ⟨reset_inv h, munmap_maps h, munmap_mapped s⟩

/-- The finalizer keeps the invariant and releases the mapping. -/
theorem finalize_ledger (s : MState α) (h : MInv s) :
    MInv (finalize s) ∧ (finalize s).led.maps = [] ∧ (finalize s).mapped = none :=
  munmap_ledger s h

/-- Resizing keeps the invariant (surviving rows stay where they are, new rows are nil). -/
theorem setDim_ledger (s : MState α) (h : MInv s) (r c : Nat) : MInv (setDim s r c) :=
  setDim_inv h r c

/-- `Merge` keeps the invariant of the receiver (whatever the update), and the update — swapped
    in and reset — keeps its own invariant with its mapping released. -/
theorem merge_ledger (s u : MState α) (h : MInv s) :
    MInv (merge s u).1 ∧
    (MInv u → MInv (merge s u).2 ∧ (merge s u).2.led.maps = [] ∧ (merge s u).2.mapped = none) :=
  ⟨merge_fst_inv h u, fun hu => reset_ledger u hu⟩

/-- A freshly constructed matrix in a process with a clean ledger satisfies the invariant. -/
theorem fresh_ledger (m : CSM α) (led0 : Ledger) (hc : led0.clean) : MInv (fresh m led0) :=
  fresh_inv m hc

/-- The invariant holds after every history without `os.Remove` failures
    (such a failure leaves a file that no code path can remove, see `mmap_remove_fault`). -/
theorem ledger_history (s : MState α) (h : MInv s) (ops : List (Op α))
    (hops : NoRemoveFault ops) : MInv (run s ops) :=
  run_inv h ops hops

/-- Once the garbage collector has finalised the matrix nothing is left: no mapping, no file,
    no descriptor. -/
theorem no_leak_after_gc (s : MState α) (h : MInv s) (ops : List (Op α))
    (hops : NoRemoveFault ops) :
    (finalize (run s ops)).led.maps = [] ∧ (finalize (run s ops)).led.files = [] ∧
    (finalize (run s ops)).led.fds = [] := by
  have hi := run_inv h ops hops
  exact ⟨munmap_maps hi, (munmap_inv hi).files, (munmap_inv hi).fds⟩

/-- The one unavoidable residue: when `os.Remove` itself fails (no earlier fault, the slow path
    is taken) the call returns an error with exactly the one temp file left, no descriptor, no
    leaked mapping, and the matrix untouched. -/
theorem mmap_remove_fault (f : Faults) (s : MState α) (h : MInv s)
    (hc : alreadyClean s = false) (h0 : s.m.nnz ≠ 0)
    (h1 : f.createTemp = false) (h2 : f.truncate = false) (h3 : f.mmapSys = false)
    (h4 : f.remove = true) :
    (mmap f s).2 = .error .sys ∧
    (mmap f s).1.led.files = [s.led.next] ∧ (mmap f s).1.led.fds = [] ∧
    (mmap f s).1.led.maps = s.led.maps ∧
    (mmap f s).1.m = s.m ∧ (mmap f s).1.locs = s.locs ∧ (mmap f s).1.mapped = s.mapped := by
  have heq : mmap f s = (removeSt s, .error .sys) := by
    rw [mmap_slow f hc h0, slowPath, h1, h2, h3, h4]
    rfl
  rw [heq, removeSt_eq h]
  exact ⟨rfl, rfl, h.fds, rfl, rfl, rfl, rfl⟩

/-! ## A failed or cancelled swap-out leaves the matrix intact and usable -/

/-- Whenever `Mmap` returns an error (`CreateTemp`, `Truncate`, `syscall.Mmap`, `os.Remove`
    failure, or cancellation at any row) the matrix, its location tags and its adopted mapping
    are exactly as before. -/
theorem mmap_fail_intact (f : Faults) (s : MState α) (e : MErr) (he : (mmap f s).2 = .error e) :
    (mmap f s).1.m = s.m ∧ (mmap f s).1.locs = s.locs ∧ (mmap f s).1.mapped = s.mapped := by
  revert he
  refine mmap_cases (P := fun r => r.2 = .error e → r.1.m = s.m ∧ r.1.locs = s.locs ∧
    r.1.mapped = s.mapped) f s nofun ?_ ?_ ?_ ?_ nofun
  all_goals
    intros
    exact ⟨rfl, rfl, rfl⟩

/-- A fault-free, uncancelled `Mmap` always succeeds, from any state. -/
theorem mmap_nofault_ok (f : Faults) (s : MState α) (hf : f.sysFault = false)
    (hcan : cancelled f s = false) : (mmap f s).2 = .ok () := by
  by_cases h : alreadyClean s = true ∨ s.m.nnz = 0
  · rw [mmap_noop h]
  · rw [not_or, Bool.not_eq_true] at h
    obtain ⟨h1, h2, h3, h4⟩ := f.sysFault_eq_false_iff.mp hf
    rw [mmap_slow f h.1 h.2, slowPath, h1, h2, h3, h4, hcan]
    rfl

/-- …so after a failed or cancelled swap-out the matrix stays usable: a following fault-free
    `Mmap` succeeds and swaps out exactly the original rows. -/
theorem mmap_fail_usable (f : Faults) (s : MState α) (e : MErr) (he : (mmap f s).2 = .error e) :
    (mmap {} (mmap f s).1).2 = .ok () ∧
    (mmap {} (mmap f s).1).1.m.rows = s.m.rows ∧
    (s.locs.length = s.m.rows.length →
      inMapCount (mmap {} (mmap f s).1).1 = nonEmptyCount (mmap {} (mmap f s).1).1) := by
  have hok : (mmap {} (mmap f s).1).2 = .ok () := mmap_nofault_ok {} _ rfl rfl
  obtain ⟨e1, e2, _⟩ := mmap_fail_intact f s e he
  refine ⟨hok, ?_, fun hl => ?_⟩
  · rw [mmap_rows, mmap_rows]
  · exact (mmap_offheap_of_len {} _ (by rw [e1, e2]; exact hl) hok).1

/-! ## The outcomes of `Mmap` -/

/-- Already mapped and clean: `ok`, nothing changes (whatever the faults). -/
theorem mmap_outcome_clean (f : Faults) (s : MState α) (hc : alreadyClean s = true) :
    mmap f s = (s, .ok ()) :=
  mmap_noop (.inl hc) f

/-- `Mmap` returns `ok` exactly when the receiver is already mapped and clean, or has no
    stored entry, or no fault fires: no syscall fails and the context is not cancelled at any of
    the `rows.length` polls. -/
theorem mmap_ok_iff (f : Faults) (s : MState α) :
    (mmap f s).2 = .ok () ↔
      alreadyClean s = true ∨ s.m.nnz = 0 ∨
      (f.createTemp = false ∧ f.truncate = false ∧ f.mmapSys = false ∧ f.remove = false ∧
        ∀ k, f.cancelAtRow = some k → s.m.rows.length ≤ k) := by
  rw [← cancelled_eq_false_iff]
  refine mmap_cases (P := fun r => r.2 = .ok () ↔ _) f s ?_ ?_ ?_ ?_ ?_ ?_
  -- at each exit the tests that lead there decide both sides
  all_goals
    intros
    grind [Faults.sysFault]

/-- `Mmap` returns the context error exactly when the slow path is taken, no syscall fails and
    the context is cancelled at the poll before some row `k < rows.length`. -/
theorem mmap_ctx_iff (f : Faults) (s : MState α) :
    (mmap f s).2 = .error .ctx ↔
      alreadyClean s = false ∧ s.m.nnz ≠ 0 ∧
      f.createTemp = false ∧ f.truncate = false ∧ f.mmapSys = false ∧ f.remove = false ∧
      ∃ k, f.cancelAtRow = some k ∧ k < s.m.rows.length := by
  rw [← cancelled_iff]
  refine mmap_cases (P := fun r => r.2 = .error .ctx ↔ _) f s ?_ ?_ ?_ ?_ ?_ ?_
  -- only the `cancel` exit returns `.ctx`, and its tests are the right-hand side
  all_goals
    intros
    grind [Faults.sysFault]

/-- `Mmap` returns a syscall error exactly when the slow path is taken and some syscall fails. -/
theorem mmap_sys_iff (f : Faults) (s : MState α) :
    (mmap f s).2 = .error .sys ↔
      alreadyClean s = false ∧ s.m.nnz ≠ 0 ∧
      (f.createTemp = true ∨ f.truncate = true ∨ f.mmapSys = true ∨ f.remove = true) := by
  refine mmap_cases (P := fun r => r.2 = .error .sys ↔ _) f s ?_ ?_ ?_ ?_ ?_ ?_
  -- the three exits returning `.sys` carry one true fault flag each; the others have none
  all_goals
    intros
    grind [Faults.sysFault]

/-- On the slow path: the resulting state of each exit. -/
theorem mmap_slow_path (f : Faults) (s : MState α) (hc : alreadyClean s = false)
    (h0 : s.m.nnz ≠ 0) :
    mmap f s =
      if f.createTemp then (s, .error .sys)
      else if f.truncate then (failSt s, .error .sys)
      else if f.mmapSys then (failSt s, .error .sys)
      else if f.remove then (removeSt s, .error .sys)
      else if cancelled f s then (cancelSt s, .error .ctx)
      else (okSt s, .ok ()) :=
  mmap_slow f hc h0

/-! ## Re-mapping happens exactly when the matrix is dirty -/

/-- A second `Mmap` without intervening modification is a no-op returning `ok` ("already
    mapped"), whatever the faults of the second call. -/
theorem mmap_twice (g f : Faults) (s : MState α) (hok : (mmap g s).2 = .ok ()) :
    mmap f (mmap g s).1 = ((mmap g s).1, .ok ()) := by
  revert hok
  exact mmap_cases (P := fun r => r.2 = .ok () → mmap f r.1 = (r.1, .ok ())) g s
    (fun h _ => mmap_noop h f) nofun nofun nofun nofun
    (fun _ _ _ _ _ => mmap_noop (.inl (okSt_alreadyClean s)) f)

/-- In particular after a fault-free first call. -/
theorem mmap_idempotent (f : Faults) (s : MState α) :
    mmap f (mmap {} s).1 = ((mmap {} s).1, .ok ()) :=
  mmap_twice {} f s (mmap_nofault_ok {} s rfl rfl)

/-- A merge that leaves some row non-empty after merging a non-empty update row into it puts
    that row on the heap: the state is dirty with respect to every mapping. -/
theorem merge_makes_dirty (s : MState α) (u : CSM α) (id i : Nat)
    (hne : (step s (.mergeFrom u)).m.rows.getD i [] ≠ []) (hu : u.rows.getD i [] ≠ []) :
    dirty (step s (.mergeFrom u)) id = true :=
  dirty_mergeFrom s u id hne hu

/-- `Mmap` of a dirty mapped matrix (fault-free) copies everything into a NEW mapping, adopts
    it and releases the old one; afterwards all non-empty rows are in the new mapping. -/
theorem remap_dirty (s : MState α) (h : MInv s) (id : Nat) (hm : s.mapped = some id)
    (hd : dirty s id = true) :
    (mmap {} s).2 = .ok () ∧
    (mmap {} s).1.mapped = some (s.led.next + 1) ∧ s.led.next + 1 ≠ id ∧
    (mmap {} s).1.led.maps = [s.led.next + 1] ∧ id ∉ (mmap {} s).1.led.maps ∧
    inMapCount (mmap {} s).1 = nonEmptyCount (mmap {} s).1 := by
  have hc : alreadyClean s = false := by
    unfold alreadyClean; rw [hm]; simp [hd]
  have h0 := nnz_ne_zero_of_dirty hd
  have hlt := h.id_lt hm
  have heq : mmap {} s = (okSt s, .ok ()) := mmap_slow {} hc h0
  have hok : (mmap {} s).2 = .ok () := by rw [heq]
  refine ⟨hok, by rw [heq]; rfl, by omega, by rw [heq]; exact okSt_maps h, ?_,
    (mmap_offheap {} s h hok).1⟩
  rw [heq]
  show id ∉ (okSt s).led.maps
  rw [okSt_maps h]
  simp only [List.mem_singleton]
  omega

/-- Merging an update that changes a row into a swapped-out matrix and swapping out again:
    the state is dirty, the swap-out succeeds into a new mapping, the only live one. -/
theorem remap_after_merge (s : MState α) (h : MInv s) (u : CSM α) (id i : Nat)
    (hm : s.mapped = some id)
    (hne : (step s (.mergeFrom u)).m.rows.getD i [] ≠ []) (hu : u.rows.getD i [] ≠ []) :
    dirty (step s (.mergeFrom u)) id = true ∧
    (mmap {} (step s (.mergeFrom u))).2 = .ok () ∧
    ∃ new, new ≠ id ∧
      (mmap {} (step s (.mergeFrom u))).1.mapped = some new ∧
      (mmap {} (step s (.mergeFrom u))).1.led.maps = [new] ∧
      inMapCount (mmap {} (step s (.mergeFrom u))).1 =
        nonEmptyCount (mmap {} (step s (.mergeFrom u))).1 := by
  have hd := dirty_mergeFrom s u id hne hu
  obtain ⟨r1, r2, r3, r4, _, r6⟩ :=
    remap_dirty (step s (.mergeFrom u)) (merge_fst_inv h _) id hm hd
  exact ⟨hd, r1, _, r3, r2, r4, r6⟩

/-- The whole scenario: swap out, merge an update that changes a row, swap out again. -/
theorem remap_when_dirty (s : MState α) (h : MInv s) (u : CSM α) (id i : Nat)
    (hm : (mmap {} s).1.mapped = some id)
    (hne : (step (mmap {} s).1 (.mergeFrom u)).m.rows.getD i [] ≠ [])
    (hu : u.rows.getD i [] ≠ []) :
    dirty (step (mmap {} s).1 (.mergeFrom u)) id = true ∧
    (mmap {} (step (mmap {} s).1 (.mergeFrom u))).2 = .ok () ∧
    ∃ new, new ≠ id ∧
      (mmap {} (step (mmap {} s).1 (.mergeFrom u))).1.mapped = some new ∧
      (mmap {} (step (mmap {} s).1 (.mergeFrom u))).1.led.maps = [new] ∧
      inMapCount (mmap {} (step (mmap {} s).1 (.mergeFrom u))).1 =
        nonEmptyCount (mmap {} (step (mmap {} s).1 (.mergeFrom u))).1 :=
  remap_after_merge (mmap {} s).1 (mmap_inv h rfl) u id i hm hne hu

/-! ## Non-vacuity: a concrete 2×3 matrix over ℚ through a history with a cancelled swap-out,
    a swap-out, a merge, a failed swap-out, a re-swap and finalisation -/

section examples
attribute [local instance 10000] fieldScalar

/-- `[[1 0 3], [0 2 0]]` -/
def M0 : CSM ℚ := ⟨2, 3, [[⟨0, 1⟩, ⟨2, 3⟩], [⟨1, 2⟩]], []⟩
/-- an update touching row 1 only -/
def U0 : CSM ℚ := ⟨2, 3, [[], [⟨2, 5⟩]], []⟩
def s0 : MState ℚ := fresh M0 {}
def ops0 : List (Op ℚ) :=
  [.mmap { cancelAtRow := some 1 }, .mmap {}, .mergeFrom U0, .mmap { truncate := true }, .mmap {}]

/-- the hypotheses of `transparent_history`, `mmap_offheap`, `mmap_ledger`, `ledger_history`,
    `no_leak_after_gc`, `remap_when_dirty` hold for the start state and the history -/
example : MInv s0 ∧ HClean s0.m ∧ NoRemoveFault ops0 := by
  refine ⟨fresh_ledger M0 {} ⟨rfl, rfl, rfl⟩, fun r hr => by simp [s0, fresh, M0] at hr, ?_⟩
  intro f hf
  simp only [ops0, List.mem_cons, Op.mmap.injEq, List.not_mem_nil, or_false, reduceCtorEq,
    false_or] at hf
  rcases hf with rfl | rfl | rfl | rfl <;> rfl

/-- a swap-out cancelled at the poll before row 1: context error, nothing mapped, nothing left
    (hypothesis of `mmap_fail_intact`/`mmap_fail_usable`; right-hand side of `mmap_ctx_iff`) -/
example : (mmap { cancelAtRow := some 1 } s0).2 = .error .ctx ∧
    (mmap { cancelAtRow := some 1 } s0).1.led.files = [] ∧
    (mmap { cancelAtRow := some 1 } s0).1.led.fds = [] ∧
    (mmap { cancelAtRow := some 1 } s0).1.led.maps = [] ∧
    (mmap { cancelAtRow := some 1 } s0).1.locs = [Loc.heap, Loc.heap] := by
  decide +kernel

/-- then a successful swap-out: both rows in mapping 3 (hypothesis `hok` of `mmap_offheap`,
    `mmap_twice`; hypothesis `hm` of `remap_when_dirty`) -/
example : (mmap {} (run s0 [.mmap { cancelAtRow := some 1 }])).2 = .ok () ∧
    (run s0 [.mmap { cancelAtRow := some 1 }, .mmap {}]).mapped = some 3 ∧
    (run s0 [.mmap { cancelAtRow := some 1 }, .mmap {}]).locs = [Loc.map 3, Loc.map 3] ∧
    (run s0 [.mmap { cancelAtRow := some 1 }, .mmap {}]).led.maps = [3] ∧
    inMapCount (run s0 [.mmap { cancelAtRow := some 1 }, .mmap {}]) = 2 ∧
    nonEmptyCount (run s0 [.mmap { cancelAtRow := some 1 }, .mmap {}]) = 2 := by
  decide +kernel

/-- the merge puts row 1 on the heap and makes the state dirty
    (hypotheses `hne`, `hu` of `merge_makes_dirty`/`remap_when_dirty`; `hd` of `remap_dirty`) -/
example : (run s0 [.mmap { cancelAtRow := some 1 }, .mmap {}, .mergeFrom U0]).locs =
      [Loc.map 3, Loc.heap] ∧
    dirty (run s0 [.mmap { cancelAtRow := some 1 }, .mmap {}, .mergeFrom U0]) 3 = true ∧
    (run s0 [.mmap { cancelAtRow := some 1 }, .mmap {}, .mergeFrom U0]).m.rows.getD 1 [] ≠ [] ∧
    U0.rows.getD 1 [] ≠ [] := by
  decide +kernel

/-- a `Truncate` failure on the dirty state: error, old mapping still adopted, nothing leaked
    (hypothesis of `mmap_fail_intact`; right-hand side of `mmap_sys_iff`) -/
example :
    (mmap { truncate := true }
      (run s0 [.mmap { cancelAtRow := some 1 }, .mmap {}, .mergeFrom U0])).2 = .error .sys ∧
    (run s0 [.mmap { cancelAtRow := some 1 }, .mmap {}, .mergeFrom U0,
      .mmap { truncate := true }]).led.maps = [3] ∧
    (run s0 [.mmap { cancelAtRow := some 1 }, .mmap {}, .mergeFrom U0,
      .mmap { truncate := true }]).led.files = [] ∧
    (run s0 [.mmap { cancelAtRow := some 1 }, .mmap {}, .mergeFrom U0,
      .mmap { truncate := true }]).led.fds = [] := by
  decide +kernel

/-- the retry re-maps into the new mapping 6 and releases mapping 3 -/
example : (run s0 ops0).mapped = some 6 ∧ (run s0 ops0).led.maps = [6] ∧
    (run s0 ops0).locs = [Loc.map 6, Loc.map 6] ∧
    (run s0 ops0).led.files = [] ∧ (run s0 ops0).led.fds = [] := by
  decide +kernel

/-- contents after the history = contents of the plain run = `[[1 0 3], [0 2 5]]` -/
example : (run s0 ops0).m.rows.map (·.map fun e => (e.idx, e.val)) =
      [[(0, 1), (2, 3)], [(1, 2), (2, 5)]] ∧
    (runPlain s0.m ops0).rows.map (·.map fun e => (e.idx, e.val)) =
      [[(0, 1), (2, 3)], [(1, 2), (2, 5)]] := by
  decide +kernel

/-- garbage collection releases the last mapping -/
example : (finalize (run s0 ops0)).led.maps = [] ∧ (finalize (run s0 ops0)).mapped = none ∧
    (finalize (run s0 ops0)).locs = [Loc.heap, Loc.heap] := by
  decide +kernel

/-- the hypotheses of `mmap_remove_fault` are satisfiable, and its conclusion in the concrete -/
example : alreadyClean s0 = false ∧ s0.m.nnz ≠ 0 ∧
    (mmap { remove := true } s0).1.led.files = [0] ∧
    (mmap { remove := true } s0).1.led.maps = [] := by
  decide +kernel

/-- "`nnz = 0 →` afterwards `mapped = none`" is false (model and Go code):
    swap out, shrink to 0×0, swap out again — the invariant holds, the matrix is empty, `Mmap`
    returns `ok` through the "already mapped" exit and the stale mapping 1 stays adopted and live
    (it is released only by `Munmap`/`Reset`/finalisation). -/
theorem mmap_empty_keeps_stale_mapping :
    ∃ s : MState ℚ, MInv s ∧ s.m.nnz = 0 ∧ (mmap {} s).2 = .ok () ∧
      (mmap {} s).1.mapped = some 1 ∧ (mmap {} s).1.led.maps = [1] := by
  refine ⟨setDim (mmap {} s0).1 0 0,
    setDim_ledger _ (mmap_ledger {} s0 (fresh_ledger M0 {} ⟨rfl, rfl, rfl⟩) rfl) 0 0, ?_⟩
  decide +kernel

/-- `HClean` cannot be dropped from `transparent_history`: with a non-nil row in
    `Entries[len:cap]` (possible before the C10 repair), `Munmap` drops it while the plain run
    re-exposes it on the next `SetMajorDim`. -/
theorem transparent_history_needs_hclean :
    ∃ (s : MState ℚ) (ops : List (Op ℚ)), MInv s ∧
      (run s ops).m.nnz = 1 ∧ (runPlain s.m ops).nnz = 2 := by
  refine ⟨{ m := ⟨1, 1, [[⟨0, 1⟩]], [[⟨0, 7⟩]]⟩, locs := [Loc.map 0], mapped := some 0,
            led := { maps := [0], next := 1 } }, [.munmap, .setDim 2 1], ?_, ?_, ?_⟩
  · refine ⟨rfl, rfl, rfl, rfl, ?_, ?_⟩
    · intro p hp id _ hid
      simp only [List.zip_cons_cons, List.zip_nil_right, List.mem_singleton] at hp
      subst hp
      cases hid
      rfl
    · intro x hx
      simp only [List.nil_append, List.mem_singleton] at hx
      subst hx
      exact Nat.zero_lt_one
  · decide +kernel
  · decide +kernel

end examples

end EtVerif.C12
