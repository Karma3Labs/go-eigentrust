/-
  Tie theorem: a structural fact regenerated from /repo's source by tools/gofacts on every run
  (Gen/Facts.lean) must satisfy the predicate the model-level theorems are stated for.  The `decide`
  below FAILS (and the check reports it) as soon as the extracted shape stops satisfying it.
-/
import EtVerif.Gen.Facts

namespace EtVerif.Ties
open EtVerif

/-- C12: Mmap's step order, cleanup defers, per-row poll, re-pointing into a new table installed after the copy. -/
theorem source_mmap_safe : Facts.mmapShape.safe = true := by decide +kernel

end EtVerif.Ties
