/-
  TrGo09 — C09 (sparse vector algebra equals dense arithmetic) stated about the TRANSLATED Go code:
  the values the CURRENT SOURCE of `Vector.AddVec`, `Vector.SubVec`, `Vector.ScaleVec`, `Vector.scaleInPlace`,
  `VecDot`, `Vector.Sum`, `KBNSummer.Add/Sum` (Gen/Translated.lean, regenerated by tools/go2lean on every run)
  return are the dense sum / difference / multiple / inner product / element sum — compositions of the
  refinements of Props/TrC09 with the model-level theorems of Props/C09 (any ordered field) and Props/C09b
  (rounded real arithmetic).  Property theorems only.

  Every theorem asserts the existence of the `.ok` result (no panic, termination within the stated fuel) and
  the property's conclusion about that result, through the bridge maps `toGV`, `toGK`.

  NOT transported (reasons at the end of the file): `C09.norm2_sq` (`Vector.Norm2` is translated only with
  `math.Sqrt` as a parameter) and the `MulVec` theorems of Props/C09 (`Vector.MulVec` is an extern of the
  translation, not translated code).  `C10.vec_setDim` (`Vector.SetDim`, refinement `TrC09.setDim`) is a C10
  theorem and is transported in Props/TrGo10.
-/
import EtVerif.Props.TrC09
import EtVerif.Props.C09
import EtVerif.Props.C09b

namespace EtVerif.TrGo09
open EtVerif EtVerif.GoSem EtVerif.Gen EtVerif.Tr Scalar

set_option linter.unusedSectionVars false

/-! ## The run of the translated code, any scalar type (in particular `Float`) -/

section anyScalar
variable {α : Type} [Scalar α]

/-- Go `v.AddVec(v1, v2)` on operands of EQUAL dimension (any scalar type, sorted or not, any receiver `w`,
    any capacity behaviour, fuel ≥ number of stored entries): returns a nil error, without panicking, and
    leaves in the receiver the vector of that dimension whose entries are the model's merge `addEntries`. -/
theorem go_addVec_ok (capO : Nat → Int) (fuel : Nat) (w : GVector α) (v1 v2 : Vec α)
    (hd : v1.dim = v2.dim) (hf : v1.entries.length + v2.entries.length ≤ fuel) :
    ∃ st, Vector_AddVec capO fuel w (toGV v1) (toGV v2) = .ok (st, none) ∧
      st.v = toGV ⟨v1.dim, addEntries v1.entries v2.entries⟩ := by
  have h := TrC09.addVec capO fuel w v1 v2 hf
  rw [C09.add_ok v1 v2 hd] at h
  exact map_pair_eq_ok h

/-- Go `v.SubVec(v1, v2)` on operands of equal dimension: nil error, no panic, receiver = the model's
    `subEntries` merge. -/
theorem go_subVec_ok (capO : Nat → Int) (fuel : Nat) (w : GVector α) (v1 v2 : Vec α)
    (hd : v1.dim = v2.dim) (hf : v1.entries.length + v2.entries.length ≤ fuel) :
    ∃ st, Vector_SubVec capO fuel w (toGV v1) (toGV v2) = .ok (st, none) ∧
      st.v = toGV ⟨v1.dim, subEntries v1.entries v2.entries⟩ := by
  have h := TrC09.subVec capO fuel w v1 v2 hf
  rw [C09.sub_ok v1 v2 hd] at h
  exact map_pair_eq_ok h

/-- `C09.dim_mismatch_add` on the Go code: `v.AddVec(v1, v2)` on operands of DIFFERENT dimensions returns
    (without panicking) the error `ErrDimensionMismatch` and leaves the receiver exactly as it was — never a
    result.  (The fuel hypothesis is the refinement's; the check precedes the loop.) -/
theorem go_addVec_dim_mismatch (capO : Nat → Int) (fuel : Nat) (w : GVector α) (v1 v2 : Vec α)
    (hd : v1.dim ≠ v2.dim) (hf : v1.entries.length + v2.entries.length ≤ fuel) :
    ∃ st, Vector_AddVec capO fuel w (toGV v1) (toGV v2) = .ok (st, some ⟨"ErrDimensionMismatch"⟩) ∧
      st.v = w := by
  have h := TrC09.addVec capO fuel w v1 v2 hf
  rw [C09.dim_mismatch_add v1 v2 hd] at h
  exact map_pair_eq_ok h

/-- `C09.dim_mismatch_sub` on the Go code: `v.SubVec(v1, v2)` on operands of different dimensions returns
    `ErrDimensionMismatch` and leaves the receiver untouched. -/
theorem go_subVec_dim_mismatch (capO : Nat → Int) (fuel : Nat) (w : GVector α) (v1 v2 : Vec α)
    (hd : v1.dim ≠ v2.dim) (hf : v1.entries.length + v2.entries.length ≤ fuel) :
    ∃ st, Vector_SubVec capO fuel w (toGV v1) (toGV v2) = .ok (st, some ⟨"ErrDimensionMismatch"⟩) ∧
      st.v = w := by
  have h := TrC09.subVec capO fuel w v1 v2 hf
  rw [C09.dim_mismatch_sub v1 v2 hd] at h
  exact map_pair_eq_ok h

/-- `C09.add_entrywise` on the Go code (any scalar type, one rounding at `Float`): every entry `AddVec`
    leaves in the receiver is an entry of one operand, or ONE `add` of the two operand values stored at the
    same index. -/
theorem go_addVec_entrywise (capO : Nat → Int) (fuel : Nat) (w : GVector α) (v1 v2 : Vec α)
    (hd : v1.dim = v2.dim) (hf : v1.entries.length + v2.entries.length ≤ fuel) :
    ∃ st out, Vector_AddVec capO fuel w (toGV v1) (toGV v2) = .ok (st, none) ∧ st.v = toGV out ∧
      ∀ x ∈ out.entries, x ∈ v1.entries ∨ x ∈ v2.entries ∨
        ∃ a ∈ v1.entries, ∃ b ∈ v2.entries, a.idx = b.idx ∧ x = ⟨a.idx, Scalar.add a.val b.val⟩ := by
  obtain ⟨st, hr, hv⟩ := go_addVec_ok capO fuel w v1 v2 hd hf
  exact ⟨st, _, hr, hv, fun x hx => C09.add_entrywise _ _ x hx⟩

/-- `C09.sub_entrywise` on the Go code: every entry `SubVec` leaves in the receiver is an entry of the
    minuend, ONE `neg` of an entry of the subtrahend, or ONE `sub` of the two values at the same index. -/
theorem go_subVec_entrywise (capO : Nat → Int) (fuel : Nat) (w : GVector α) (v1 v2 : Vec α)
    (hd : v1.dim = v2.dim) (hf : v1.entries.length + v2.entries.length ≤ fuel) :
    ∃ st out, Vector_SubVec capO fuel w (toGV v1) (toGV v2) = .ok (st, none) ∧ st.v = toGV out ∧
      ∀ x ∈ out.entries, x ∈ v1.entries ∨ (∃ b ∈ v2.entries, x = ⟨b.idx, Scalar.neg b.val⟩) ∨
        ∃ a ∈ v1.entries, ∃ b ∈ v2.entries, a.idx = b.idx ∧ x = ⟨a.idx, Scalar.sub a.val b.val⟩ := by
  obtain ⟨st, hr, hv⟩ := go_subVec_ok capO fuel w v1 v2 hd hf
  exact ⟨st, _, hr, hv, fun x hx => C09.sub_entrywise _ _ x hx⟩

/-- The Go idiom `s := KBNSummer{}; for _, x := range xs { s.Add(x) }; return s.Sum()` as a composition of the
    translated `KBNSummer.Add` and `KBNSummer.Sum` (the summer written through by each `Add` is passed on). -/
def goKbnRun (xs : List α) : R α := do
  let s ← xs.foldlM (fun s x => (KBNSummer_Add s x).map (fun r => r.1.s)) (GKBNSummer.zero : GKBNSummer α)
  (KBNSummer_Sum s).map (fun r => r.2)

private theorem foldlM_add (xs : List α) (k : KBN α) :
    xs.foldlM (fun s x => (KBNSummer_Add s x).map (fun r => r.1.s)) (toGK k) =
      (.ok (toGK (xs.foldl KBN.push k)) : R (GKBNSummer α)) := by
  induction xs generalizing k with
  | nil => rfl
  | cons x xs ih =>
    rw [List.foldlM_cons, TrC09.kbn_add k x]
    exact ih (k.push x)

/-- Any sequence of Go `Add` calls on a zero `KBNSummer` followed by `Sum` runs without panic and returns the
    model's `kbnSum` of the values (any scalar type). -/
theorem go_kbn_run (xs : List α) : goKbnRun xs = .ok (kbnSum xs) := by
  unfold goKbnRun
  rw [toGK_zero, foldlM_add]
  exact TrC09.kbn_sum _

end anyScalar

/-! ## Sum and difference (ordered field) -/

variable {K : Type} [Field K] [LinearOrder K]

/-- `C09.den_add` on the Go code: `v.AddVec(v1, v2)` on operands of equal dimension (sorted or not) returns a
    nil error and leaves in the receiver a vector of that dimension that denotes the dense SUM: cell by cell,
    `out_i = v1_i + v2_i`. -/
theorem go_addVec_den (capO : Nat → Int) (fuel : Nat) (w : GVector K) (v1 v2 : Vec K)
    (hd : v1.dim = v2.dim) (hf : v1.entries.length + v2.entries.length ≤ fuel) :
    ∃ st out, Vector_AddVec capO fuel w (toGV v1) (toGV v2) = .ok (st, none) ∧ st.v = toGV out ∧
      out.dim = v1.dim ∧ ∀ i, denE out.entries i = denE v1.entries i + denE v2.entries i := by
  obtain ⟨st, hr, hv⟩ := go_addVec_ok capO fuel w v1 v2 hd hf
  exact ⟨st, _, hr, hv, rfl, C09.den_add v1 v2 _ (C09.add_ok v1 v2 hd)⟩

/-- `C09.den_sub` on the Go code: `v.SubVec(v1, v2)` on operands of equal dimension leaves in the receiver a
    vector of that dimension that denotes the dense DIFFERENCE `out_i = v1_i - v2_i`. -/
theorem go_subVec_den (capO : Nat → Int) (fuel : Nat) (w : GVector K) (v1 v2 : Vec K)
    (hd : v1.dim = v2.dim) (hf : v1.entries.length + v2.entries.length ≤ fuel) :
    ∃ st out, Vector_SubVec capO fuel w (toGV v1) (toGV v2) = .ok (st, none) ∧ st.v = toGV out ∧
      out.dim = v1.dim ∧ ∀ i, denE out.entries i = denE v1.entries i - denE v2.entries i := by
  obtain ⟨st, hr, hv⟩ := go_subVec_ok capO fuel w v1 v2 hd hf
  exact ⟨st, _, hr, hv, rfl, C09.den_sub v1 v2 _ (C09.sub_ok v1 v2 hd)⟩

/-- `C09.wf_addVec` (+ `den_add`) on the Go code: on WELL-FORMED operands (indices strictly increasing and
    below the dimension) of equal dimension, `AddVec` leaves a well-formed vector of the same dimension
    denoting the dense sum. -/
theorem go_addVec_wf (capO : Nat → Int) (fuel : Nat) (w : GVector K) (v1 v2 : Vec K)
    (h1 : WF v1.dim v1.entries) (h2 : WF v2.dim v2.entries)
    (hd : v1.dim = v2.dim) (hf : v1.entries.length + v2.entries.length ≤ fuel) :
    ∃ st out, Vector_AddVec capO fuel w (toGV v1) (toGV v2) = .ok (st, none) ∧ st.v = toGV out ∧
      out.dim = v1.dim ∧ WF out.dim out.entries ∧
      ∀ i, denE out.entries i = denE v1.entries i + denE v2.entries i := by
  obtain ⟨st, hr, hv⟩ := go_addVec_ok capO fuel w v1 v2 hd hf
  obtain ⟨hdim, hwf⟩ := C09.wf_addVec v1 v2 _ h1 h2 (C09.add_ok v1 v2 hd)
  exact ⟨st, _, hr, hv, hdim, hwf, C09.den_add v1 v2 _ (C09.add_ok v1 v2 hd)⟩

/-- `C09.wf_subVec` (+ `den_sub`) on the Go code: on well-formed operands of equal dimension, `SubVec` leaves a
    well-formed vector of the same dimension denoting the dense difference. -/
theorem go_subVec_wf (capO : Nat → Int) (fuel : Nat) (w : GVector K) (v1 v2 : Vec K)
    (h1 : WF v1.dim v1.entries) (h2 : WF v2.dim v2.entries)
    (hd : v1.dim = v2.dim) (hf : v1.entries.length + v2.entries.length ≤ fuel) :
    ∃ st out, Vector_SubVec capO fuel w (toGV v1) (toGV v2) = .ok (st, none) ∧ st.v = toGV out ∧
      out.dim = v1.dim ∧ WF out.dim out.entries ∧
      ∀ i, denE out.entries i = denE v1.entries i - denE v2.entries i := by
  obtain ⟨st, hr, hv⟩ := go_subVec_ok capO fuel w v1 v2 hd hf
  obtain ⟨hdim, hwf⟩ := C09.wf_subVec v1 v2 _ h1 h2 (C09.sub_ok v1 v2 hd)
  exact ⟨st, _, hr, hv, hdim, hwf, C09.den_sub v1 v2 _ (C09.sub_ok v1 v2 hd)⟩

/-! ## Scaling -/

/-- `C09.den_scale`, `dim_scale` on the Go code: `v.ScaleVec(a, v1)` — for every factor (`0` clears, `1` keeps),
    every operand (sorted or not), every receiver `w`; `al` is the pointer comparison `v1 == v` decided at the call
    site, and when it is `true` the receiver must indeed be the operand — returns without panic and leaves in the
    receiver a vector of the operand's dimension that denotes the dense multiple `out_i = a · v1_i`. -/
theorem go_scaleVec_den (w : GVector K) (a : K) (v1 : Vec K) (al : Bool) (hal : al = true → w = toGV v1) :
    ∃ st out, Gen.Vector_ScaleVec w a (toGV v1) al = .ok (st, ()) ∧ st.v = toGV out ∧
      out.dim = v1.dim ∧ ∀ i, denE out.entries i = a * denE v1.entries i := by
  obtain ⟨r, hr, hout⟩ := map_eq_ok (TrC09.scaleVec w a v1 al hal)
  exact ⟨r.1, Vec.scale a v1, by rw [hr], hout, C09.dim_scale a v1, C09.den_scale a v1⟩

/-- `C09.wf_scale` on the Go code: `ScaleVec` of a well-formed operand leaves a well-formed vector denoting the
    dense multiple, any factor. -/
theorem go_scaleVec_wf (w : GVector K) (a : K) (v1 : Vec K) (al : Bool) (hal : al = true → w = toGV v1)
    (h : WF v1.dim v1.entries) :
    ∃ st out, Gen.Vector_ScaleVec w a (toGV v1) al = .ok (st, ()) ∧ st.v = toGV out ∧
      out.dim = v1.dim ∧ WF out.dim out.entries ∧ ∀ i, denE out.entries i = a * denE v1.entries i := by
  obtain ⟨r, hr, hout⟩ := map_eq_ok (TrC09.scaleVec w a v1 al hal)
  exact ⟨r.1, Vec.scale a v1, by rw [hr], hout, C09.dim_scale a v1, C09.wf_scale a v1 h, C09.den_scale a v1⟩

/-- `C09.scale_nonzero` on the Go code: if the factor is `≠ 1`, or the operand stores no explicit zero, the
    vector `ScaleVec` leaves in the receiver stores no explicit zero. -/
theorem go_scaleVec_nonzero (w : GVector K) (a : K) (v1 : Vec K) (al : Bool) (hal : al = true → w = toGV v1)
    (h : a ≠ 1 ∨ ∀ e ∈ v1.entries, e.val ≠ 0) :
    ∃ st out, Gen.Vector_ScaleVec w a (toGV v1) al = .ok (st, ()) ∧ st.v = toGV out ∧
      ∀ e ∈ out.entries, e.val ≠ 0 := by
  obtain ⟨r, hr, hout⟩ := map_eq_ok (TrC09.scaleVec w a v1 al hal)
  exact ⟨r.1, Vec.scale a v1, by rw [hr], hout, C09.scale_nonzero a v1 h⟩

/-- `C09.scaleEntries_nonzero` (with the denotation and well-formedness lemmas of the same loop) on the Go
    code: the in-place loop `v.scaleInPlace(a)` with a factor `≠ 1` returns without panic, keeps the dimension,
    stores no explicit zero, denotes `out_i = a · v_i`, and keeps a well-formed receiver well-formed. -/
theorem go_scaleInPlace_nonzero (v : Vec K) (a : K) (ha : a ≠ 1) :
    ∃ st out, Vector_scaleInPlace (toGV v) a = .ok (st, ()) ∧ st.v = toGV out ∧ out.dim = v.dim ∧
      (∀ e ∈ out.entries, e.val ≠ 0) ∧ (∀ i, denE out.entries i = a * denE v.entries i) ∧
      (WF v.dim v.entries → WF out.dim out.entries) := by
  obtain ⟨r, hr, hout⟩ := map_eq_ok (TrC09.scaleInPlace v a)
  exact ⟨r.1, ⟨v.dim, scaleEntries a v.entries⟩, by rw [hr], hout, rfl, C09.scaleEntries_nonzero ha _,
    den_scaleEntries a v.entries, fun h => wf_scaleEntries a h⟩

/-- `C09.scaleEntries_one` on the Go code: `v.scaleInPlace(1)` leaves the receiver unchanged (stored zeros, if
    any, stay). -/
theorem go_scaleInPlace_one (v : Vec K) :
    ∃ st, Vector_scaleInPlace (toGV v) (1 : K) = .ok (st, ()) ∧ st.v = toGV v := by
  obtain ⟨r, hr, hout⟩ := map_eq_ok (TrC09.scaleInPlace v (1 : K))
  refine ⟨r.1, by rw [hr], ?_⟩
  rw [hout, C09.scaleEntries_one]

/-! ## Element sum; KBN is exact in a field -/

/-- `C09.kbn_exact` on the Go code: in a field, any sequence of `KBNSummer.Add` calls on a zero summer followed
    by `Sum` returns the plain sum of the values (the compensation term is identically `0`). -/
theorem go_kbn_exact (xs : List K) : goKbnRun xs = .ok xs.sum := by
  rw [go_kbn_run, C09.kbn_exact]

/-- "KBN is exact in a field" for `Vector.Sum`: for every vector (sorted or not) Go `v.Sum()` returns, without
    panic, the plain sum of the stored values. -/
theorem go_vector_sum_exact (v : Vec K) :
    ∃ st, Vector_Sum (toGV v) = .ok (st, (v.entries.map (·.val)).sum) := by
  obtain ⟨r, hr, hout⟩ := map_eq_ok (TrC09.vector_sum v)
  refine ⟨r.1, ?_⟩
  have h2 : r.2 = (v.entries.map (·.val)).sum := by rw [hout]; exact C09.kbn_exact _
  rw [hr, ← h2]

/-- `C09.sum_eq` on the Go code: for a well-formed vector Go `v.Sum()` returns the sum of the DENSE vector,
    `Σ_{i < dim} v_i`. -/
theorem go_vector_sum_eq (v : Vec K) (h : WF v.dim v.entries) :
    ∃ st, Vector_Sum (toGV v) = .ok (st, ∑ i ∈ Finset.range v.dim, denE v.entries i) := by
  obtain ⟨r, hr, hout⟩ := map_eq_ok (TrC09.vector_sum v)
  refine ⟨r.1, ?_⟩
  rw [hr, ← C09.sum_eq v h, ← hout]

/-! ## Dot product -/

/-- `C09.vecDot_eq_sum` on the Go code: for operands well-formed for a common dimension, Go `VecDot(v1, v2)`
    returns (no panic, fuel ≥ number of entries of the second operand) the dense inner product
    `Σ_{i < dim} v1_i · v2_i`. -/
theorem go_vecDot_eq_sum (fuel dim : Nat) (v1 v2 : Vec K) (h1 : WF dim v1.entries) (h2 : WF dim v2.entries)
    (hf : v2.entries.length ≤ fuel) :
    ∃ st, Gen.VecDot fuel (toGV v1) (toGV v2) =
      .ok (st, ∑ i ∈ Finset.range dim, denE v1.entries i * denE v2.entries i) := by
  obtain ⟨r, hr, hout⟩ := map_eq_ok (TrC09.vecDot_field fuel v1 v2 hf)
  refine ⟨r.1, ?_⟩
  rw [hr, ← C09.vecDot_eq_sum h1 h2, ← hout]

/-- `C09.vecDot_comm` on the Go code: for operands well-formed for a common dimension, `VecDot(v1, v2)` and
    `VecDot(v2, v1)` return the same value. -/
theorem go_vecDot_comm (fuel dim : Nat) (v1 v2 : Vec K) (h1 : WF dim v1.entries) (h2 : WF dim v2.entries)
    (hf1 : v1.entries.length ≤ fuel) (hf2 : v2.entries.length ≤ fuel) :
    ∃ st st' x, Gen.VecDot fuel (toGV v1) (toGV v2) = .ok (st, x) ∧
      Gen.VecDot fuel (toGV v2) (toGV v1) = .ok (st', x) := by
  obtain ⟨r, hr, hout⟩ := map_eq_ok (TrC09.vecDot_field fuel v1 v2 hf2)
  obtain ⟨r', hr', hout'⟩ := map_eq_ok (TrC09.vecDot_field fuel v2 v1 hf1)
  refine ⟨r.1, r'.1, r.2, by rw [hr], ?_⟩
  rw [hr', hout, C09.vecDot_comm h1 h2, ← hout']

/-! ## C09b (rounding clause) on the Go code: rounded real arithmetic `flScalar fl` -/

section rounding
open EtVerif.KBNFloat

/-- `C09b.kbn_error_bound` on the Go code run at the rounded real arithmetic `flScalar fl` (`FPModel fl u`):
    `Add`-ing representable numbers `xs` to a zero summer and calling `Sum` returns a value within
    `u |Σ xs| + 4 n² u² Σ|x_i|` of the exact sum. -/
theorem go_kbn_error_bound (fl : ℝ → ℝ) (u : ℝ) (h : FPModel fl u) (xs : List ℝ)
    (hx : ∀ x ∈ xs, fl x = x) (hn : (xs.length : ℝ) * u ≤ 1 / 2) :
    ∃ s : ℝ, @goKbnRun ℝ (flScalar fl) xs = .ok s ∧
      |s - xs.sum| ≤ u * |xs.sum| + 4 * (xs.length : ℝ) ^ 2 * u ^ 2 * (xs.map fun x => |x|).sum :=
  ⟨_, @go_kbn_run ℝ (flScalar fl) xs, C09b.kbn_error_bound fl u h xs hx hn⟩

/-- `C09b.sum_error_bound` on the Go code: at the rounded arithmetic, Go `v.Sum()` on representable stored
    values returns (no panic) a value within the KBN bound of the exact sum of the stored values. -/
theorem go_vector_sum_error_bound (fl : ℝ → ℝ) (u : ℝ) (h : FPModel fl u) (v : Vec ℝ)
    (hx : ∀ e ∈ v.entries, fl e.val = e.val) (hn : (v.entries.length : ℝ) * u ≤ 1 / 2) :
    ∃ st s, @Vector_Sum ℝ (flScalar fl) (toGV v) = .ok (st, s) ∧
      |s - (v.entries.map (·.val)).sum| ≤
        u * |(v.entries.map (·.val)).sum| +
          4 * (v.entries.length : ℝ) ^ 2 * u ^ 2 * (v.entries.map fun e => |e.val|).sum := by
  obtain ⟨r, hr, hout⟩ := map_eq_ok (@TrC09.vector_sum ℝ (flScalar fl) v)
  refine ⟨r.1, r.2, by rw [hr], ?_⟩
  rw [hout]
  exact C09b.sum_error_bound fl u h v hx hn

/-- `C09b.dot_error_bound_exact` on the Go code: at the rounded arithmetic, Go `VecDot(v1, v2)` returns (no
    panic, fuel ≥ entries of the second operand) a value within
    `u |Σ p| + (u + u² + 4 n² u² (1+u)) Σ|p|` of the exact sum of the exact products `p` of matching entries. -/
theorem go_vecDot_error_bound_exact (fl : ℝ → ℝ) (u : ℝ) (h : FPModel fl u) (fuel : Nat) (v1 v2 : Vec ℝ)
    (hf : v2.entries.length ≤ fuel)
    (hn : ((@dotTerms ℝ fieldScalar v1.entries v2.entries).length : ℝ) * u ≤ 1 / 2) :
    ∃ st s, @Gen.VecDot ℝ (flScalar fl) fuel (toGV v1) (toGV v2) =
        .ok (st, s) ∧
      |s - (@dotTerms ℝ fieldScalar v1.entries v2.entries).sum| ≤
        u * |(@dotTerms ℝ fieldScalar v1.entries v2.entries).sum| +
          (u + u ^ 2 + 4 * ((@dotTerms ℝ fieldScalar v1.entries v2.entries).length : ℝ) ^ 2 * u ^ 2 *
            (1 + u)) * ((@dotTerms ℝ fieldScalar v1.entries v2.entries).map fun p => |p|).sum := by
  have h0 : v2.entries = [] → @Scalar.add ℝ (flScalar fl) (@Scalar.zero ℝ (flScalar fl))
      (@Scalar.zero ℝ (flScalar fl)) = @Scalar.zero ℝ (flScalar fl) := by
    intro _
    show fl (0 + 0) = 0
    rw [add_zero, h.fl_zero]
  obtain ⟨r, hr, hout⟩ := map_eq_ok (@TrC09.vecDot_partial ℝ (flScalar fl) fuel v1 v2 hf h0)
  refine ⟨r.1, r.2, by rw [hr], ?_⟩
  rw [hout]
  exact C09b.dot_error_bound_exact fl u h v1.entries v2.entries hn

end rounding

/-- non-vacuity of the hypotheses: well-formed operands of equal dimension within the fuel. -/
example : WF 4 ([⟨0, 1⟩, ⟨2, 2⟩] : List (Entry ℚ)) ∧ WF 4 ([⟨1, 3⟩, ⟨2, -2⟩] : List (Entry ℚ)) ∧
    ([⟨0, 1⟩, ⟨2, 2⟩] : List (Entry ℚ)).length + ([⟨1, 3⟩, ⟨2, -2⟩] : List (Entry ℚ)).length ≤ 4 := by
  unfold WF Sorted
  decide

/-
  Not transported:
  * `C09.norm2_sq` (`Vector.Norm2` before the square root): `Norm2` takes a square root, which `Scalar` does not
    offer; it is translated with `math.Sqrt` as the parameter `sqrtO` (`Gen.Vector_Norm2_src`) and refined in that
    form (`Vector_Norm2_src_refines`, Proofs/TrChecker.lean; Props/TrChk), not in Props/TrC09.
  * `C09.den_mulVec`, `wf_mulVec`, `wf_mulVecEntries`, `mulVecEntries_mem_iff`, `mulVecEntries_nonzero`,
    `dim_mismatch_mulVec`, `mulVec_ok`: `Vector.MulVec` (goroutines) is an EXTERN of the translation
    (Gen/Translated.lean defines `Vector_MulVec` by the model's `mulVecEntries`; C06 covers the schedules), so there is no
    translated code to state them about.
  * `C09b.kbn_decomposition`, `kbn_error_bound_pow`, `dot_error_bound`: same composition as
    `go_kbn_error_bound` / `go_vecDot_error_bound_exact`, variants of the bound only; `fpModel_*`,
    `kbn_exact_of_id`, `kbn_bound_tight` are statements about the arithmetic model, not about a Go function.
-/

end EtVerif.TrGo09
