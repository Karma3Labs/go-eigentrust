/-
  C16 — gRPC TrustMatrix / TrustVector services (pkg/basic/server/grpc: trustmatrix.go,
  trustvector.go, biguintqwords.go), on the model `Model/Grpc.lean`.

  For every sequence of Create/Update/Get/Flush/Delete calls, `Get` streams a header followed by
  exactly the non-zero entries of the last-writer-wins overlay of all updates since the last
  flush (a zero value erases an entry), created ids are unique, calls on unknown ids report
  NotFound; the timestamp is the largest update timestamp since the last flush, and timestamps of
  any size survive the qword encoding.

  Vocabulary (Proofs/GrpcLemmas.lean): `lookup` / `store` / `erase` = the id-indexed store;
  `mEntries m` / `vEntries v` = the entry stream of `Get`; `coordLt` = strict lexicographic order
  on (row, column); `GoodM tm` = stored matrix is `WFM`, `HiddenClean` and square;
  `GoodV tv` = stored vector is `WF`; `C11.assign f ⟨i, j, x⟩` = the dense map `f` with cell
  `(i, j)` set to `x`; `assignV` likewise for vectors.
-/
import EtVerif.Proofs.GrpcLemmas
import Mathlib.Algebra.Order.Field.Rat
import Mathlib.Tactic.NormNum

namespace EtVerif.C16
open EtVerif EtVerif.Grpc EtVerif.GrpcL

variable {K : Type} [Field K] [LinearOrder K]

set_option linter.unusedSectionVars false

/-! ## qword encoding of timestamps (biguintqwords.go) -/

/-- `Qwords2BigUint (BigUint2Qwords n) = n` for every natural number, of any size. -/
theorem qwords_roundtrip (n : Nat) : qwords2Nat (nat2Qwords n) = n := by
  unfold nat2Qwords
  rw [qwords2Nat_reverse, leVal_qwordsLE n n (Nat.le_refl n)]

/-- canonical word list: every word fits 64 bits and there is no leading zero word -/
def Canonical (ws : List Nat) : Prop := (∀ w ∈ ws, w < 2 ^ 64) ∧ ws.head? ≠ some 0

theorem canonical_iff (ws : List Nat) : Canonical ws ↔ CanonLE ws.reverse := by
  unfold Canonical CanonLE
  rw [List.getLast?_reverse]
  constructor
  · rintro ⟨h1, h2⟩; exact ⟨fun d hd => h1 d (List.mem_reverse.mp hd), h2⟩
  · rintro ⟨h1, h2⟩; exact ⟨fun d hd => h1 d (List.mem_reverse.mpr hd), h2⟩

/-- the encoder only produces canonical lists -/
theorem qwords_canonical (n : Nat) : Canonical (nat2Qwords n) := by
  rw [canonical_iff]
  unfold nat2Qwords
  rw [List.reverse_reverse]
  exact canonLE_qwordsLE n n (Nat.le_refl n)

/-- zero is encoded by the empty list -/
theorem qwords_zero : nat2Qwords 0 = [] := rfl

/-- a positive number is encoded with a non-zero first word -/
theorem qwords_head_ne_zero (n : Nat) (hn : 0 < n) :
    ∃ w ws, nat2Qwords n = w :: ws ∧ w ≠ 0 ∧ w < 2 ^ 64 := by
  have hc := qwords_canonical n
  have hr := qwords_roundtrip n
  cases h : nat2Qwords n with
  | nil => rw [h] at hr; simp [qwords2Nat] at hr; omega
  | cons w ws =>
    rw [h] at hc
    refine ⟨w, ws, rfl, ?_, hc.1 w (by simp)⟩
    intro h0
    exact hc.2 (by simp [h0])

/-- the number of words is `(BitLen(n) + 63) / 64`, as in the Go code
    (`BitLen 0 = 0`, `BitLen n = log2 n + 1`) -/
theorem qwords_length (n : Nat) :
    (nat2Qwords n).length = ((if n = 0 then 0 else Nat.log2 n + 1) + 63) / 64 := by
  by_cases hn : n = 0
  · subst hn; rfl
  · rw [if_neg hn]
    obtain ⟨h1, h2⟩ := qwordsLE_length_bounds n n (Nat.le_refl n)
    unfold nat2Qwords
    rw [List.length_reverse]
    generalize (qwordsLE n n).length = L at h1 h2
    have h2 := h2 hn
    have e : ∀ m, base64 ^ m = 2 ^ (64 * m) := fun m => by unfold base64; rw [← Nat.pow_mul]
    rw [e] at h1 h2
    have hL : L ≠ 0 := by
      intro h0; rw [h0] at h1; simp at h1; omega
    have a1 : Nat.log2 n < 64 * L := (Nat.log2_lt hn).mpr h1
    have a2 : 64 * (L - 1) ≤ Nat.log2 n := (Nat.le_log2 hn).mpr h2
    omega

/-- for `n > 0`: `⌈bitlength / 64⌉` words -/
theorem qwords_length_pos (n : Nat) (hn : 0 < n) :
    (nat2Qwords n).length = (Nat.log2 n + 64) / 64 := by
  rw [qwords_length, if_neg (by omega)]

/-- the decoder computes the big-endian base-2^64 value: the empty list is 0 … -/
theorem qwords_decode_nil : qwords2Nat [] = 0 := rfl

/-- … appending a least significant word shifts by 64 bits … -/
theorem qwords_decode_snoc (ws : List Nat) (w : Nat) :
    qwords2Nat (ws ++ [w]) = qwords2Nat ws * 2 ^ 64 + w := qwords2Nat_append ws w

/-- … equivalently the first word has weight `(2^64)^(number of remaining words)`. -/
theorem qwords_decode_cons (w : Nat) (ws : List Nat) :
    qwords2Nat (w :: ws) = w * (2 ^ 64) ^ ws.length + qwords2Nat ws := qwords2Nat_cons w ws

/-- leading zero words are ignored by the decoder -/
theorem qwords_decode_leading_zero (ws : List Nat) : qwords2Nat (0 :: ws) = qwords2Nat ws := by
  rw [qwords2Nat_cons]; simp

/-- the decoder is injective on canonical lists -/
theorem qwords_injective {ws1 ws2 : List Nat} (h1 : Canonical ws1) (h2 : Canonical ws2)
    (h : qwords2Nat ws1 = qwords2Nat ws2) : ws1 = ws2 := by
  have := leVal_injective ((canonical_iff _).mp h1) ((canonical_iff _).mp h2)
    (by rw [← qwords2Nat_reverse, ← qwords2Nat_reverse, List.reverse_reverse,
          List.reverse_reverse]; exact h)
  exact List.reverse_injective this

/-- decoding then re-encoding a canonical list gives it back -/
theorem qwords_encode_decode {ws : List Nat} (h : Canonical ws) :
    nat2Qwords (qwords2Nat ws) = ws :=
  qwords_injective (qwords_canonical _) h (qwords_roundtrip _)

example : nat2Qwords (2 ^ 64 + 5) = [1, 5] := by decide +kernel
example : qwords2Nat [1, 5] = 2 ^ 64 + 5 := by decide +kernel
example : nat2Qwords (2 ^ 64 - 1) = [2 ^ 64 - 1] ∧ nat2Qwords (2 ^ 128) = [1, 0, 0] := by
  decide +kernel
example : Canonical [1, 0, 5] ∧ ¬ Canonical [0, 5] := by
  unfold Canonical; decide

/-! ## single calls (both services) -/

/-- `Create` with an existing id fails (`Unknown`) and changes nothing; otherwise it adds an
    empty matrix with timestamp 0 and leaves all other ids untouched. -/
theorem create_fresh (s : GState K) (id : String) :
    ((lookup s.mats id).isSome → tmCreateNamed s id = (s, .unknown)) ∧
    ((lookup s.mats id) = none →
      (tmCreateNamed s id).2 = .ok ∧
      tmGet (tmCreateNamed s id).1 id = some (0, []) ∧
      (tmCreateNamed s id).1.vecs = s.vecs ∧
      ∀ id', id' ≠ id → lookup (tmCreateNamed s id).1.mats id' = lookup s.mats id') := by
  constructor
  · intro h; unfold tmCreateNamed; rw [if_pos h]
  · intro h
    have h' : ¬ (lookup s.mats id).isSome = true := by rw [h]; simp
    unfold tmCreateNamed
    rw [if_neg h']
    refine ⟨rfl, ?_, rfl, fun id' hne => lookup_store_ne _ _ hne⟩
    rw [tmGet_eq]
    simp only [lookup_store_self, Option.map_some, mEntries_empty]

/-- `Create` with a server-chosen id behaves the same for the oracle value (a collision is a
    no-op to be retried, so a returned id is always new). -/
theorem create_fresh_oracle (s : GState K) (fresh : String) :
    tmCreateFresh s fresh = tmCreateNamed s fresh := rfl

/-- the same for vectors -/
theorem tv_create_fresh (s : GState K) (id : String) :
    ((lookup s.vecs id).isSome → tvCreateNamed s id = (s, .unknown)) ∧
    ((lookup s.vecs id) = none →
      (tvCreateNamed s id).2 = .ok ∧
      tvGet (tvCreateNamed s id).1 id = some (0, []) ∧
      (tvCreateNamed s id).1.mats = s.mats ∧
      ∀ id', id' ≠ id → lookup (tvCreateNamed s id).1.vecs id' = lookup s.vecs id') := by
  constructor
  · intro h; unfold tvCreateNamed; rw [if_pos h]
  · intro h
    have h' : ¬ (lookup s.vecs id).isSome = true := by rw [h]; simp
    unfold tvCreateNamed
    rw [if_neg h']
    refine ⟨rfl, ?_, rfl, fun id' hne => lookup_store_ne _ _ hne⟩
    rw [tvGet_eq]
    simp only [lookup_store_self, Option.map_some]
    rfl

/-- calls on an id that is not present report NotFound and change nothing -/
theorem unknown_id_not_found (s : GState K) (id : String) (h : lookup s.mats id = none)
    (ts : Nat) (es : List (MEntry K)) :
    tmGet s id = none ∧ tmUpdate s id ts es = (s, .notFound) ∧
    tmFlush s id = (s, .notFound) ∧ tmDelete s id = (s, .notFound) := by
  refine ⟨by rw [tmGet_eq, h]; rfl, by rw [tmUpdate_eq, h], by unfold tmFlush; rw [h], ?_⟩
  unfold tmDelete; rw [h]; rfl

theorem tv_unknown_id_not_found (s : GState K) (id : String) (h : lookup s.vecs id = none)
    (ts : Nat) (es : List (VEntry K)) :
    tvGet s id = none ∧ tvUpdate s id ts es = (s, .notFound) ∧
    tvFlush s id = (s, .notFound) ∧ tvDelete s id = (s, .notFound) := by
  refine ⟨by rw [tvGet_eq, h]; rfl, by rw [tvUpdate_eq, h], by unfold tvFlush; rw [h], ?_⟩
  unfold tvDelete; rw [h]; rfl

/-- the first entry that is not an integer literal makes the parse fail with `Unknown`, a
    negative index with `InvalidArgument` -/
theorem parse_error_codes (es : List (MEntry K)) (c : Code) (h : parseMEntries es = .error c) :
    (c = .unknown ∧ ∃ e ∈ es, e.truster = none ∨ e.trustee = none) ∨
    (c = .invalidArgument ∧ ∃ e ∈ es, ∃ i j : Int, e.truster = some i ∧ e.trustee = some j ∧
      (i < 0 ∨ j < 0)) := by
  induction es with
  | nil => simp [parseMEntries] at h
  | cons e es ih =>
    unfold parseMEntries at h
    split at h
    · cases h; exact Or.inl ⟨rfl, e, by simp, Or.inl (by assumption)⟩
    · split at h
      · cases h; exact Or.inl ⟨rfl, e, by simp, Or.inr (by assumption)⟩
      · rename_i _ i hi _ j hj
        split at h
        · rename_i hneg
          cases h
          refine Or.inr ⟨rfl, e, by simp, i, j, hi, hj, ?_⟩
          simpa only [Bool.or_eq_true, decide_eq_true_eq] using hneg
        · split at h
          · rename_i c' hc'
            cases h
            rcases ih hc' with ⟨h1, e', he', h2⟩ | ⟨h1, e', he', h2⟩
            · exact Or.inl ⟨h1, e', List.mem_cons_of_mem _ he', h2⟩
            · exact Or.inr ⟨h1, e', List.mem_cons_of_mem _ he', h2⟩
          · cases h

/-- an update whose entries fail to parse is refused with the parse error code and leaves the
    state unchanged -/
theorem invalid_update_unchanged (s : GState K) (id : String) (ts : Nat) (es : List (MEntry K))
    (c : Code) (h : parseMEntries es = .error c) :
    (tmUpdate s id ts es).1 = s ∧
    (tmUpdate s id ts es).2 = (if (lookup s.mats id).isSome then c else .notFound) := by
  rw [tmUpdate_eq]
  cases lookup s.mats id with
  | none => exact ⟨rfl, rfl⟩
  | some tm => simp [h]

theorem tv_invalid_update_unchanged (s : GState K) (id : String) (ts : Nat)
    (es : List (VEntry K)) (c : Code) (h : parseVEntries es = .error c) :
    (tvUpdate s id ts es).1 = s ∧
    (tvUpdate s id ts es).2 = (if (lookup s.vecs id).isSome then c else .notFound) := by
  rw [tvUpdate_eq]
  cases lookup s.vecs id with
  | none => exact ⟨rfl, rfl⟩
  | some tm => simp [h]

/-- one successful `Update`: the new timestamp is the maximum of the old one and the update's
    (across arbitrary calls: `ts_step_monotone`) -/
theorem ts_monotone (s : GState K) (id : String) (ts : Nat) (es : List (MEntry K))
    (h : (tmUpdate s id ts es).2 = .ok) :
    ∃ tm tm', lookup s.mats id = some tm ∧ lookup (tmUpdate s id ts es).1.mats id = some tm' ∧
      tm'.ts = max tm.ts ts ∧ tm.ts ≤ tm'.ts ∧ ts ≤ tm'.ts := by
  rw [tmUpdate_eq] at h ⊢
  cases hl : lookup s.mats id with
  | none => rw [hl] at h; cases h
  | some tm =>
    rw [hl] at h
    simp only at h ⊢
    cases hp : parseMEntries es with
    | error c => rw [hp] at h; simp only at h; exact absurd h (by
        intro hc; subst hc
        rcases parse_error_codes es _ hp with ⟨h1, _⟩ | ⟨h1, _⟩ <;> cases h1)
    | ok coos =>
      simp only
      refine ⟨tm, updM tm ts coos, rfl, lookup_store_self _ _ _, rfl, ?_, ?_⟩ <;>
        (show _ ≤ max tm.ts ts; omega)

theorem tv_ts_monotone (s : GState K) (id : String) (ts : Nat) (es : List (VEntry K))
    (tv : TV K) (hl : lookup s.vecs id = some tv) (coos : List (Entry K))
    (hp : parseVEntries es = .ok coos) :
    ∃ tv', lookup (tvUpdate s id ts es).1.vecs id = some tv' ∧
      tv'.ts = max tv.ts ts ∧ tv.ts ≤ tv'.ts ∧ ts ≤ tv'.ts := by
  rw [tvUpdate_eq, hl]
  simp only [hp]
  refine ⟨updV tv ts coos, lookup_store_self _ _ _, rfl, ?_, ?_⟩ <;>
    (show _ ≤ max tv.ts ts; omega)

/-! ## call histories of the TrustMatrix service -/

/-- one call of the TrustMatrix service (`Get` is an observation, not a call of the history) -/
inductive MCall (K : Type) where
  | createNamed (id : String)
  | createFresh (fresh : String)
  | update (id : String) (ts : Nat) (entries : List (MEntry K))
  | flush (id : String)
  | delete (id : String)

/-- state and response code after one call -/
def stepM (s : GState K) : MCall K → GState K × Code
  | .createNamed id => tmCreateNamed s id
  | .createFresh f => tmCreateFresh s f
  | .update id ts es => tmUpdate s id ts es
  | .flush id => tmFlush s id
  | .delete id => tmDelete s id

/-- the state after a history (response codes ignored) -/
def run (s : GState K) (h : List (MCall K)) : GState K := h.foldl (fun s c => (stepM s c).1) s

/-- the response codes of a history -/
def codes (s : GState K) : List (MCall K) → List Code
  | [] => []
  | c :: h => (stepM s c).2 :: codes (stepM s c).1 h

/-- a valid update batch: every index is a non-negative integer literal and the coordinates are
    pairwise distinct -/
def ValidBatch (es : List (MEntry K)) : Prop :=
  (∀ e ∈ es, ∃ i j : Nat, e.truster = some (i : Int) ∧ e.trustee = some (j : Int)) ∧
  (es.map fun e => (e.truster, e.trustee)).Nodup

/-- the weaker condition the theorems need: *if* the batch parses, its coordinates are distinct -/
def DistinctBatch (es : List (MEntry K)) : Prop :=
  ∀ coos, parseMEntries es = .ok coos → (coos.map fun e => (e.row, e.col)).Nodup

def MCall.Valid : MCall K → Prop
  | .update _ _ es => ValidBatch es
  | _ => True

def MCall.Distinct : MCall K → Prop
  | .update _ _ es => DistinctBatch es
  | _ => True

theorem parse_ok_eq (es : List (MEntry K)) (coos : List (Coo K))
    (h : parseMEntries es = .ok coos) :
    coos = es.map fun e => ⟨(e.truster.getD 0).toNat, (e.trustee.getD 0).toNat, e.value⟩ := by
  induction es generalizing coos with
  | nil => simp [parseMEntries] at h; subst h; rfl
  | cons e es ih =>
    unfold parseMEntries at h
    split at h
    · cases h
    · split at h
      · cases h
      · rename_i _ i hi _ j hj
        split at h
        · cases h
        · split at h
          · cases h
          · rename_i rest hr
            cases h
            rw [List.map_cons, ← ih rest hr, hi, hj]
            rfl

theorem validBatch_parses (es : List (MEntry K)) (h : ValidBatch es) :
    ∃ coos, parseMEntries es = .ok coos ∧ (coos.map fun e => (e.row, e.col)).Nodup := by
  obtain ⟨h1, h2⟩ := h
  have hp : ∃ coos, parseMEntries es = .ok coos := by
    clear h2
    induction es with
    | nil => exact ⟨[], rfl⟩
    | cons e es ih =>
      obtain ⟨i, j, hi, hj⟩ := h1 e (by simp)
      obtain ⟨rest, hr⟩ := ih (fun e' he' => h1 e' (by simp [he']))
      refine ⟨⟨i, j, e.value⟩ :: rest, ?_⟩
      unfold parseMEntries
      rw [hi, hj]
      simp only [hr]
      have : ¬ (((i : Int) < 0 || (j : Int) < 0) = true) := by
        simp only [Bool.or_eq_true, decide_eq_true_eq]; omega
      rw [if_neg this]
      simp
  obtain ⟨coos, hc⟩ := hp
  refine ⟨coos, hc, ?_⟩
  rw [parse_ok_eq es coos hc, List.map_map]
  have : (es.map fun e => (e.truster, e.trustee)).Nodup := h2
  rw [List.nodup_map_iff_inj_on (List.Nodup.of_map _ this)]
  have hinj := List.inj_on_of_nodup_map this
  intro a ha b hb hab
  apply hinj ha hb
  obtain ⟨i, j, hi, hj⟩ := h1 a ha
  obtain ⟨i', j', hi', hj'⟩ := h1 b hb
  simp only [Function.comp, hi, hj, hi', hj', Option.getD_some, Int.toNat_natCast,
    Prod.mk.injEq] at hab ⊢
  rw [hab.1, hab.2]; exact ⟨rfl, rfl⟩

theorem validBatch_distinct (es : List (MEntry K)) (h : ValidBatch es) : DistinctBatch es := by
  obtain ⟨coos, hc, hd⟩ := validBatch_parses es h
  intro coos' hc'
  rw [hc] at hc'
  cases hc'
  exact hd

theorem MCall.Valid.distinct {c : MCall K} (h : c.Valid) : c.Distinct := by
  cases c <;> first | trivial | exact validBatch_distinct _ h

/-! ### the specification, read off the history newest call first -/

/-- `id` is live: the most recent `Create`/`Delete` addressed to it is a `Create`
    (history given newest first) -/
def liveRev : List (MCall K) → String → Bool
  | [], _ => false
  | .createNamed i :: r, id => if i = id then true else liveRev r id
  | .createFresh i :: r, id => if i = id then true else liveRev r id
  | .delete i :: r, id => if i = id then false else liveRev r id
  | .update _ _ _ :: r, id => liveRev r id
  | .flush _ :: r, id => liveRev r id

/-- the successful updates `(timestamp, parsed batch)` to `id` since its last flush / creation,
    newest first (history given newest first).  An update is successful when the id is live at
    that moment and the batch parses. -/
def sinceRev : List (MCall K) → String → List (Nat × List (Coo K))
  | [], _ => []
  | .createNamed _ :: r, id => sinceRev r id
  | .createFresh _ :: r, id => sinceRev r id
  | .delete i :: r, id => if i = id then [] else sinceRev r id
  | .flush i :: r, id => if i = id then [] else sinceRev r id
  | .update i ts es :: r, id =>
    match parseMEntries es with
    | .ok coos => if i = id ∧ liveRev r id = true then (ts, coos) :: sinceRev r id else sinceRev r id
    | .error _ => sinceRev r id

/-- `id` is live after the history `h` (oldest call first): created, and not deleted after its
    last creation -/
def live (h : List (MCall K)) (id : String) : Bool := liveRev h.reverse id

/-- the successful updates to `id` since its last flush / creation, oldest first -/
def updatesSince (h : List (MCall K)) (id : String) : List (Nat × List (Coo K)) :=
  (sinceRev h.reverse id).reverse

/-- the last-writer-wins overlay: all entries of all those updates assigned in order to the
    zero matrix (a zero value erases) -/
def content (h : List (MCall K)) (id : String) : Nat → Nat → K :=
  ((updatesSince h id).map (·.2)).flatten.foldl C11.assign (fun _ _ => 0)

/-- the largest timestamp of those updates (0 if none) -/
def stamp (h : List (MCall K)) (id : String) : Nat :=
  ((updatesSince h id).map (·.1)).foldl max 0

/-! ### calls on other ids -/

def MCall.id : MCall K → String
  | .createNamed i | .createFresh i | .update i _ _ | .flush i | .delete i => i

theorem liveRev_cons_of_ne {c : MCall K} {id : String} (h : c.id ≠ id) (hr : List (MCall K)) :
    liveRev (c :: hr) id = liveRev hr id := by
  cases c with
  | createNamed i | createFresh i | delete i => exact if_neg h
  | update i ts es | flush i => rfl

theorem sinceRev_cons_of_ne {c : MCall K} {id : String} (h : c.id ≠ id) (hr : List (MCall K)) :
    sinceRev (c :: hr) id = sinceRev hr id := by
  cases c with
  | createNamed i | createFresh i => rfl
  | delete i | flush i => exact if_neg h
  | update i ts es =>
    rw [sinceRev]
    cases parseMEntries es with
    | error _ => rfl
    | ok coos => exact if_neg fun h' => h h'.1

theorem sinceRev_of_not_live (hr : List (MCall K)) (id : String) (h : liveRev hr id = false) :
    sinceRev hr id = [] := by
  induction hr with
  | nil => rfl
  | cons c hr ih =>
    by_cases hi : c.id = id
    · cases c with
      | createNamed i | createFresh i =>
        obtain rfl : i = id := hi
        rw [liveRev, if_pos rfl] at h
        cases h
      | delete i | flush i => obtain rfl : i = id := hi; exact if_pos rfl
      | update i ts es =>
        have h' : liveRev hr id = false := h
        rw [sinceRev]
        cases parseMEntries es with
        | error _ => exact ih h'
        | ok coos =>
          exact (if_neg fun hc : i = id ∧ liveRev hr id = true => by
            rw [h'] at hc; cases hc.2).trans (ih h')
    · rw [sinceRev_cons_of_ne hi]
      rw [liveRev_cons_of_ne hi] at h
      exact ih h

/-- the relation between the store and the specification at one id -/
def InvAt (s : GState K) (hr : List (MCall K)) (id : String) : Prop :=
  match lookup s.mats id with
  | none => liveRev hr id = false
  | some tm => liveRev hr id = true ∧ GoodM tm ∧
      tm.ts = ((sinceRev hr id).reverse.map (·.1)).foldl max 0 ∧
      denRows tm.m.rows =
        ((sinceRev hr id).reverse.map (·.2)).flatten.foldl C11.assign (fun _ _ => 0)

theorem InvAt.congr {s s' : GState K} {hr hr' : List (MCall K)} {id : String}
    (h : InvAt s hr id) (h1 : lookup s'.mats id = lookup s.mats id)
    (h2 : liveRev hr' id = liveRev hr id) (h3 : sinceRev hr' id = sinceRev hr id) :
    InvAt s' hr' id := by
  unfold InvAt at h ⊢
  rw [h1, h2, h3]; exact h

theorem InvAt.fresh {s' : GState K} {hr' : List (MCall K)} {id : String}
    (h1 : lookup s'.mats id = some ⟨CSM.empty, 0⟩) (h2 : liveRev hr' id = true)
    (h3 : sinceRev hr' id = []) : InvAt s' hr' id := by
  unfold InvAt
  rw [h1, h2, h3]
  exact ⟨rfl, goodM_empty 0, rfl, rfl⟩

theorem InvAt.live_of_some {s : GState K} {hr : List (MCall K)} {id : String} {tm : TM K}
    (h : InvAt s hr id) (hl : lookup s.mats id = some tm) : liveRev hr id = true := by
  unfold InvAt at h; rw [hl] at h; exact h.1

theorem InvAt.not_live_of_none {s : GState K} {hr : List (MCall K)} {id : String}
    (h : InvAt s hr id) (hl : lookup s.mats id = none) : liveRev hr id = false := by
  unfold InvAt at h; rw [hl] at h; exact h

theorem stepM_lookup_of_ne (s : GState K) {c : MCall K} {id : String} (h : c.id ≠ id) :
    lookup (stepM s c).1.mats id = lookup s.mats id := by
  have h' : id ≠ c.id := fun e => h e.symm
  cases c with
  | createNamed i | createFresh i =>
    show lookup (tmCreateNamed s i).1.mats id = _
    unfold tmCreateNamed
    split
    · rfl
    · exact lookup_store_ne _ _ h'
  | flush i =>
    show lookup (tmFlush s i).1.mats id = _
    unfold tmFlush
    split
    · rfl
    · exact lookup_store_ne _ _ h'
  | delete i =>
    show lookup (tmDelete s i).1.mats id = _
    unfold tmDelete
    split
    · exact (lookup_erase _ _ _).trans (if_neg h')
    · rfl
  | update i ts es =>
    show lookup (tmUpdate s i ts es).1.mats id = _
    rw [tmUpdate_eq]
    split
    · rfl
    · split
      · rfl
      · exact lookup_store_ne _ _ h'

theorem inv_step (s : GState K) (hr : List (MCall K)) (c : MCall K) (hd : c.Distinct)
    (h : ∀ id, InvAt s hr id) (id : String) : InvAt (stepM s c).1 (c :: hr) id := by
  by_cases hi : c.id = id
  swap
  · exact (h id).congr (stepM_lookup_of_ne s hi) (liveRev_cons_of_ne hi hr)
      (sinceRev_cons_of_ne hi hr)
  -- the call addresses `id` itself
  have hcreate : ∀ i, InvAt (tmCreateNamed s i).1 (.createNamed i :: hr) i ∧
      InvAt (tmCreateNamed s i).1 (.createFresh i :: hr) i := by
    intro i
    unfold tmCreateNamed
    cases hl : lookup s.mats i with
    | some tm =>
      have hlive := (h i).live_of_some hl
      constructor <;> exact (h i).congr rfl ((if_pos rfl).trans hlive.symm) rfl
    | none =>
      have hdead := sinceRev_of_not_live hr i ((h i).not_live_of_none hl)
      constructor <;> exact InvAt.fresh (lookup_store_self _ _ _) (if_pos rfl) hdead
  cases c with
  | createNamed i => obtain rfl : i = id := hi; exact (hcreate i).1
  | createFresh i => obtain rfl : i = id := hi; exact (hcreate i).2
  | flush i =>
    obtain rfl : i = id := hi
    show InvAt (tmFlush s i).1 _ i
    unfold tmFlush
    cases hl : lookup s.mats i with
    | none =>
      have hdead := sinceRev_of_not_live hr i ((h i).not_live_of_none hl)
      exact (h i).congr rfl rfl (by rw [hdead]; exact if_pos rfl)
    | some tm => exact InvAt.fresh (lookup_store_self _ _ _) ((h i).live_of_some hl) (if_pos rfl)
  | delete i =>
    obtain rfl : i = id := hi
    show InvAt (tmDelete s i).1 _ i
    unfold tmDelete
    cases hl : lookup s.mats i with
    | none =>
      have hnl := (h i).not_live_of_none hl
      exact (h i).congr rfl (by rw [hnl]; exact if_pos rfl)
        (by rw [sinceRev_of_not_live hr i hnl]; exact if_pos rfl)
    | some tm =>
      unfold InvAt
      simp only [Option.isSome_some, if_true]
      rw [lookup_erase, if_pos rfl]
      exact if_pos rfl
  | update i ts es =>
    obtain rfl : i = id := hi
    show InvAt (tmUpdate s i ts es).1 _ i
    rw [tmUpdate_eq]
    cases hl : lookup s.mats i with
    | none =>
      have hnl := (h i).not_live_of_none hl
      show InvAt s _ i
      refine (h i).congr rfl rfl ?_
      rw [sinceRev]
      cases parseMEntries es with
      | error _ => rfl
      | ok coos => exact if_neg fun h' => by rw [hnl] at h'; cases h'.2
    | some tm =>
      cases hp : parseMEntries es with
      | error e =>
        show InvAt s _ i
        exact (h i).congr rfl rfl (by rw [sinceRev, hp])
      | ok coos =>
        have hI := h i
        unfold InvAt at hI ⊢
        rw [hl] at hI
        obtain ⟨h1, h2, h3, h4⟩ := hI
        simp only
        rw [lookup_store_self]
        obtain ⟨g1, g2⟩ := updM_good h2 ts (hd coos hp)
        have hs : sinceRev (.update i ts es :: hr) i = (ts, coos) :: sinceRev hr i := by
          rw [sinceRev, hp]; exact if_pos ⟨rfl, h1⟩
        rw [hs, List.reverse_cons, List.map_append, List.map_append, List.flatten_append,
          List.foldl_append, List.foldl_append, ← h3, ← h4]
        exact ⟨h1, g1, rfl, by simpa using g2⟩

/-- the store invariant: after any history from the empty state the store and the specification
    agree at every id; in particular every stored matrix is well-formed, square and has a clean
    hidden part -/
theorem run_invariant (h : List (MCall K)) (hd : ∀ c ∈ h, c.Distinct) (id : String) :
    match lookup (run {} h).mats id with
    | none => live h id = false
    | some tm => live h id = true ∧ GoodM tm ∧ tm.ts = stamp h id ∧
        denRows tm.m.rows = content h id := by
  have key : ∀ id, InvAt (run ({} : GState K) h) h.reverse id := by
    induction h using List.reverseRecOn with
    | nil => intro id; exact (rfl : liveRev ([] : List (MCall K)) id = false)
    | append_singleton h c ih =>
      intro id
      have hrun : run ({} : GState K) (h ++ [c]) = (stepM (run {} h) c).1 := by
        unfold run; rw [List.foldl_append]; rfl
      rw [hrun, List.reverse_append, List.reverse_singleton, List.singleton_append]
      exact inv_step _ _ c (hd c (by simp))
        (ih (fun c' hc' => hd c' (by simp [hc']))) id
  exact key id

/-! ### the property theorems -/

/-- **Get.**  For every history of calls with valid update batches, from the empty state:
    `Get id` reports NotFound iff the id is not live; otherwise it streams exactly the non-zero
    cells of the last-writer-wins overlay of all successful updates since the last flush /
    creation, sorted by (row, column), without duplicate coordinates. -/
theorem get_spec (h : List (MCall K)) (hd : ∀ c ∈ h, c.Distinct) (id : String) :
    (tmGet (run {} h) id = none ↔ live h id = false) ∧
    ∀ ts es, tmGet (run {} h) id = some (ts, es) →
      live h id = true ∧
      (∀ i j v, (i, j, v) ∈ es ↔ v ≠ 0 ∧ v = content h id i j) ∧
      es.Pairwise coordLt ∧ (es.map fun x => (x.1, x.2.1)).Nodup := by
  have hI := run_invariant h hd id
  rw [tmGet_eq]
  cases hl : lookup (run ({} : GState K) h).mats id with
  | none =>
    rw [hl] at hI
    simp only at hI
    exact ⟨⟨fun _ => hI, fun _ => rfl⟩, fun ts es he => by cases he⟩
  | some tm =>
    rw [hl] at hI
    obtain ⟨h1, h2, h3, h4⟩ := hI
    refine ⟨⟨fun he => (by cases he), fun he => (by rw [h1] at he; cases he)⟩, ?_⟩
    intro ts es he
    simp only [Option.map_some, Option.some.injEq, Prod.mk.injEq] at he
    obtain ⟨_, rfl⟩ := he
    refine ⟨h1, fun i j v => ?_, mEntries_pairwise h2.1, coordLt_nodup (mEntries_pairwise h2.1)⟩
    rw [mem_mEntries h2.1, h4]

/-- the same under the stronger, syntactic validity condition -/
theorem get_spec_valid (h : List (MCall K)) (hv : ∀ c ∈ h, c.Valid) (id : String) :
    (tmGet (run {} h) id = none ↔ live h id = false) ∧
    ∀ ts es, tmGet (run {} h) id = some (ts, es) →
      live h id = true ∧
      (∀ i j v, (i, j, v) ∈ es ↔ v ≠ 0 ∧ v = content h id i j) ∧
      es.Pairwise coordLt ∧ (es.map fun x => (x.1, x.2.1)).Nodup :=
  get_spec h (fun c hc => (hv c hc).distinct) id

/-- **Timestamp.**  The header timestamp is the maximum of the timestamps of the successful
    updates since the last flush / creation (0 if none). -/
theorem ts_spec (h : List (MCall K)) (hd : ∀ c ∈ h, c.Distinct) (id : String) (ts : Nat)
    (es : List (Nat × Nat × K)) (hg : tmGet (run {} h) id = some (ts, es)) :
    ts = stamp h id := by
  have hI := run_invariant h hd id
  rw [tmGet_eq] at hg
  cases hl : lookup (run ({} : GState K) h).mats id with
  | none => rw [hl] at hg; cases hg
  | some tm =>
    rw [hl] at hI hg
    simp only [Option.map_some, Option.some.injEq, Prod.mk.injEq] at hg
    rw [← hg.1]; exact hI.2.2.1

/-- every stored matrix is well-formed, square, with a clean hidden part -/
theorem stored_good (h : List (MCall K)) (hd : ∀ c ∈ h, c.Distinct) (id : String) (tm : TM K)
    (hl : lookup (run {} h).mats id = some tm) :
    WFM tm.m ∧ HiddenClean tm.m ∧ tm.m.major = tm.m.minor := by
  have hI := run_invariant h hd id
  rw [hl] at hI
  exact hI.2.1

/-- **Response codes.**  The code of a call `c` issued after the history `h`: creating a live id
    is refused (`Unknown`), so a successful `Create` always introduces a new id; every other call
    on an id that is not live reports NotFound; an update of a live id reports its parse error, if
    any. -/
def expectedCode (h : List (MCall K)) : MCall K → Code
  | .createNamed i => if live h i then .unknown else .ok
  | .createFresh i => if live h i then .unknown else .ok
  | .update i _ es =>
    if live h i then (match parseMEntries es with | .ok _ => .ok | .error c => c) else .notFound
  | .flush i => if live h i then .ok else .notFound
  | .delete i => if live h i then .ok else .notFound

theorem isSome_lookup_run (h : List (MCall K)) (hd : ∀ c ∈ h, c.Distinct) (id : String) :
    (lookup (run ({} : GState K) h).mats id).isSome = live h id := by
  have hI := run_invariant h hd id
  cases hl : lookup (run ({} : GState K) h).mats id with
  | none => rw [hl] at hI; exact hI.symm
  | some tm => rw [hl] at hI; exact hI.1.symm

theorem code_spec (h : List (MCall K)) (hd : ∀ c ∈ h, c.Distinct) (c : MCall K) :
    (stepM (run {} h) c).2 = expectedCode h c := by
  cases c with
  | createNamed i | createFresh i =>
    show (tmCreateNamed (run {} h) i).2 = if live h i then .unknown else .ok
    rw [← isSome_lookup_run h hd i]
    unfold tmCreateNamed
    cases lookup (run ({} : GState K) h).mats i <;> rfl
  | flush i =>
    show (tmFlush (run {} h) i).2 = if live h i then .ok else .notFound
    rw [← isSome_lookup_run h hd i]
    unfold tmFlush
    cases lookup (run ({} : GState K) h).mats i <;> rfl
  | delete i =>
    show (tmDelete (run {} h) i).2 = if live h i then .ok else .notFound
    rw [← isSome_lookup_run h hd i]
    unfold tmDelete
    cases lookup (run ({} : GState K) h).mats i <;> rfl
  | update i ts es =>
    show (tmUpdate (run {} h) i ts es).2 =
      if live h i then (match parseMEntries es with | .ok _ => .ok | .error c => c) else .notFound
    rw [← isSome_lookup_run h hd i, tmUpdate_eq]
    cases lookup (run ({} : GState K) h).mats i with
    | none => rfl
    | some tm => cases parseMEntries es <;> rfl

theorem split_cons_iff {α : Type} (P Q : α → Prop) (a : α) (l : List α) :
    (∃ r1 c r2, a :: l = r1 ++ c :: r2 ∧ P c ∧ ∀ c' ∈ r1, Q c') ↔
      P a ∨ (Q a ∧ ∃ r1 c r2, l = r1 ++ c :: r2 ∧ P c ∧ ∀ c' ∈ r1, Q c') := by
  constructor
  · rintro ⟨r1, c, r2, he, hc, hn⟩
    cases r1 with
    | nil => exact Or.inl ((List.cons.inj he).1 ▸ hc)
    | cons b r1 =>
      obtain ⟨rfl, he'⟩ := List.cons.inj he
      exact Or.inr ⟨hn _ List.mem_cons_self, r1, c, r2, he', hc,
        fun c' hc' => hn c' (List.mem_cons_of_mem _ hc')⟩
  · rintro (ha | ⟨ha, r1, c, r2, rfl, hc, hn⟩)
    · exact ⟨[], a, l, rfl, ha, fun _ h => nomatch h⟩
    · refine ⟨a :: r1, c, r2, rfl, hc, fun c' hc' => ?_⟩
      rcases List.mem_cons.mp hc' with rfl | hc'
      · exact ha
      · exact hn c' hc'

theorem liveRev_iff (hr : List (MCall K)) (id : String) :
    liveRev hr id = true ↔
      ∃ r1 c r2, hr = r1 ++ c :: r2 ∧ (c = .createNamed id ∨ c = .createFresh id) ∧
        ∀ c' ∈ r1, c' ≠ .delete id := by
  induction hr with
  | nil =>
    exact ⟨fun h => (nomatch h),
      fun ⟨r1, c, r2, he, _⟩ => (nomatch (List.nil_eq_append_iff.mp he).2)⟩
  | cons a hr ih =>
    refine Iff.trans ?_ (split_cons_iff
      (fun c : MCall K => c = .createNamed id ∨ c = .createFresh id) (· ≠ .delete id) a hr).symm
    rw [← ih]
    cases a with
    | createNamed i | createFresh i | delete i =>
      by_cases hi : i = id <;>
        simp only [liveRev, hi, if_true, if_false, MCall.createNamed.injEq, MCall.createFresh.injEq,
          MCall.delete.injEq, reduceCtorEq, ne_eq, not_false_eq_true, not_true_eq_false, true_and,
          false_and, or_false, false_or, true_or, Bool.false_eq_true]
    | update i ts es | flush i =>
      simp only [liveRev, reduceCtorEq, ne_eq, not_false_eq_true, true_and, or_false, false_or]

/-- **Liveness, declaratively.**  An id is live after `h` iff `h = h1 ++ c :: h2` where `c`
    creates the id and no call of `h2` deletes it ("created, and not deleted after its last
    creation"). -/
theorem live_iff (h : List (MCall K)) (id : String) :
    live h id = true ↔
      ∃ h1 c h2, h = h1 ++ c :: h2 ∧ (c = .createNamed id ∨ c = .createFresh id) ∧
        ∀ c' ∈ h2, c' ≠ .delete id := by
  unfold live
  rw [liveRev_iff]
  constructor
  · rintro ⟨r1, c, r2, he, hc, hn⟩
    refine ⟨r2.reverse, c, r1.reverse, ?_, hc, fun c' hc' => hn c' (List.mem_reverse.mp hc')⟩
    have := congrArg List.reverse he
    simpa using this
  · rintro ⟨h1, c, h2, he, hc, hn⟩
    refine ⟨h2.reverse, c, h1.reverse, ?_, hc, fun c' hc' => hn c' (List.mem_reverse.mp hc')⟩
    rw [he]; simp

/-- **The timestamp never moves backwards.**  Across any single call other than `Flush id`, as
    long as the id stays present, its timestamp does not decrease (only `Flush` — and `Delete`
    followed by `Create` — reset it to 0). -/
theorem ts_step_monotone (s : GState K) (c : MCall K) (id : String) (tm tm' : TM K)
    (hl : lookup s.mats id = some tm) (hl' : lookup (stepM s c).1.mats id = some tm')
    (hc : c ≠ .flush id) : tm.ts ≤ tm'.ts := by
  have same : lookup (stepM s c).1.mats id = lookup s.mats id → tm.ts ≤ tm'.ts := by
    intro h; rw [h, hl] at hl'; cases hl'; exact Nat.le_refl _
  by_cases hi : c.id = id
  swap
  · exact same (stepM_lookup_of_ne s hi)
  cases c with
  | createNamed i | createFresh i =>
    obtain rfl : i = id := hi
    apply same
    show lookup (tmCreateNamed s i).1.mats i = _
    unfold tmCreateNamed
    rw [if_pos (by rw [hl]; rfl)]
  | flush i => obtain rfl : i = id := hi; exact absurd rfl hc
  | delete i =>
    obtain rfl : i = id := hi
    have : lookup (tmDelete s i).1.mats i = none := by
      unfold tmDelete
      rw [hl]
      exact (lookup_erase _ _ _).trans (if_pos rfl)
    rw [show (stepM s (.delete i)) = tmDelete s i from rfl, this] at hl'
    cases hl'
  | update i ts es =>
    obtain rfl : i = id := hi
    rw [show (stepM s (.update i ts es)) = tmUpdate s i ts es from rfl, tmUpdate_eq, hl] at hl'
    cases hp : parseMEntries es with
    | error e =>
      rw [hp] at hl'
      cases hl.symm.trans (show lookup s.mats i = some tm' from hl')
      exact Nat.le_refl _
    | ok coos =>
      rw [hp] at hl'
      simp only at hl'
      rw [lookup_store_self] at hl'
      cases hl'
      exact Nat.le_max_left _ _

/-! ## call histories of the TrustVector service -/

inductive VCall (K : Type) where
  | createNamed (id : String)
  | update (id : String) (ts : Nat) (entries : List (VEntry K))
  | flush (id : String)
  | delete (id : String)

def stepV (s : GState K) : VCall K → GState K × Code
  | .createNamed id => tvCreateNamed s id
  | .update id ts es => tvUpdate s id ts es
  | .flush id => tvFlush s id
  | .delete id => tvDelete s id

def runV (s : GState K) (h : List (VCall K)) : GState K := h.foldl (fun s c => (stepV s c).1) s

def codesV (s : GState K) : List (VCall K) → List Code
  | [] => []
  | c :: h => (stepV s c).2 :: codesV (stepV s c).1 h

/-- a valid vector batch: distinct non-negative integer indices -/
def ValidVBatch (es : List (VEntry K)) : Prop :=
  (∀ e ∈ es, ∃ i : Nat, e.trustee = some (i : Int)) ∧ (es.map (·.trustee)).Nodup

def DistinctVBatch (es : List (VEntry K)) : Prop :=
  ∀ es', parseVEntries es = .ok es' → (es'.map (·.idx)).Nodup

def VCall.Valid : VCall K → Prop
  | .update _ _ es => ValidVBatch es
  | _ => True

def VCall.Distinct : VCall K → Prop
  | .update _ _ es => DistinctVBatch es
  | _ => True

theorem parseV_ok_eq (es : List (VEntry K)) (es' : List (Entry K))
    (h : parseVEntries es = .ok es') :
    es' = es.map fun e => ⟨(e.trustee.getD 0).toNat, e.value⟩ := by
  induction es generalizing es' with
  | nil => simp [parseVEntries] at h; subst h; rfl
  | cons e es ih =>
    unfold parseVEntries at h
    split at h
    · cases h
    · rename_i _ i hi
      split at h
      · cases h
      · split at h
        · cases h
        · rename_i rest hr
          cases h
          rw [List.map_cons, ← ih rest hr, hi]
          rfl

theorem validVBatch_parses (es : List (VEntry K)) (h : ValidVBatch es) :
    ∃ es', parseVEntries es = .ok es' ∧ (es'.map (·.idx)).Nodup := by
  obtain ⟨h1, h2⟩ := h
  have hp : ∃ es', parseVEntries es = .ok es' := by
    clear h2
    induction es with
    | nil => exact ⟨[], rfl⟩
    | cons e es ih =>
      obtain ⟨i, hi⟩ := h1 e (by simp)
      obtain ⟨rest, hr⟩ := ih (fun e' he' => h1 e' (by simp [he']))
      refine ⟨⟨i, e.value⟩ :: rest, ?_⟩
      unfold parseVEntries
      rw [hi]
      simp only [hr]
      have : ¬ ((i : Int) < 0) := by omega
      rw [if_neg this]
      simp
  obtain ⟨es', hc⟩ := hp
  refine ⟨es', hc, ?_⟩
  rw [parseV_ok_eq es es' hc, List.map_map]
  rw [List.nodup_map_iff_inj_on (List.Nodup.of_map _ h2)]
  have hinj := List.inj_on_of_nodup_map h2
  intro a ha b hb hab
  apply hinj ha hb
  obtain ⟨i, hi⟩ := h1 a ha
  obtain ⟨i', hi'⟩ := h1 b hb
  simp only [Function.comp, hi, hi', Option.getD_some, Int.toNat_natCast] at hab ⊢
  rw [hab]

theorem validVBatch_distinct (es : List (VEntry K)) (h : ValidVBatch es) : DistinctVBatch es := by
  obtain ⟨es', hc, hd⟩ := validVBatch_parses es h
  intro es'' hc'
  rw [hc] at hc'
  cases hc'
  exact hd

theorem VCall.Valid.distinct {c : VCall K} (h : c.Valid) : c.Distinct := by
  cases c <;> first | trivial | exact validVBatch_distinct _ h

def vLiveRev : List (VCall K) → String → Bool
  | [], _ => false
  | .createNamed i :: r, id => if i = id then true else vLiveRev r id
  | .delete i :: r, id => if i = id then false else vLiveRev r id
  | .update _ _ _ :: r, id => vLiveRev r id
  | .flush _ :: r, id => vLiveRev r id

def vSinceRev : List (VCall K) → String → List (Nat × List (Entry K))
  | [], _ => []
  | .createNamed _ :: r, id => vSinceRev r id
  | .delete i :: r, id => if i = id then [] else vSinceRev r id
  | .flush i :: r, id => if i = id then [] else vSinceRev r id
  | .update i ts es :: r, id =>
    match parseVEntries es with
    | .ok es' =>
      if i = id ∧ vLiveRev r id = true then (ts, es') :: vSinceRev r id else vSinceRev r id
    | .error _ => vSinceRev r id

/-- `id` is live after the history `h` (oldest call first) -/
def vLive (h : List (VCall K)) (id : String) : Bool := vLiveRev h.reverse id

/-- the successful updates to `id` since its last flush / creation, oldest first -/
def vUpdatesSince (h : List (VCall K)) (id : String) : List (Nat × List (Entry K)) :=
  (vSinceRev h.reverse id).reverse

/-- the last-writer-wins overlay of those updates on the zero vector -/
def vContent (h : List (VCall K)) (id : String) : Nat → K :=
  ((vUpdatesSince h id).map (·.2)).flatten.foldl assignV (fun _ => 0)

/-- the largest timestamp of those updates (0 if none) -/
def vStamp (h : List (VCall K)) (id : String) : Nat :=
  ((vUpdatesSince h id).map (·.1)).foldl max 0

def VCall.id : VCall K → String
  | .createNamed i | .update i _ _ | .flush i | .delete i => i

theorem vLiveRev_cons_of_ne {c : VCall K} {id : String} (h : c.id ≠ id) (hr : List (VCall K)) :
    vLiveRev (c :: hr) id = vLiveRev hr id := by
  cases c with
  | createNamed i | delete i => exact if_neg h
  | update i ts es | flush i => rfl

theorem vSinceRev_cons_of_ne {c : VCall K} {id : String} (h : c.id ≠ id) (hr : List (VCall K)) :
    vSinceRev (c :: hr) id = vSinceRev hr id := by
  cases c with
  | createNamed i => rfl
  | delete i | flush i => exact if_neg h
  | update i ts es =>
    rw [vSinceRev]
    cases parseVEntries es with
    | error _ => rfl
    | ok es' => exact if_neg fun h' => h h'.1

theorem vSinceRev_of_not_live (hr : List (VCall K)) (id : String) (h : vLiveRev hr id = false) :
    vSinceRev hr id = [] := by
  induction hr with
  | nil => rfl
  | cons c hr ih =>
    by_cases hi : c.id = id
    · cases c with
      | createNamed i =>
        obtain rfl : i = id := hi
        rw [vLiveRev, if_pos rfl] at h
        cases h
      | delete i | flush i => obtain rfl : i = id := hi; exact if_pos rfl
      | update i ts es =>
        have h' : vLiveRev hr id = false := h
        rw [vSinceRev]
        cases parseVEntries es with
        | error _ => exact ih h'
        | ok coos =>
          exact (if_neg fun hc : i = id ∧ vLiveRev hr id = true => by
            rw [h'] at hc; cases hc.2).trans (ih h')
    · rw [vSinceRev_cons_of_ne hi]
      rw [vLiveRev_cons_of_ne hi] at h
      exact ih h

def VInvAt (s : GState K) (hr : List (VCall K)) (id : String) : Prop :=
  match lookup s.vecs id with
  | none => vLiveRev hr id = false
  | some tv => vLiveRev hr id = true ∧ GoodV tv ∧
      tv.ts = ((vSinceRev hr id).reverse.map (·.1)).foldl max 0 ∧
      denE tv.v.entries =
        ((vSinceRev hr id).reverse.map (·.2)).flatten.foldl assignV (fun _ => 0)

theorem VInvAt.congr {s s' : GState K} {hr hr' : List (VCall K)} {id : String}
    (h : VInvAt s hr id) (h1 : lookup s'.vecs id = lookup s.vecs id)
    (h2 : vLiveRev hr' id = vLiveRev hr id) (h3 : vSinceRev hr' id = vSinceRev hr id) :
    VInvAt s' hr' id := by
  unfold VInvAt at h ⊢
  rw [h1, h2, h3]; exact h

theorem VInvAt.fresh {s' : GState K} {hr' : List (VCall K)} {id : String}
    (h1 : lookup s'.vecs id = some ⟨⟨0, []⟩, 0⟩) (h2 : vLiveRev hr' id = true)
    (h3 : vSinceRev hr' id = []) : VInvAt s' hr' id := by
  unfold VInvAt
  rw [h1, h2, h3]
  exact ⟨rfl, goodV_empty 0, rfl, rfl⟩

theorem VInvAt.live_of_some {s : GState K} {hr : List (VCall K)} {id : String} {tv : TV K}
    (h : VInvAt s hr id) (hl : lookup s.vecs id = some tv) : vLiveRev hr id = true := by
  unfold VInvAt at h; rw [hl] at h; exact h.1

theorem VInvAt.not_live_of_none {s : GState K} {hr : List (VCall K)} {id : String}
    (h : VInvAt s hr id) (hl : lookup s.vecs id = none) : vLiveRev hr id = false := by
  unfold VInvAt at h; rw [hl] at h; exact h

theorem stepV_lookup_of_ne (s : GState K) {c : VCall K} {id : String} (h : c.id ≠ id) :
    lookup (stepV s c).1.vecs id = lookup s.vecs id := by
  have h' : id ≠ c.id := fun e => h e.symm
  cases c with
  | createNamed i =>
    show lookup (tvCreateNamed s i).1.vecs id = _
    unfold tvCreateNamed
    split
    · rfl
    · exact lookup_store_ne _ _ h'
  | flush i =>
    show lookup (tvFlush s i).1.vecs id = _
    unfold tvFlush
    split
    · rfl
    · exact lookup_store_ne _ _ h'
  | delete i =>
    show lookup (tvDelete s i).1.vecs id = _
    unfold tvDelete
    split
    · exact (lookup_erase _ _ _).trans (if_neg h')
    · rfl
  | update i ts es =>
    show lookup (tvUpdate s i ts es).1.vecs id = _
    rw [tvUpdate_eq]
    split
    · rfl
    · split
      · rfl
      · exact lookup_store_ne _ _ h'

theorem vinv_step (s : GState K) (hr : List (VCall K)) (c : VCall K) (hd : c.Distinct)
    (h : ∀ id, VInvAt s hr id) (id : String) : VInvAt (stepV s c).1 (c :: hr) id := by
  by_cases hi : c.id = id
  swap
  · exact (h id).congr (stepV_lookup_of_ne s hi) (vLiveRev_cons_of_ne hi hr)
      (vSinceRev_cons_of_ne hi hr)
  -- the call addresses `id` itself
  cases c with
  | createNamed i =>
    obtain rfl : i = id := hi
    show VInvAt (tvCreateNamed s i).1 _ i
    unfold tvCreateNamed
    cases hl : lookup s.vecs i with
    | some tv => exact (h i).congr rfl ((if_pos rfl).trans ((h i).live_of_some hl).symm) rfl
    | none =>
      exact VInvAt.fresh (lookup_store_self _ _ _) (if_pos rfl)
        (vSinceRev_of_not_live hr i ((h i).not_live_of_none hl))
  | flush i =>
    obtain rfl : i = id := hi
    show VInvAt (tvFlush s i).1 _ i
    unfold tvFlush
    cases hl : lookup s.vecs i with
    | none =>
      have hdead := vSinceRev_of_not_live hr i ((h i).not_live_of_none hl)
      exact (h i).congr rfl rfl (by rw [hdead]; exact if_pos rfl)
    | some tv => exact VInvAt.fresh (lookup_store_self _ _ _) ((h i).live_of_some hl) (if_pos rfl)
  | delete i =>
    obtain rfl : i = id := hi
    show VInvAt (tvDelete s i).1 _ i
    unfold tvDelete
    cases hl : lookup s.vecs i with
    | none =>
      have hnl := (h i).not_live_of_none hl
      exact (h i).congr rfl (by rw [hnl]; exact if_pos rfl)
        (by rw [vSinceRev_of_not_live hr i hnl]; exact if_pos rfl)
    | some tv =>
      unfold VInvAt
      simp only [Option.isSome_some, if_true]
      rw [lookup_erase, if_pos rfl]
      exact if_pos rfl
  | update i ts es =>
    obtain rfl : i = id := hi
    show VInvAt (tvUpdate s i ts es).1 _ i
    rw [tvUpdate_eq]
    cases hl : lookup s.vecs i with
    | none =>
      have hnl := (h i).not_live_of_none hl
      show VInvAt s _ i
      refine (h i).congr rfl rfl ?_
      rw [vSinceRev]
      cases parseVEntries es with
      | error _ => rfl
      | ok es' => exact if_neg fun h' => by rw [hnl] at h'; cases h'.2
    | some tv =>
      cases hp : parseVEntries es with
      | error e =>
        show VInvAt s _ i
        exact (h i).congr rfl rfl (by rw [vSinceRev, hp])
      | ok es' =>
        have hI := h i
        unfold VInvAt at hI ⊢
        rw [hl] at hI
        obtain ⟨h1, h2, h3, h4⟩ := hI
        simp only
        rw [lookup_store_self]
        obtain ⟨g1, g2⟩ := updV_good h2 ts (hd es' hp)
        have hs : vSinceRev (.update i ts es :: hr) i = (ts, es') :: vSinceRev hr i := by
          rw [vSinceRev, hp]; exact if_pos ⟨rfl, h1⟩
        rw [hs, List.reverse_cons, List.map_append, List.map_append, List.flatten_append,
          List.foldl_append, List.foldl_append, ← h3, ← h4]
        exact ⟨h1, g1, rfl, by simpa using g2⟩

/-- the vector timestamp never moves backwards either: across any single call other than
    `Flush id`, as long as the id stays present -/
theorem tv_ts_step_monotone (s : GState K) (c : VCall K) (id : String) (tv tv' : TV K)
    (hl : lookup s.vecs id = some tv) (hl' : lookup (stepV s c).1.vecs id = some tv')
    (hc : c ≠ .flush id) : tv.ts ≤ tv'.ts := by
  have same : lookup (stepV s c).1.vecs id = lookup s.vecs id → tv.ts ≤ tv'.ts := by
    intro h; rw [h, hl] at hl'; cases hl'; exact Nat.le_refl _
  by_cases hi : c.id = id
  swap
  · exact same (stepV_lookup_of_ne s hi)
  cases c with
  | createNamed i =>
    obtain rfl : i = id := hi
    apply same
    show lookup (tvCreateNamed s i).1.vecs i = _
    unfold tvCreateNamed
    rw [if_pos (by rw [hl]; rfl)]
  | flush i => obtain rfl : i = id := hi; exact absurd rfl hc
  | delete i =>
    obtain rfl : i = id := hi
    have : lookup (tvDelete s i).1.vecs i = none := by
      unfold tvDelete
      rw [hl]
      exact (lookup_erase _ _ _).trans (if_pos rfl)
    rw [show (stepV s (.delete i)) = tvDelete s i from rfl, this] at hl'
    cases hl'
  | update i ts es =>
    obtain rfl : i = id := hi
    rw [show (stepV s (.update i ts es)) = tvUpdate s i ts es from rfl, tvUpdate_eq, hl] at hl'
    cases hp : parseVEntries es with
    | error e =>
      rw [hp] at hl'
      cases hl.symm.trans (show lookup s.vecs i = some tv' from hl')
      exact Nat.le_refl _
    | ok coos =>
      rw [hp] at hl'
      simp only at hl'
      rw [lookup_store_self] at hl'
      cases hl'
      exact Nat.le_max_left _ _

/-- the store invariant for vectors -/
theorem tv_run_invariant (h : List (VCall K)) (hd : ∀ c ∈ h, c.Distinct) (id : String) :
    match lookup (runV {} h).vecs id with
    | none => vLive h id = false
    | some tv => vLive h id = true ∧ GoodV tv ∧ tv.ts = vStamp h id ∧
        denE tv.v.entries = vContent h id := by
  have key : ∀ id, VInvAt (runV ({} : GState K) h) h.reverse id := by
    induction h using List.reverseRecOn with
    | nil => intro id; exact (rfl : vLiveRev ([] : List (VCall K)) id = false)
    | append_singleton h c ih =>
      intro id
      have hrun : runV ({} : GState K) (h ++ [c]) = (stepV (runV {} h) c).1 := by
        unfold runV; rw [List.foldl_append]; rfl
      rw [hrun, List.reverse_append, List.reverse_singleton, List.singleton_append]
      exact vinv_step _ _ c (hd c (by simp))
        (ih (fun c' hc' => hd c' (by simp [hc']))) id
  exact key id

/-- **Get (vectors).**  NotFound iff the id is not live; otherwise exactly the non-zero entries
    of the last-writer-wins overlay of the successful updates since the last flush / creation, in
    strictly increasing index order. -/
theorem tv_get_spec (h : List (VCall K)) (hd : ∀ c ∈ h, c.Distinct) (id : String) :
    (tvGet (runV {} h) id = none ↔ vLive h id = false) ∧
    ∀ ts es, tvGet (runV {} h) id = some (ts, es) →
      vLive h id = true ∧
      (∀ i x, (i, x) ∈ es ↔ x ≠ 0 ∧ x = vContent h id i) ∧
      es.Pairwise (fun a b => a.1 < b.1) := by
  have hI := tv_run_invariant h hd id
  rw [tvGet_eq]
  cases hl : lookup (runV ({} : GState K) h).vecs id with
  | none =>
    rw [hl] at hI
    simp only at hI
    exact ⟨⟨fun _ => hI, fun _ => rfl⟩, fun ts es he => by cases he⟩
  | some tv =>
    rw [hl] at hI
    obtain ⟨h1, h2, h3, h4⟩ := hI
    refine ⟨⟨fun he => (by cases he), fun he => (by rw [h1] at he; cases he)⟩, ?_⟩
    intro ts es he
    simp only [Option.map_some, Option.some.injEq, Prod.mk.injEq] at he
    obtain ⟨_, rfl⟩ := he
    refine ⟨h1, fun i x => ?_, vEntries_pairwise h2.1⟩
    rw [mem_vEntries h2.1, h4]

/-- **Timestamp (vectors).**  As `ts_spec`. -/
theorem tv_ts_spec (h : List (VCall K)) (hd : ∀ c ∈ h, c.Distinct) (id : String) (ts : Nat)
    (es : List (Nat × K)) (hg : tvGet (runV {} h) id = some (ts, es)) :
    ts = vStamp h id := by
  have hI := tv_run_invariant h hd id
  rw [tvGet_eq] at hg
  cases hl : lookup (runV ({} : GState K) h).vecs id with
  | none => rw [hl] at hg; cases hg
  | some tv =>
    rw [hl] at hI hg
    simp only [Option.map_some, Option.some.injEq, Prod.mk.injEq] at hg
    rw [← hg.1]; exact hI.2.2.1

/-- every stored vector is well-formed -/
theorem tv_stored_good (h : List (VCall K)) (hd : ∀ c ∈ h, c.Distinct) (id : String) (tv : TV K)
    (hl : lookup (runV {} h).vecs id = some tv) : WF tv.v.dim tv.v.entries := by
  have hI := tv_run_invariant h hd id
  rw [hl] at hI
  exact hI.2.1

def expectedCodeV (h : List (VCall K)) : VCall K → Code
  | .createNamed i => if vLive h i then .unknown else .ok
  | .update i _ es =>
    if vLive h i then (match parseVEntries es with | .ok _ => .ok | .error c => c) else .notFound
  | .flush i => if vLive h i then .ok else .notFound
  | .delete i => if vLive h i then .ok else .notFound

theorem isSome_lookup_runV (h : List (VCall K)) (hd : ∀ c ∈ h, c.Distinct) (id : String) :
    (lookup (runV ({} : GState K) h).vecs id).isSome = vLive h id := by
  have hI := tv_run_invariant h hd id
  cases hl : lookup (runV ({} : GState K) h).vecs id with
  | none => rw [hl] at hI; exact hI.symm
  | some tv => rw [hl] at hI; exact hI.1.symm

theorem tv_code_spec (h : List (VCall K)) (hd : ∀ c ∈ h, c.Distinct) (c : VCall K) :
    (stepV (runV {} h) c).2 = expectedCodeV h c := by
  cases c with
  | createNamed i =>
    show (tvCreateNamed (runV {} h) i).2 = if vLive h i then .unknown else .ok
    rw [← isSome_lookup_runV h hd i]
    unfold tvCreateNamed
    cases lookup (runV ({} : GState K) h).vecs i <;> rfl
  | flush i =>
    show (tvFlush (runV {} h) i).2 = if vLive h i then .ok else .notFound
    rw [← isSome_lookup_runV h hd i]
    unfold tvFlush
    cases lookup (runV ({} : GState K) h).vecs i <;> rfl
  | delete i =>
    show (tvDelete (runV {} h) i).2 = if vLive h i then .ok else .notFound
    rw [← isSome_lookup_runV h hd i]
    unfold tvDelete
    cases lookup (runV ({} : GState K) h).vecs i <;> rfl
  | update i ts es =>
    show (tvUpdate (runV {} h) i ts es).2 =
      if vLive h i then (match parseVEntries es with | .ok _ => .ok | .error c => c) else .notFound
    rw [← isSome_lookup_runV h hd i, tvUpdate_eq]
    cases lookup (runV ({} : GState K) h).vecs i with
    | none => rfl
    | some tv => cases parseVEntries es <;> rfl

/-! ## interleaved histories of both services -/

abbrev Call (K : Type) := MCall K ⊕ VCall K

def stepAll (s : GState K) : Call K → GState K × Code
  | .inl c => stepM s c
  | .inr c => stepV s c

def runAll (s : GState K) (h : List (Call K)) : GState K :=
  h.foldl (fun s c => (stepAll s c).1) s

def mcalls (h : List (Call K)) : List (MCall K) := h.filterMap Sum.getLeft?
def vcalls (h : List (Call K)) : List (VCall K) := h.filterMap Sum.getRight?

/-- TrustMatrix calls do not touch the vectors, and their effect on the matrices does not depend
    on the vectors -/
theorem stepM_frame (s s1 : GState K) (c : MCall K) (hm : s.mats = s1.mats) :
    (stepM s c).1.vecs = s.vecs ∧ (stepM s c).1.mats = (stepM s1 c).1.mats ∧
      (stepM s c).2 = (stepM s1 c).2 := by
  obtain ⟨m, v⟩ := s
  obtain ⟨m1, v1⟩ := s1
  simp only at hm
  subst hm
  cases c with
  | createNamed i => simp only [stepM, tmCreateNamed]; split <;> exact ⟨rfl, rfl, rfl⟩
  | createFresh i => simp only [stepM, tmCreateFresh]; split <;> exact ⟨rfl, rfl, rfl⟩
  | flush i => simp only [stepM, tmFlush]; split <;> exact ⟨rfl, rfl, rfl⟩
  | delete i => simp only [stepM, tmDelete]; split <;> exact ⟨rfl, rfl, rfl⟩
  | update i ts es =>
    simp only [stepM, tmUpdate_eq]
    cases lookup m i with
    | none => exact ⟨rfl, rfl, rfl⟩
    | some tm => cases parseMEntries es <;> exact ⟨rfl, rfl, rfl⟩

theorem stepV_frame (s s1 : GState K) (c : VCall K) (hv : s.vecs = s1.vecs) :
    (stepV s c).1.mats = s.mats ∧ (stepV s c).1.vecs = (stepV s1 c).1.vecs ∧
      (stepV s c).2 = (stepV s1 c).2 := by
  obtain ⟨m, v⟩ := s
  obtain ⟨m1, v1⟩ := s1
  simp only at hv
  subst hv
  cases c with
  | createNamed i => simp only [stepV, tvCreateNamed]; split <;> exact ⟨rfl, rfl, rfl⟩
  | flush i => simp only [stepV, tvFlush]; split <;> exact ⟨rfl, rfl, rfl⟩
  | delete i => simp only [stepV, tvDelete]; split <;> exact ⟨rfl, rfl, rfl⟩
  | update i ts es =>
    simp only [stepV, tvUpdate_eq]
    cases lookup v i with
    | none => exact ⟨rfl, rfl, rfl⟩
    | some tv => cases parseVEntries es <;> exact ⟨rfl, rfl, rfl⟩

theorem runAll_split (h : List (Call K)) (s s1 s2 : GState K) (hm : s.mats = s1.mats)
    (hv : s.vecs = s2.vecs) :
    (runAll s h).mats = (run s1 (mcalls h)).mats ∧ (runAll s h).vecs = (runV s2 (vcalls h)).vecs := by
  induction h generalizing s s1 s2 with
  | nil => exact ⟨hm, hv⟩
  | cons c h ih =>
    cases c with
    | inl c =>
      obtain ⟨f1, f2, _⟩ := stepM_frame s s1 c hm
      have := ih (stepM s c).1 (stepM s1 c).1 s2 f2 (f1.trans hv)
      exact this
    | inr c =>
      obtain ⟨f1, f2, _⟩ := stepV_frame s s2 c hv
      have := ih (stepV s c).1 s1 (stepV s2 c).1 (f1.trans hm) f2
      exact this

/-- **Interleaving.**  In any interleaved history of calls to the two services, `Get` on a matrix
    (vector) id returns what it returns after the TrustMatrix (TrustVector) calls alone — so
    `get_spec`, `ts_spec`, `tv_get_spec`, `tv_ts_spec` apply to `mcalls h` / `vcalls h`. -/
theorem get_interleaved (h : List (Call K)) (id : String) :
    tmGet (runAll {} h) id = tmGet (run {} (mcalls h)) id ∧
    tvGet (runAll {} h) id = tvGet (runV {} (vcalls h)) id := by
  obtain ⟨h1, h2⟩ := runAll_split h {} {} {} rfl rfl
  exact ⟨by rw [tmGet_eq, tmGet_eq, h1], by rw [tvGet_eq, tvGet_eq, h2]⟩

/-! ## non-vacuity at `K := ℚ` -/

section examples

-- `ℚ` carries two `Scalar` instances; the examples use the proof instance.
attribute [local instance 10000] fieldScalar

/-- create "a"; two updates (the second one stale: ts 5 after ts 10, erasing cell (0,1) with an
    explicit zero and adding (1,1)); an update of the unknown id "b" -/
private def exH : List (MCall ℚ) :=
  [.createNamed "a",
   .update "a" 10 [⟨some 0, some 1, 3⟩, ⟨some 1, some 0, 2⟩],
   .update "a" 5 [⟨some 0, some 1, 0⟩, ⟨some 1, some 1, 7⟩],
   .update "b" 99 [⟨some 0, some 0, 1⟩]]

example : tmGet (run {} exH) "a" = some (10, [(1, 0, 2), (1, 1, 7)]) := by decide +kernel
example : tmGet (run {} exH) "b" = none := by decide +kernel
example : codes {} exH = [.ok, .ok, .ok, .notFound] := by decide +kernel
example : stamp exH "a" = 10 ∧ live exH "a" = true ∧ live exH "b" = false := by decide +kernel
example : content exH "a" 0 1 = 0 ∧ content exH "a" 1 1 = 7 ∧ content exH "a" 1 0 = 2 := by
  decide +kernel

/-- the history satisfies the hypotheses of the theorems -/
private theorem exH_valid : ∀ c ∈ exH, c.Valid := by
  intro c hc
  simp only [exH, List.mem_cons, List.not_mem_nil, or_false] at hc
  rcases hc with rfl | rfl | rfl | rfl
  · trivial
  · refine ⟨?_, by decide⟩
    intro e he
    simp only [List.mem_cons, List.not_mem_nil, or_false] at he
    rcases he with rfl | rfl
    · exact ⟨0, 1, rfl, rfl⟩
    · exact ⟨1, 0, rfl, rfl⟩
  · refine ⟨?_, by decide⟩
    intro e he
    simp only [List.mem_cons, List.not_mem_nil, or_false] at he
    rcases he with rfl | rfl
    · exact ⟨0, 1, rfl, rfl⟩
    · exact ⟨1, 1, rfl, rfl⟩
  · refine ⟨?_, by decide⟩
    intro e he
    simp only [List.mem_cons, List.not_mem_nil, or_false] at he
    rcases he with rfl
    exact ⟨0, 0, rfl, rfl⟩

example := get_spec_valid exH exH_valid "a"
example := ts_spec exH (fun c hc => (exH_valid c hc).distinct) "a" 10 [(1, 0, 2), (1, 1, 7)]
  (by decide +kernel)
example := code_spec exH (fun c hc => (exH_valid c hc).distinct) (.flush "zz")

/-- timestamps: `update ts=10; update ts=5` leaves 10; a flush resets to 0 -/
example : (tmGet (run {} ([.createNamed "a", .update "a" 10 [], .update "a" 5 []] :
    List (MCall ℚ))) "a").map (·.1) = some 10 := by decide +kernel
example : (tmGet (run {} ([.createNamed "a", .update "a" 10 [], .flush "a", .update "a" 5 []] :
    List (MCall ℚ))) "a").map (·.1) = some 5 := by decide +kernel
/-- a huge timestamp survives the wire encoding and the store -/
example : (tmGet (run {} ([.createNamed "a",
    .update "a" (qwords2Nat (nat2Qwords (2 ^ 200 + 1))) []] : List (MCall ℚ))) "a").map (·.1)
    = some (2 ^ 200 + 1) := by decide +kernel
/-- a duplicate `Create` is refused; `Delete` then `Create` starts from scratch; non-integer and
    negative indices are refused with `Unknown` / `InvalidArgument` -/
example : codes {} ([.createNamed "a", .createNamed "a", .update "a" 3 [⟨some 0, some 0, 1⟩],
    .delete "a", .delete "a", .createFresh "a", .update "a" 1 [⟨none, some 0, 1⟩],
    .update "a" 1 [⟨some 0, some (-1), 1⟩]] : List (MCall ℚ))
    = [.ok, .unknown, .ok, .ok, .notFound, .ok, .unknown, .invalidArgument] := by decide +kernel
example : tmGet (run {} ([.createNamed "a", .update "a" 3 [⟨some 0, some 0, 1⟩],
    .delete "a", .createFresh "a"] : List (MCall ℚ))) "a" = some (0, []) := by decide +kernel

private def exHV : List (VCall ℚ) :=
  [.createNamed "v", .update "v" 10 [⟨some 0, 1/2⟩, ⟨some 2, 1/2⟩], .update "v" 5 [⟨some 2, 0⟩],
   .flush "w", .update "v" 7 [⟨some (-1), 1⟩]]

example : tvGet (runV {} exHV) "v" = some (10, [(0, 1/2)]) := by decide +kernel
example : codesV {} exHV = [.ok, .ok, .ok, .notFound, .invalidArgument] := by decide +kernel
example : vStamp exHV "v" = 10 ∧ vContent exHV "v" 2 = 0 ∧ vContent exHV "v" 0 = 1/2 := by
  decide +kernel

private theorem exHV_distinct : ∀ c ∈ exHV, c.Distinct := by
  intro c hc
  simp only [exHV, List.mem_cons, List.not_mem_nil, or_false] at hc
  rcases hc with rfl | rfl | rfl | rfl | rfl
  · trivial
  · intro es' h; rw [parseV_ok_eq _ _ h]; decide
  · intro es' h; rw [parseV_ok_eq _ _ h]; decide
  · trivial
  · intro es' h; rw [parseV_ok_eq _ _ h]; decide

example := tv_get_spec exHV exHV_distinct "v"
example := tv_ts_spec exHV exHV_distinct "v" 10 [(0, 1/2)] (by decide +kernel)

end examples

end EtVerif.C16
