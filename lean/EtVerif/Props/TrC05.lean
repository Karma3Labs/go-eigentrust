/-
  TrC05 — the CURRENT SOURCE of the iteration options of pkg/basic/computeopts.go (translated by tools/go2lean
  on every run): each option constructor sets exactly its own field(s) of the options record and nothing
  else — so the effective schedule is a function of the LAST setting of each field, and the defaults
  (`checkFreq` 1, `minIterations` = `checkFreq`, `maxIterations` 0 = unlimited) are resolved by `Compute`
  itself (Props/TrC01, `compute_refines_ok_partial`, `compute_schedule`).  Property theorems only.
-/
import EtVerif.Proofs.TrOptions

namespace EtVerif.TrC05
open EtVerif EtVerif.GoSem EtVerif.Gen EtVerif.Tr Scalar

variable {α : Type} [Scalar α]

set_option linter.unusedSectionVars false

theorem withInitialTrust (o : GComputeOpts α) (t0 : GVector α) :
    (Gen.WithInitialTrust o t0).map (fun r => r.1.o) = .ok { o with t0 := some t0 } :=
  WithInitialTrust_refines o t0
theorem withResultIn (o : GComputeOpts α) (t : GVector α) :
    (Gen.WithResultIn o t).map (fun r => r.1.o) = .ok { o with t := some t } :=
  WithResultIn_refines o t
theorem withFlatTail (o : GComputeOpts α) (l : Int) :
    (Gen.WithFlatTail o l).map (fun r => r.1.o) = .ok { o with flatTailLength := l } :=
  WithFlatTail_refines o l
theorem withFlatTailNumLeaders (o : GComputeOpts α) (n : Int) :
    (Gen.WithFlatTailNumLeaders o n).map (fun r => r.1.o) = .ok { o with numLeaders := n } :=
  WithFlatTailNumLeaders_refines o n
theorem withFlatTailStats (o : GComputeOpts α) (s : GFlatTailStats α) :
    (Gen.WithFlatTailStats o s).map (fun r => r.1.o) = .ok { o with flatTailStats := some s } :=
  WithFlatTailStats_refines o s
theorem withMaxIterations (o : GComputeOpts α) (n : Int) :
    (Gen.WithMaxIterations o n).map (fun r => r.1.o) = .ok { o with maxIterations := some n } :=
  WithMaxIterations_refines o n
/-- `minIterations` is the iteration of the first check. -/
theorem withMinIterations (o : GComputeOpts α) (n : Int) :
    (Gen.WithMinIterations o n).map (fun r => r.1.o) = .ok { o with minIterations := some n } :=
  WithMinIterations_refines o n
theorem withIterations (o : GComputeOpts α) (n : Int) :
    (Gen.WithIterations o n).map (fun r => r.1.o) = .ok { o with maxIterations := some n, minIterations := some n } :=
  WithIterations_refines o n
/-- The check period only: the field `minIterations` (first check) is not written; its default, `checkFreq`, is
    resolved by `Compute`. -/
theorem withCheckFreq (o : GComputeOpts α) (n : Int) :
    (Gen.WithCheckFreq o n).map (fun r => r.1.o) = .ok { o with checkFreq := some n } :=
  WithCheckFreq_refines o n

end EtVerif.TrC05
