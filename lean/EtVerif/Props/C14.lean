/-
  C14 — Compute never alters stored inputs; stored and inline references agree.

  What a *pure* model can carry of this property:
  * `compute_reads_only` : in any history mixing computes with store requests, the store evolves
    exactly as if the computes were not there (a compute returns no new store);
  * `compute_snapshot`   : the answer to a compute that references a stored id is a function of the
    content stored under that id at that moment — later PUT / merge / DELETE cannot influence it,
    and requests on other ids never do;
  * stored = inline      : `C03.stored_request_reduces` / `C03.stored_eq_inline` (audited again in
    Audit/C14.lean).
  What it cannot carry — Go-level aliasing between the working copy and the stored matrix — is
  proved over an explicit heap in Props/C14b.lean, tied to the source by the regenerated fact
  `Facts.storeShape.loadStoredDeepCopiesUnderLock` (`Ties.source_store_safe`) and exercised by the
  correspondence (GET before/after byte-identical).
-/
import EtVerif.Props.C03
import EtVerif.Props.TieStore

namespace EtVerif.C14
open EtVerif EtVerif.Oapi

variable {α : Type} [Scalar α]

/-- a mixed history: store requests and computes -/
inductive Req (α : Type) where
  | store (q : StoreReq α)
  | compute (r : ComputeReq α)

/-- the server's state after a mixed history (computes answer from the current store) -/
def runMixed (fuel : Nat) (k : Consts α) : Store α → List (Req α) → Store α
  | s, [] => s
  | s, .store q :: rest => runMixed fuel k (handleStore s q).1 rest
  | s, .compute _ :: rest => runMixed fuel k s rest

def storeOnly : List (Req α) → List (StoreReq α)
  | [] => []
  | .store q :: rest => q :: storeOnly rest
  | .compute _ :: rest => storeOnly rest

def runStoreOnly : Store α → List (StoreReq α) → Store α
  | s, [] => s
  | s, q :: rest => runStoreOnly (handleStore s q).1 rest

/-- Computes never alter the store: the final store of any mixed history is the final store of the
    same history with every compute removed. -/
theorem compute_reads_only (fuel : Nat) (k : Consts α) (s : Store α) (h : List (Req α)) :
    runMixed fuel k s h = runStoreOnly s (storeOnly h) := by
  induction h generalizing s with
  | nil => rfl
  | cons q rest ih =>
    cases q with
    | store q => simp [runMixed, storeOnly, runStoreOnly, ih]
    | compute r => simp [runMixed, storeOnly, ih]

/-- The answer to a compute depends on the store only through the content of the id it references. -/
theorem compute_snapshot (fuel : Nat) (k : Consts α) (s s' : Store α) (r : ComputeReq α)
    (h : ∀ id, r.localTrust = .stored id → s.get? id = s'.get? id) :
    handleCompute fuel k s r = handleCompute fuel k s' r ∧
    handleComputeWithStats fuel k s r = handleComputeWithStats fuel k s' r := by
  have hl : loadMatrix s r.localTrust = loadMatrix s' r.localTrust := by
    cases hr : r.localTrust with
    | stored id => exact h id hr
    | _ => rfl
  exact (OapiL.endpoints_congr (OapiL.prepare_congr hl) fuel).2

/-- Requests on OTHER ids never influence a compute on `id`. -/
theorem compute_unaffected_by_other_ids (fuel : Nat) (k : Consts α) (s : Store α) (r : ComputeReq α)
    (id : String) (hr : r.localTrust = .stored id) (q : StoreReq α)
    (hq : ∀ id', (handleStore s q).1.get? id' ≠ s.get? id' → id' ≠ id) :
    handleCompute fuel k (handleStore s q).1 r = handleCompute fuel k s r := by
  refine (compute_snapshot fuel k _ _ r ?_).1
  intro id' h'
  rw [hr] at h'
  cases h'
  by_contra hne
  exact hq id hne rfl

end EtVerif.C14
