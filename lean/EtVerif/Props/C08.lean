/-
  C08 — Extracting distrust splits the local trust into `P - D`; discounting subtracts the
  distrust rows weighted by the *undiscounted* scores.
  Property theorems only (helper lemmas live in Proofs/Distrust.lean).
-/
import EtVerif.Proofs.Distrust
import Mathlib.Algebra.Order.Field.Rat
import Mathlib.Tactic.NormNum

namespace EtVerif.C08
open EtVerif EtVerif.Distrust

variable {K : Type} [Field K] [LinearOrder K]

/-! ### ExtractDistrust -/

/-- `L = P - D`, entry by entry (no well-formedness needed). -/
theorem extract_split {L P D : CSM K} (h : extractDistrust L = .ok (P, D)) (i j : Nat) :
    denRows L.rows i j = denRows P.rows i j - denRows D.rows i j := by
  obtain ⟨_, rfl, rfl⟩ := extractDistrust_ok h
  simp only [denRows, getD_map_splitRow_fst, getD_map_splitRow_snd]
  exact den_splitRow _ _

/-- every stored value of `P` is non-negative, every stored value of `D` is strictly positive. -/
theorem extract_signs [IsStrictOrderedRing K] {L P D : CSM K}
    (h : extractDistrust L = .ok (P, D)) :
    (∀ r ∈ P.rows, ∀ e ∈ r, 0 ≤ e.val) ∧ (∀ r ∈ D.rows, ∀ e ∈ r, 0 < e.val) :=
  extractDistrust_signs h

/-- with index-sorted rows, no column index is stored both in row `i` of `P` and row `i` of `D`. -/
theorem extract_disjoint {L P D : CSM K} (h : extractDistrust L = .ok (P, D))
    (hs : ∀ r ∈ L.rows, Sorted r) (i : Nat) :
    ∀ a ∈ P.rows.getD i [], ∀ b ∈ D.rows.getD i [], a.idx ≠ b.idx := by
  obtain ⟨_, rfl, rfl⟩ := extractDistrust_ok h
  simp only [getD_map_splitRow_fst, getD_map_splitRow_snd]
  apply splitRow_disjoint
  rw [List.getD_eq_getElem?_getD]
  cases hi : L.rows[i]? with
  | none => exact List.Pairwise.nil
  | some r => exact hs r (List.mem_of_getElem? hi)

/-- the index order is unchanged: row `i` of `P` is a sublist of row `i` of `L`, and row `i` of
    `D` with the signs restored is a sublist of row `i` of `L`. -/
theorem extract_order {L P D : CSM K} (h : extractDistrust L = .ok (P, D)) (i : Nat) :
    (P.rows.getD i []).Sublist (L.rows.getD i []) ∧
    ((D.rows.getD i []).map fun e => (⟨e.idx, -e.val⟩ : Entry K)).Sublist (L.rows.getD i []) := by
  obtain ⟨_, rfl, rfl⟩ := extractDistrust_ok h
  simp only [getD_map_splitRow_fst, getD_map_splitRow_snd]
  exact ⟨splitRow_fst_sublist _, splitRow_snd_neg_sublist _⟩

/-- nothing is lost: the two parts of row `i` together have as many entries as row `i` of `L`. -/
theorem extract_count {L P D : CSM K} (h : extractDistrust L = .ok (P, D)) (i : Nat) :
    (P.rows.getD i []).length + (D.rows.getD i []).length = (L.rows.getD i []).length := by
  obtain ⟨_, rfl, rfl⟩ := extractDistrust_ok h
  rw [getD_map_splitRow_fst, getD_map_splitRow_snd, splitRow_fst, splitRow_snd, List.length_map]
  exact List.length_eq_length_filter_add _ |>.symm

/-- sortedness of every row is preserved in both parts. -/
theorem extract_sorted {L P D : CSM K} (h : extractDistrust L = .ok (P, D))
    (hs : ∀ r ∈ L.rows, Sorted r) :
    (∀ r ∈ P.rows, Sorted r) ∧ (∀ r ∈ D.rows, Sorted r) := by
  obtain ⟨_, rfl, rfl⟩ := extractDistrust_ok h
  simp only [List.forall_mem_map]
  exact ⟨fun r hr => sorted_sublist (splitRow_fst_sublist r) (hs r hr),
    fun r hr => sorted_of_idx_sublist (splitRow_snd_idx_sublist r) (hs r hr)⟩

/-- well-formedness (sorted, column indices in range) of every row is preserved in both parts. -/
theorem extract_wf {L P D : CSM K} (h : extractDistrust L = .ok (P, D)) (n : Nat)
    (hw : ∀ r ∈ L.rows, WF n r) :
    (∀ r ∈ P.rows, WF n r) ∧ (∀ r ∈ D.rows, WF n r) := by
  obtain ⟨_, rfl, rfl⟩ := extractDistrust_ok h
  simp only [List.forall_mem_map]
  exact ⟨fun r hr => wf_sublist (splitRow_fst_sublist r) (hw r hr),
    fun r hr => wf_of_idx_sublist (splitRow_snd_idx_sublist r) (hw r hr)⟩

/-- dimensions: `L` was square, `P` keeps the shape of `L`, `D` is a fresh `n × n` matrix with
    as many rows as `L`. -/
theorem extract_dims {L P D : CSM K} (h : extractDistrust L = .ok (P, D)) :
    L.major = L.minor ∧
    P.major = L.major ∧ P.minor = L.minor ∧ P.rows.length = L.rows.length ∧ P.hidden = L.hidden ∧
    D.major = L.major ∧ D.minor = L.major ∧ D.rows.length = L.rows.length ∧ D.hidden = [] := by
  obtain ⟨hd, rfl, rfl⟩ := extractDistrust_ok h
  simp [hd]

/-- a non-square matrix is rejected. -/
theorem extract_error (L : CSM K) (h : L.major ≠ L.minor) :
    extractDistrust L = .error .dimMismatch := by
  unfold extractDistrust CSM.dim
  rw [if_pos h]

/-- a square matrix is always accepted. -/
theorem extract_ok (L : CSM K) (h : L.major = L.minor) :
    ∃ P D, extractDistrust L = .ok (P, D) := by
  unfold extractDistrust CSM.dim
  rw [if_neg (by simpa using h)]
  exact ⟨_, _, rfl⟩

/-! ### DiscountTrustVector -/

/-- `t'_j = t_j - Σ_i t_i · D_ij`; the weights `t_i` are the *undiscounted* scores. Needs only the
    well-formedness of `t` (rows of `D` beyond `t.dim`, or missing rows, contribute nothing). -/
theorem discount_spec (t : Vec K) (D : CSM K) (ht : WF t.dim t.entries) (j : Nat) :
    denE (discountTrustVector t D).entries j
      = denE t.entries j - ∑ i ∈ Finset.range t.dim, denE t.entries i * denRows D.rows i j :=
  den_discount_rows t.entries D.rows t.dim ht j

theorem discount_dim (t : Vec K) (D : CSM K) : (discountTrustVector t D).dim = t.dim := rfl

/-- the result is well-formed when `t` and every row of `D` are. -/
theorem discount_wf (t : Vec K) (D : CSM K) (ht : WF t.dim t.entries)
    (hD : ∀ r ∈ D.rows, WF t.dim r) :
    WF (discountTrustVector t D).dim (discountTrustVector t D).entries :=
  wf_discountLoop _ _ _ ht fun p hp => hD p.1 (List.fst_mem_of_mem_zipIdx hp)

/-- distrust voiced by peers without reputation has no effect: two distrust matrices that agree
    (densely) on the rows of all peers with a non-zero score give the same discounted scores. -/
theorem discount_zero_rep_general (t : Vec K) (D D' : CSM K) (ht : WF t.dim t.entries)
    (h : ∀ i, denE t.entries i ≠ 0 → ∀ j, denRows D'.rows i j = denRows D.rows i j) (j : Nat) :
    denE (discountTrustVector t D').entries j = denE (discountTrustVector t D).entries j := by
  rw [discount_spec t D' ht, discount_spec t D ht]
  congr 1
  apply Finset.sum_congr rfl
  intro i _
  by_cases hz : denE t.entries i = 0
  · rw [hz, zero_mul, zero_mul]
  · rw [h i hz j]

/-- replacing the distrust row of a peer with zero score by any other row changes nothing. -/
theorem discount_zero_rep (t : Vec K) (D : CSM K) (ht : WF t.dim t.entries) (i : Nat)
    (hz : denE t.entries i = 0) (r : Row K) (j : Nat) :
    denE (discountTrustVector t { D with rows := D.rows.set i r }).entries j
      = denE (discountTrustVector t D).entries j := by
  apply discount_zero_rep_general t D _ ht
  intro k hk j
  have hne : i ≠ k := fun e => hk (e ▸ hz)
  simp only [denRows, List.getD_eq_getElem?_getD, List.getElem?_set_ne hne]

/-- the same, at the level of the stored entry lists (not only the dense values): two distrust
    matrices with equally many rows whose rows coincide for every peer with a non-zero score
    produce the *identical* result. -/
theorem discount_zero_rep_exact (t : Vec K) (D D' : CSM K) (hs : Sorted t.entries)
    (hl : D'.rows.length = D.rows.length)
    (h : ∀ i, denE t.entries i ≠ 0 → D'.rows.getD i [] = D.rows.getD i []) :
    discountTrustVector t D' = discountTrustVector t D := by
  unfold discountTrustVector
  rw [zipIdx_eq_map_of_length_eq D.rows D'.rows hl,
    discountLoop_map_rows (fun p => D'.rows.getD p.2 []) t.entries D.rows.zipIdx t.entries hs
      (zipIdx_pairwise _ 0)]
  intro p hp hne
  rw [h p.2 hne]
  obtain ⟨_, h1, h2⟩ := List.mem_zipIdx hp
  simp only [Nat.sub_zero, Nat.zero_add] at h1 h2
  rw [h2, List.getD_eq_getElem?_getD, List.getElem?_eq_getElem h1]; rfl

/-- replacing the distrust row of a zero-score peer leaves the result *identical*. -/
theorem discount_zero_rep_set_exact (t : Vec K) (D : CSM K) (hs : Sorted t.entries) (i : Nat)
    (hz : denE t.entries i = 0) (r : Row K) :
    discountTrustVector t { D with rows := D.rows.set i r } = discountTrustVector t D := by
  apply discount_zero_rep_exact t D _ hs (by simp)
  intro k hk
  have hne : i ≠ k := fun e => hk (e ▸ hz)
  simp only [List.getD_eq_getElem?_getD, List.getElem?_set_ne hne]

/-! ### non-vacuity at `K := ℚ` -/

section examples

-- `ℚ` carries two `Scalar` instances (`ratScalar` for the driver, `fieldScalar` for proofs);
-- the examples use the proof instance.
attribute [local instance 10000] fieldScalar

/-- a 2×2 local trust with one negative entry in each row -/
private def exL : CSM ℚ := ⟨2, 2, [[⟨0, 1⟩, ⟨1, -2⟩], [⟨0, -1⟩]], []⟩
private def exP : CSM ℚ := ⟨2, 2, [[⟨0, 1⟩], []], []⟩
private def exD : CSM ℚ := ⟨2, 2, [[⟨1, 2⟩], [⟨0, 1⟩]], []⟩

private theorem ex_extract : extractDistrust exL = .ok (exP, exD) := by
  rfl

private theorem ex_rows_wf : ∀ r ∈ exL.rows, WF 2 r := by
  decide

example : denRows exL.rows 0 1 = denRows exP.rows 0 1 - denRows exD.rows 0 1 :=
  extract_split ex_extract 0 1
example : (∀ r ∈ exP.rows, ∀ e ∈ r, 0 ≤ e.val) ∧ (∀ r ∈ exD.rows, ∀ e ∈ r, 0 < e.val) :=
  extract_signs ex_extract
example : ∀ a ∈ exP.rows.getD 0 [], ∀ b ∈ exD.rows.getD 0 [], a.idx ≠ b.idx :=
  extract_disjoint ex_extract (fun r hr => (ex_rows_wf r hr).1) 0
example : (∀ r ∈ exP.rows, WF 2 r) ∧ (∀ r ∈ exD.rows, WF 2 r) :=
  extract_wf ex_extract 2 ex_rows_wf
example : extractDistrust (⟨2, 3, [[], []], []⟩ : CSM ℚ) = .error .dimMismatch :=
  extract_error _ (by simp)

/-- scores (1/2, 0, 1/2); peer 0 distrusts peer 2, peer 1 (zero score) distrusts peer 0 -/
private def exT : Vec ℚ := ⟨3, [⟨0, 1/2⟩, ⟨2, 1/2⟩]⟩
private def exDm : CSM ℚ := ⟨3, 3, [[⟨2, 1⟩], [⟨0, 1⟩], []], []⟩

private theorem exT_wf : WF exT.dim exT.entries := by decide

example (j : Nat) : denE (discountTrustVector exT exDm).entries j
    = denE exT.entries j - ∑ i ∈ Finset.range exT.dim, denE exT.entries i * denRows exDm.rows i j :=
  discount_spec exT exDm exT_wf j
example : WF 3 (discountTrustVector exT exDm).entries :=
  discount_wf exT exDm exT_wf (by decide)
/-- the concrete outcome: peer 2 loses `t_0 * D_02 = 1/2`; the row of zero-score peer 1 is ignored -/
example : discountTrustVector exT exDm = ⟨3, [⟨0, 1/2⟩, ⟨2, 0⟩]⟩ := by
  with_unfolding_all rfl
example (r : Row ℚ) (j : Nat) :
    denE (discountTrustVector exT { exDm with rows := exDm.rows.set 1 r }).entries j
      = denE (discountTrustVector exT exDm).entries j :=
  discount_zero_rep exT exDm exT_wf 1 (by decide +kernel) r j
example (r : Row ℚ) :
    discountTrustVector exT { exDm with rows := exDm.rows.set 1 r } = discountTrustVector exT exDm :=
  discount_zero_rep_set_exact exT exDm exT_wf.1 1 (by decide +kernel) r

end examples

end EtVerif.C08
