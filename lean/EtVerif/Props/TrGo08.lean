/-
  TrGo08 — C08 (distrust) stated about the translated Go code: the laws Props/C08 proves about the model's
  `extractDistrust` / `discountTrustVector`, restated about the values the CURRENT SOURCE of
  `basic.ExtractDistrust` and `basic.DiscountTrustVector` (Gen/Translated.lean, regenerated by tools/go2lean on
  every run) returns — compositions of the refinements of Props/TrC08 with the theorems of Props/C08.
  Property theorems only.
-/
import EtVerif.Props.TrC08
import EtVerif.Props.C08

namespace EtVerif.TrGo08
open EtVerif EtVerif.GoSem EtVerif.Gen EtVerif.Tr EtVerif.Distrust Scalar

set_option linter.unusedSectionVars false

/-! ### transport lemmas (any `Scalar` instance) -/

section generic
variable {α : Type} [Scalar α]

/-- Whenever the model accepts the matrix (row table of `major` rows, fuel ≥ `major`), the Go `ExtractDistrust`
    returns (no panic, within the fuel) the model's distrust matrix with a `nil` error, and has overwritten
    the matrix it was given with the model's trust part. -/
theorem go_extract_of_ok (fuel : Nat) (L P D : CSM α) (hrows : L.rows.length = L.major)
    (hf : L.major ≤ fuel) (h : extractDistrust L = .ok (P, D)) :
    ∃ st, Gen.ExtractDistrust fuel (toGM L) = .ok (st, (toGM D, none)) ∧ st.localTrust = toGM P := by
  have hr := TrC08.extractDistrust_refines fuel L hrows hf
  rw [h] at hr
  exact map_pair_eq_ok hr

/-- Whenever the model rejects the matrix, the Go `ExtractDistrust` returns (no panic) the zero matrix with
    `ErrDimensionMismatch`, and the matrix it was given is untouched. -/
theorem go_extract_of_error (fuel : Nat) (L : CSM α) (e : SErr) (hrows : L.rows.length = L.major)
    (hf : L.major ≤ fuel) (h : extractDistrust L = .error e) :
    ∃ st, Gen.ExtractDistrust fuel (toGM L) =
        .ok (st, ((GCSMatrix.zero : GCSMatrix α), (some ⟨"ErrDimensionMismatch"⟩ : Option GoError))) ∧
      st.localTrust = toGM L := by
  have hr := TrC08.extractDistrust_refines fuel L hrows hf
  rw [h] at hr
  exact map_pair_eq_ok hr

/-- For every input (sorted or not), every capacity behaviour of `append`, fuel ≥ entries of `t` + all distrust
    entries + 1: the Go `DiscountTrustVector` returns (no panic, within the fuel) a `nil` error and has
    overwritten the vector it was given with the model's `discountTrustVector`. -/
theorem go_discount (capO : Nat → Int) (fuel : Nat) (t : Vec α) (d : CSM α)
    (hf : t.entries.length + (d.rows.map List.length).sum + 1 ≤ fuel) :
    ∃ st, Gen.DiscountTrustVector capO fuel (toGV t) (toGM d) = .ok (st, none) ∧
      st.t = toGV (discountTrustVector t d) :=
  map_pair_eq_ok (TrC08.discount_refines capO fuel t d hf)

end generic

/-! ### the C08 laws, over an ordered field -/

variable {K : Type} [Field K] [LinearOrder K]

/-! #### ExtractDistrust -/

/-- (C08.extract_ok) On a square matrix whose row table has `major` rows, fuel ≥ `major`, the Go
    `ExtractDistrust` returns (no panic, within the fuel) a `nil` error; the matrix it returns and the one it
    leaves in place of its argument are the model's `D` and `P`. -/
theorem go_extract_ok (fuel : Nat) (L : CSM K) (hrows : L.rows.length = L.major) (hf : L.major ≤ fuel)
    (hsq : L.major = L.minor) :
    ∃ st P D, Gen.ExtractDistrust fuel (toGM L) = .ok (st, (toGM D, none)) ∧ st.localTrust = toGM P ∧
      extractDistrust L = .ok (P, D) := by
  obtain ⟨P, D, h⟩ := C08.extract_ok L hsq
  obtain ⟨st, ha, hb⟩ := go_extract_of_ok fuel L P D hrows hf h
  exact ⟨st, P, D, ha, hb, h⟩

/-- (C08.extract_split) `L = P − D`, entry by entry, for the trust part `P` the Go `ExtractDistrust` leaves in
    place of its argument `L` and the distrust matrix `D` it returns (no well-formedness needed). -/
theorem go_extract_split (fuel : Nat) (L : CSM K) (hrows : L.rows.length = L.major)
    (hf : L.major ≤ fuel) (hsq : L.major = L.minor) :
    ∃ st P D, Gen.ExtractDistrust fuel (toGM L) = .ok (st, (toGM D, none)) ∧ st.localTrust = toGM P ∧
      ∀ i j, denRows L.rows i j = denRows P.rows i j - denRows D.rows i j := by
  obtain ⟨st, P, D, ha, hb, h⟩ := go_extract_ok fuel L hrows hf hsq
  exact ⟨st, P, D, ha, hb, fun i j => C08.extract_split h i j⟩

/-- (C08.extract_signs) Every value stored in the trust part the Go `ExtractDistrust` leaves is non-negative;
    every value stored in the distrust matrix it returns is strictly positive. -/
theorem go_extract_signs [IsStrictOrderedRing K] (fuel : Nat) (L : CSM K)
    (hrows : L.rows.length = L.major) (hf : L.major ≤ fuel) (hsq : L.major = L.minor) :
    ∃ st P D, Gen.ExtractDistrust fuel (toGM L) = .ok (st, (toGM D, none)) ∧ st.localTrust = toGM P ∧
      (∀ r ∈ P.rows, ∀ e ∈ r, 0 ≤ e.val) ∧ (∀ r ∈ D.rows, ∀ e ∈ r, 0 < e.val) := by
  obtain ⟨st, P, D, ha, hb, h⟩ := go_extract_ok fuel L hrows hf hsq
  exact ⟨st, P, D, ha, hb, C08.extract_signs h⟩

/-- (C08.extract_disjoint) With index-sorted rows, no column index is stored both in row `i` of the trust part
    and in row `i` of the distrust matrix the Go `ExtractDistrust` produces. -/
theorem go_extract_disjoint (fuel : Nat) (L : CSM K) (hrows : L.rows.length = L.major)
    (hf : L.major ≤ fuel) (hsq : L.major = L.minor) (hs : ∀ r ∈ L.rows, Sorted r) :
    ∃ st P D, Gen.ExtractDistrust fuel (toGM L) = .ok (st, (toGM D, none)) ∧ st.localTrust = toGM P ∧
      ∀ i, ∀ a ∈ P.rows.getD i [], ∀ b ∈ D.rows.getD i [], a.idx ≠ b.idx := by
  obtain ⟨st, P, D, ha, hb, h⟩ := go_extract_ok fuel L hrows hf hsq
  exact ⟨st, P, D, ha, hb, fun i => C08.extract_disjoint h hs i⟩

/-- (C08.extract_order, extract_count) The Go `ExtractDistrust` keeps the index order and loses nothing: row
    `i` of the trust part is a sublist of row `i` of `L`, row `i` of the distrust matrix with the signs
    restored is a sublist of row `i` of `L`, and the two together have as many entries as row `i` of `L`. -/
theorem go_extract_order (fuel : Nat) (L : CSM K) (hrows : L.rows.length = L.major)
    (hf : L.major ≤ fuel) (hsq : L.major = L.minor) :
    ∃ st P D, Gen.ExtractDistrust fuel (toGM L) = .ok (st, (toGM D, none)) ∧ st.localTrust = toGM P ∧
      ∀ i, (P.rows.getD i []).Sublist (L.rows.getD i []) ∧
        ((D.rows.getD i []).map fun e => (⟨e.idx, -e.val⟩ : Entry K)).Sublist (L.rows.getD i []) ∧
        (P.rows.getD i []).length + (D.rows.getD i []).length = (L.rows.getD i []).length := by
  obtain ⟨st, P, D, ha, hb, h⟩ := go_extract_ok fuel L hrows hf hsq
  exact ⟨st, P, D, ha, hb, fun i =>
    ⟨(C08.extract_order h i).1, (C08.extract_order h i).2, C08.extract_count h i⟩⟩

/-- (C08.extract_sorted, extract_wf, extract_dims) Well-formedness of the results of the Go `ExtractDistrust`:
    the trust part keeps the shape of `L`, the distrust matrix is `major × major` with as many rows as `L`;
    index-sortedness of every row, and well-formedness (sorted, column indices `< n`) of every row, are
    preserved in both parts. -/
theorem go_extract_wf (fuel : Nat) (L : CSM K) (hrows : L.rows.length = L.major)
    (hf : L.major ≤ fuel) (hsq : L.major = L.minor) :
    ∃ st P D, Gen.ExtractDistrust fuel (toGM L) = .ok (st, (toGM D, none)) ∧ st.localTrust = toGM P ∧
      (P.major = L.major ∧ P.minor = L.minor ∧ P.rows.length = L.rows.length ∧ P.hidden = L.hidden ∧
        D.major = L.major ∧ D.minor = L.major ∧ D.rows.length = L.rows.length ∧ D.hidden = []) ∧
      ((∀ r ∈ L.rows, Sorted r) → (∀ r ∈ P.rows, Sorted r) ∧ (∀ r ∈ D.rows, Sorted r)) ∧
      (∀ n, (∀ r ∈ L.rows, WF n r) → (∀ r ∈ P.rows, WF n r) ∧ (∀ r ∈ D.rows, WF n r)) := by
  obtain ⟨st, P, D, ha, hb, h⟩ := go_extract_ok fuel L hrows hf hsq
  exact ⟨st, P, D, ha, hb, (C08.extract_dims h).2, fun hs => C08.extract_sorted h hs,
    fun n hw => C08.extract_wf h n hw⟩

/-- All of the above about ONE pair `(P, D)`: the complete C08 statement about a run of the Go
    `ExtractDistrust` on a square matrix. -/
theorem go_extract_spec [IsStrictOrderedRing K] (fuel : Nat) (L : CSM K)
    (hrows : L.rows.length = L.major) (hf : L.major ≤ fuel) (hsq : L.major = L.minor) :
    ∃ st P D, Gen.ExtractDistrust fuel (toGM L) = .ok (st, (toGM D, none)) ∧ st.localTrust = toGM P ∧
      (∀ i j, denRows L.rows i j = denRows P.rows i j - denRows D.rows i j) ∧
      (∀ r ∈ P.rows, ∀ e ∈ r, 0 ≤ e.val) ∧ (∀ r ∈ D.rows, ∀ e ∈ r, 0 < e.val) ∧
      ((∀ r ∈ L.rows, Sorted r) →
        ∀ i, ∀ a ∈ P.rows.getD i [], ∀ b ∈ D.rows.getD i [], a.idx ≠ b.idx) ∧
      (∀ i, (P.rows.getD i []).length + (D.rows.getD i []).length = (L.rows.getD i []).length) ∧
      (P.major = L.major ∧ P.minor = L.minor ∧ P.rows.length = L.rows.length ∧
        D.major = L.major ∧ D.minor = L.major ∧ D.rows.length = L.rows.length) ∧
      (∀ n, (∀ r ∈ L.rows, WF n r) → (∀ r ∈ P.rows, WF n r) ∧ (∀ r ∈ D.rows, WF n r)) := by
  obtain ⟨st, P, D, ha, hb, h⟩ := go_extract_ok fuel L hrows hf hsq
  obtain ⟨_, d1, d2, d3, _, d5, d6, d7, _⟩ := C08.extract_dims h
  exact ⟨st, P, D, ha, hb, fun i j => C08.extract_split h i j, (C08.extract_signs h).1,
    (C08.extract_signs h).2, fun hs i => C08.extract_disjoint h hs i, fun i => C08.extract_count h i,
    ⟨d1, d2, d3, d5, d6, d7⟩, fun n hw => C08.extract_wf h n hw⟩

/-- (C08.extract_error) A non-square matrix: the Go `ExtractDistrust` returns (no panic) the zero matrix with
    `ErrDimensionMismatch`, and its argument is untouched. -/
theorem go_extract_error (fuel : Nat) (L : CSM K) (hrows : L.rows.length = L.major)
    (hf : L.major ≤ fuel) (h : L.major ≠ L.minor) :
    ∃ st, Gen.ExtractDistrust fuel (toGM L) =
        .ok (st, ((GCSMatrix.zero : GCSMatrix K), (some ⟨"ErrDimensionMismatch"⟩ : Option GoError))) ∧
      st.localTrust = toGM L :=
  go_extract_of_error fuel L _ hrows hf (C08.extract_error L h)

/-! #### DiscountTrustVector -/

/-- (C08.discount_spec, discount_dim) For a well-formed score vector `t`, any distrust matrix `D`, any capacity
    behaviour, fuel ≥ entries of `t` + all distrust entries + 1: the Go `DiscountTrustVector` returns (no
    panic, within the fuel) a `nil` error and leaves in `t` a vector of the same dimension with
    `t'_j = t_j − Σ_i t_i · D_ij`, the weights `t_i` being the UNDISCOUNTED scores (rows of `D` beyond `t.dim`,
    or missing rows, contribute nothing). -/
theorem go_discount_spec (capO : Nat → Int) (fuel : Nat) (t : Vec K) (D : CSM K)
    (hf : t.entries.length + (D.rows.map List.length).sum + 1 ≤ fuel)
    (ht : WF t.dim t.entries) :
    ∃ st out, Gen.DiscountTrustVector capO fuel (toGV t) (toGM D) = .ok (st, none) ∧ st.t = toGV out ∧
      out.dim = t.dim ∧
      ∀ j, denE out.entries j
        = denE t.entries j - ∑ i ∈ Finset.range t.dim, denE t.entries i * denRows D.rows i j := by
  obtain ⟨st, ha, hb⟩ := go_discount capO fuel t D hf
  exact ⟨st, _, ha, hb, C08.discount_dim t D, fun j => C08.discount_spec t D ht j⟩

/-- (C08.discount_wf) The vector the Go `DiscountTrustVector` leaves is well-formed (indices strictly
    increasing and below the dimension) when `t` and every row of `D` are. -/
theorem go_discount_wf (capO : Nat → Int) (fuel : Nat) (t : Vec K) (D : CSM K)
    (hf : t.entries.length + (D.rows.map List.length).sum + 1 ≤ fuel)
    (ht : WF t.dim t.entries) (hD : ∀ r ∈ D.rows, WF t.dim r) :
    ∃ st out, Gen.DiscountTrustVector capO fuel (toGV t) (toGM D) = .ok (st, none) ∧ st.t = toGV out ∧
      WF out.dim out.entries := by
  obtain ⟨st, ha, hb⟩ := go_discount capO fuel t D hf
  exact ⟨st, _, ha, hb, C08.discount_wf t D ht hD⟩

/-- (C08.discount_zero_rep_general) Distrust voiced by peers without reputation has no effect: on two distrust
    matrices that agree (densely) on the rows of all peers with a non-zero score, the Go `DiscountTrustVector`
    leaves vectors with the same dense values. -/
theorem go_discount_zero_rep_general (capO capO' : Nat → Int) (fuel : Nat) (t : Vec K) (D D' : CSM K)
    (hf : t.entries.length + (D.rows.map List.length).sum + 1 ≤ fuel)
    (hf' : t.entries.length + (D'.rows.map List.length).sum + 1 ≤ fuel)
    (ht : WF t.dim t.entries)
    (h : ∀ i, denE t.entries i ≠ 0 → ∀ j, denRows D'.rows i j = denRows D.rows i j) :
    ∃ st st' out out', Gen.DiscountTrustVector capO fuel (toGV t) (toGM D) = .ok (st, none) ∧
      Gen.DiscountTrustVector capO' fuel (toGV t) (toGM D') = .ok (st', none) ∧
      st.t = toGV out ∧ st'.t = toGV out' ∧ ∀ j, denE out'.entries j = denE out.entries j := by
  obtain ⟨st, ha, hb⟩ := go_discount capO fuel t D hf
  obtain ⟨st', ha', hb'⟩ := go_discount capO' fuel t D' hf'
  exact ⟨st, st', _, _, ha, ha', hb, hb', fun j => C08.discount_zero_rep_general t D D' ht h j⟩

/-- (C08.discount_zero_rep) Replacing the distrust row of a peer with zero score by any other row does not
    change the dense values of the vector the Go `DiscountTrustVector` leaves. -/
theorem go_discount_zero_rep (capO capO' : Nat → Int) (fuel : Nat) (t : Vec K) (D : CSM K) (i : Nat)
    (r : Row K)
    (hf : t.entries.length + (D.rows.map List.length).sum + 1 ≤ fuel)
    (hf' : t.entries.length + ((D.rows.set i r).map List.length).sum + 1 ≤ fuel)
    (ht : WF t.dim t.entries) (hz : denE t.entries i = 0) :
    ∃ st st' out out', Gen.DiscountTrustVector capO fuel (toGV t) (toGM D) = .ok (st, none) ∧
      Gen.DiscountTrustVector capO' fuel (toGV t) (toGM { D with rows := D.rows.set i r })
        = .ok (st', none) ∧
      st.t = toGV out ∧ st'.t = toGV out' ∧ ∀ j, denE out'.entries j = denE out.entries j := by
  obtain ⟨st, ha, hb⟩ := go_discount capO fuel t D hf
  obtain ⟨st', ha', hb'⟩ := go_discount capO' fuel t { D with rows := D.rows.set i r } hf'
  exact ⟨st, st', _, _, ha, ha', hb, hb', fun j => C08.discount_zero_rep t D ht i hz r j⟩

/-- (C08.discount_zero_rep_exact) The same at the level of the stored entries: on two distrust matrices with
    equally many rows whose rows coincide for every peer with a non-zero score (and an index-sorted `t`), the
    Go `DiscountTrustVector` leaves the IDENTICAL vector. -/
theorem go_discount_zero_rep_exact (capO capO' : Nat → Int) (fuel : Nat) (t : Vec K) (D D' : CSM K)
    (hf : t.entries.length + (D.rows.map List.length).sum + 1 ≤ fuel)
    (hf' : t.entries.length + (D'.rows.map List.length).sum + 1 ≤ fuel)
    (hs : Sorted t.entries) (hl : D'.rows.length = D.rows.length)
    (h : ∀ i, denE t.entries i ≠ 0 → D'.rows.getD i [] = D.rows.getD i []) :
    ∃ st st', Gen.DiscountTrustVector capO fuel (toGV t) (toGM D) = .ok (st, none) ∧
      Gen.DiscountTrustVector capO' fuel (toGV t) (toGM D') = .ok (st', none) ∧ st'.t = st.t := by
  obtain ⟨st, ha, hb⟩ := go_discount capO fuel t D hf
  obtain ⟨st', ha', hb'⟩ := go_discount capO' fuel t D' hf'
  exact ⟨st, st', ha, ha', by rw [hb, hb', C08.discount_zero_rep_exact t D D' hs hl h]⟩

/-- (C08.discount_zero_rep_set_exact) Replacing the distrust row of a zero-score peer leaves the vector the Go
    `DiscountTrustVector` produces IDENTICAL. -/
theorem go_discount_zero_rep_set_exact (capO capO' : Nat → Int) (fuel : Nat) (t : Vec K) (D : CSM K)
    (i : Nat) (r : Row K)
    (hf : t.entries.length + (D.rows.map List.length).sum + 1 ≤ fuel)
    (hf' : t.entries.length + ((D.rows.set i r).map List.length).sum + 1 ≤ fuel)
    (hs : Sorted t.entries) (hz : denE t.entries i = 0) :
    ∃ st st', Gen.DiscountTrustVector capO fuel (toGV t) (toGM D) = .ok (st, none) ∧
      Gen.DiscountTrustVector capO' fuel (toGV t) (toGM { D with rows := D.rows.set i r })
        = .ok (st', none) ∧ st'.t = st.t := by
  obtain ⟨st, ha, hb⟩ := go_discount capO fuel t D hf
  obtain ⟨st', ha', hb'⟩ := go_discount capO' fuel t { D with rows := D.rows.set i r } hf'
  exact ⟨st, st', ha, ha', by rw [hb, hb', C08.discount_zero_rep_set_exact t D hs i hz r]⟩

end EtVerif.TrGo08
