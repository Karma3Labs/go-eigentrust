/-
  C19 — CSV front-ends.

  "The CLI maps peer names to dense indices in order of first appearance, consistently across the
   local-trust, pre-trust and initial-trust files, so the request it sends contains exactly the
   CSV's arcs, values and sizes; the CSV it writes maps every index back to the original name …
   the library CSV readers build exactly the listed arcs (default level 1, dimension = highest
   index + 1, names resolved through the peer list) while surfacing every malformed record as an
   error."

  Everything is structural and is stated for an arbitrary `Scalar α` (so also for `Float`).
  `encoding/csv` and `strconv` are outside the model: a `Fe.Field` carries the raw text together
  with the library's parse results (Model/Frontends.lean).

  Vocabulary (Proofs/FrontendLemmas.lean, namespace `FeL`):
  * `dataRecs hasHeader recs`   — the records after the optional header record;
  * `mNames recs` / `vNames recs` — the names a matrix / vector file looks up, in order
                                  (`from`, `to` of each record / first field of each record);
  * `indexAll raw tbl fs`        — `getPeerIndex` run over the fields `fs`, threading the table;
  * `IdxOf raw tbl f i`          — `i` is the index of field `f`: raw mode `ParseInt(s,0,0) = i ≥ 0`,
                                  name mode `i` = position of the name in the final table `tbl`;
  * `MRel raw tbl r e` / `VRel raw tbl r e` — record `r` yields inline entry `e` (2/1-field
                                  records get `Scalar.one`, otherwise the parsed float);
  * `ArcOf names r c` / `EntOf names r e` — library readers: record `r` denotes arc `c` / entry `e`;
  * `cooDim`, `entDim`           — highest index + 1 (0 for no records);
  * `tblAfter raw tbl names`     — the table after looking up `names` (unchanged in raw mode);
  * `optVNames hasHeader o`      — `vNames` of the data records of an optional vector file;
  * `MSizeExact m` / `VSizeExact v` — every index of the inline body is below its size and one
                                  index + 1 attains it;
  * `VecExact raw hasHeader tbl file sent` — an absent file sends nothing, a present one a vector
                                  related to its data records by `VRel`, with `VSizeExact`.
-/
import EtVerif.Proofs.FrontendLemmas

namespace EtVerif.C19
open EtVerif EtVerif.Fe EtVerif.FeL Scalar

variable {α : Type} [Scalar α]

set_option linter.unusedSectionVars false

/-! ### indices in order of first appearance -/

/-- the list with duplicates removed, first occurrences kept -/
def firstAppearance (names : List String) : List String :=
  names.foldl (fun acc n => if n ∈ acc then acc else acc ++ [n]) []

theorem firstAppearance_eq (names : List String) :
    firstAppearance names = FeL.firstAppearance names := rfl

/-- `firstAppearance` is characterised by: no duplicates, the same members, and the survivors are
    ordered by their first position in the input. -/
theorem firstAppearance_spec (l : List String) :
    (firstAppearance l).Nodup ∧ (∀ x, x ∈ firstAppearance l ↔ x ∈ l) ∧
      (firstAppearance l).Pairwise (fun a b => l.idxOf a < l.idxOf b) :=
  ⟨firstAppearance_nodup l, fun _ => mem_firstAppearance, firstAppearance_ordered l⟩

/-- Name mode: running `getPeerIndex` over any sequence of fields, from a duplicate-free table,
    always succeeds; the final table is the first-appearance order of the old table followed by
    the seen names (duplicate-free, extends the old table, contains exactly the seen names), and
    each returned index is the position of the field's name in the *final* table. -/
theorem index_first_appearance (tbl : NameTable) (htbl : tbl.Nodup) (fs : List (Fe.Field α)) :
    ∃ tbl', indexAll false tbl fs =
        some (fs.map (fun f => ((tbl'.idxOf f.raw : Nat) : Int)), tbl') ∧
      tbl' = firstAppearance (tbl ++ fs.map (·.raw)) ∧ tbl'.Nodup ∧ tbl <+: tbl' ∧
      (∀ n, n ∈ tbl' ↔ n ∈ tbl ∨ n ∈ fs.map (·.raw)) ∧
      ∀ f ∈ fs, tbl'.idxOf f.raw < tbl'.length ∧ tbl'[tbl'.idxOf f.raw]? = some f.raw := by
  refine ⟨faFrom tbl (fs.map (·.raw)), indexAll_name tbl fs, ?_, faFrom_nodup htbl _,
    faFrom_prefix _ _, fun n => mem_faFrom, ?_⟩
  · rw [firstAppearance_eq]; exact faFrom_eq_firstAppearance htbl _
  · intro f hf
    have hm : f.raw ∈ faFrom tbl (fs.map (·.raw)) :=
      mem_faFrom.mpr (Or.inr (List.mem_map.mpr ⟨f, hf, rfl⟩))
    exact ⟨List.idxOf_lt_length_iff.mpr hm, List.getElem?_idxOf hm⟩

theorem idxOf_name_iff {tbl : NameTable} {f : Fe.Field α} {i : Int} :
    IdxOf false tbl f i ↔ f.raw ∈ tbl ∧ i = ((tbl.idxOf f.raw : Nat) : Int) := by
  unfold IdxOf
  rw [if_neg Bool.false_ne_true]

theorem getPeerIndex_IdxOf {tbl tbl1 tbl2 : NameTable} {f : Fe.Field α} {i : Int}
    (h : getPeerIndex false tbl f = some (i, tbl1)) (hext : tbl1 <+: tbl2) :
    IdxOf false tbl2 f i := by
  rw [getPeerIndex_name] at h
  obtain ⟨rfl, rfl⟩ := Prod.mk.inj (Option.some.inj h)
  have hm1 : f.raw ∈ faStep tbl f.raw := mem_faStep.mpr (Or.inr rfl)
  exact idxOf_name_iff.mpr ⟨hext.subset hm1, by rw [idxOf_of_prefix hext hm1]⟩

/-- Indices are stable: once `getPeerIndex` has answered `i` for a field, it answers `i` again,
    without changing the table, in every later state of the table. -/
theorem index_stable {tbl tbl1 tbl2 : NameTable} {f : Fe.Field α} {i : Int}
    (h : getPeerIndex false tbl f = some (i, tbl1)) (hext : tbl1 <+: tbl2) :
    getPeerIndex false tbl2 f = some (i, tbl2) := by
  obtain ⟨hm, rfl⟩ := idxOf_name_iff.mp (getPeerIndex_IdxOf h hext)
  have : faStep tbl2 f.raw = tbl2 := by unfold faStep; rw [if_pos hm]
  rw [getPeerIndex_name, this]

/-- the names the CLI looks up, in the order it looks them up: local trust (`from`, `to` record by
    record), then pre-trust, then initial trust; header records skipped -/
def nameStream (hasHeader : Bool) (lt : List (Record α)) (pt it : Option (List (Record α))) :
    List String :=
  mNames (dataRecs hasHeader lt) ++ optVNames hasHeader pt ++ optVNames hasHeader it

/-- The name table of the request is the first-appearance order of the whole name stream: one
    table is shared by the three files. -/
theorem request_peerIds {hasHeader : Bool} {lt : List (Record α)}
    {pt it : Option (List (Record α))} {req : CliRequest α}
    (h : cliBuildRequest false hasHeader lt pt it = some req) :
    req.peerIds = firstAppearance (nameStream hasHeader lt pt it) := by
  obtain ⟨t1, t2, h1, h2, h3⟩ := cliBuildRequest_inv h
  have e1 := (cliLoadMatrix_spec h1).2.1
  have e2 := loadOptV_tbl h2
  have e3 := loadOptV_tbl h3
  rw [e3, e2, e1]
  simp only [tblAfter, Bool.false_eq_true, if_false]
  rw [firstAppearance_eq]
  unfold FeL.firstAppearance nameStream
  rw [faFrom_append, faFrom_append]

/-- raw mode keeps the name table empty -/
theorem request_peerIds_raw {hasHeader : Bool} {lt : List (Record α)}
    {pt it : Option (List (Record α))} {req : CliRequest α}
    (h : cliBuildRequest true hasHeader lt pt it = some req) : req.peerIds = [] := by
  obtain ⟨t1, t2, h1, h2, h3⟩ := cliBuildRequest_inv h
  rw [loadOptV_tbl h3, loadOptV_tbl h2, (cliLoadMatrix_spec h1).2.1]
  rfl

/-! ### index → name round trip -/

/-- `getPeerId` in name mode is the table lookup at a non-negative index (the length test of the
    code repeats what the lookup does) -/
theorem getPeerId_name (tbl : NameTable) (i : Int) :
    getPeerId false tbl i = if 0 ≤ i then tbl[i.toNat]? else none := by
  unfold getPeerId
  simp only [Bool.false_eq_true, if_false, Bool.and_eq_true, decide_eq_true_eq]
  by_cases h0 : 0 ≤ i
  · by_cases hlt : i.toNat < tbl.length
    · rw [if_pos ⟨h0, hlt⟩, if_pos h0]
    · rw [if_neg (fun h => hlt h.2), if_pos h0, List.getElem?_eq_none_iff.mpr (Nat.le_of_not_lt hlt)]
  · rw [if_neg (fun h => h0 h.1), if_neg h0]

/-- the same, phrased with the index relation used by `request_exact` -/
theorem id_of_IdxOf {tbl : NameTable} {f : Fe.Field α} {i : Int} (h : IdxOf false tbl f i) :
    getPeerId false tbl i = some f.raw := by
  obtain ⟨hm, rfl⟩ := idxOf_name_iff.mp h
  rw [getPeerId_name, if_pos (Int.natCast_nonneg _), Int.toNat_natCast]
  exact List.getElem?_idxOf hm

/-- `getPeerId` inverts `getPeerIndex`, in the table returned and in every later extension. -/
theorem id_index_roundtrip {tbl tbl1 tbl2 : NameTable} {f : Fe.Field α} {i : Int}
    (h : getPeerIndex false tbl f = some (i, tbl1)) (hext : tbl1 <+: tbl2) :
    getPeerId false tbl2 i = some f.raw :=
  id_of_IdxOf (getPeerIndex_IdxOf h hext)

/-- `getPeerId` in name mode: exactly the in-range indices have a name -/
theorem getPeerId_eq_some_iff (tbl : NameTable) (i : Int) (n : String) :
    getPeerId false tbl i = some n ↔ 0 ≤ i ∧ tbl[i.toNat]? = some n := by
  rw [getPeerId_name]
  by_cases h0 : 0 ≤ i
  · rw [if_pos h0, and_iff_right h0]
  · rw [if_neg h0]
    exact ⟨nofun, fun h => absurd h.1 h0⟩

theorem getPeerId_eq_none_iff (tbl : NameTable) (i : Int) :
    getPeerId false tbl i = none ↔ i < 0 ∨ tbl.length ≤ i.toNat := by
  rw [getPeerId_name]
  by_cases h0 : 0 ≤ i
  · rw [if_pos h0, List.getElem?_eq_none_iff, or_iff_right (Int.not_lt.mpr h0)]
  · rw [if_neg h0]
    exact ⟨fun _ => .inl (Int.not_le.mp h0), fun _ => rfl⟩

/-- `hf` says what parsing one element means -/
theorem mapM_eq_some_iff_of {β γ : Type} {f : β → Option γ} {R : β → γ → Prop}
    (hf : ∀ a b, f a = some b ↔ R a b) (l : List β) (xs : List γ) :
    l.mapM f = some xs ↔ List.Forall₂ R l xs :=
  (mapM_eq_some_iff f l xs).trans
    ⟨List.Forall₂.imp fun a b => (hf a b).mp, List.Forall₂.imp fun a b => (hf a b).mpr⟩

theorem mapM_eq_none_iff_of {β γ : Type} {f : β → Option γ} {B : β → Prop}
    (hf : ∀ a, f a = none ↔ B a) (l : List β) : l.mapM f = none ↔ ∃ a ∈ l, B a :=
  (mapM_eq_none_iff f l).trans (exists_congr fun a => and_congr_right fun _ => hf a)

theorem map_mapM_eq_some_iff {β γ δ : Type} {f : β → Option γ} {R : β → γ → Prop}
    (hf : ∀ a b, f a = some b ↔ R a b) (g : List γ → δ) (l : List β) (m : δ) :
    (l.mapM f).map g = some m ↔ ∃ xs, List.Forall₂ R l xs ∧ m = g xs :=
  Option.map_eq_some_iff.trans (exists_congr fun xs =>
    and_congr (mapM_eq_some_iff_of hf l xs) eq_comm)

theorem map_mapM_eq_none_iff {β γ δ : Type} {f : β → Option γ} {B : β → Prop}
    (hf : ∀ a, f a = none ↔ B a) (g : List γ → δ) (l : List β) :
    (l.mapM f).map g = none ↔ ∃ a ∈ l, B a :=
  Option.map_eq_none_iff.trans (mapM_eq_none_iff_of hf l)

/-- `writeOutput`: every response entry is written with the original name of its index and its
    value unchanged … -/
theorem output_exact (tbl : NameTable) (entries : List (Int × α)) (out : List (String × α)) :
    cliOutput false tbl entries = some out ↔
      List.Forall₂ (fun e o => 0 ≤ e.1 ∧ tbl[e.1.toNat]? = some o.1 ∧ o.2 = e.2) entries out := by
  refine mapM_eq_some_iff_of (fun e o => ?_) entries out
  show (getPeerId false tbl e.1).map (fun n => (n, e.2)) = some o ↔ _
  rw [Option.map_eq_some_iff]
  constructor
  · rintro ⟨n, hn, rfl⟩
    obtain ⟨h0, h⟩ := (getPeerId_eq_some_iff tbl e.1 n).mp hn
    exact ⟨h0, h, rfl⟩
  · rintro ⟨h0, h, h2⟩
    exact ⟨o.1, (getPeerId_eq_some_iff tbl e.1 o.1).mpr ⟨h0, h⟩, by rw [← h2]⟩

/-- … and an index outside the table (negative, or beyond the last name) is an error: nothing
    is written. -/
theorem output_unknown_index (tbl : NameTable) (entries : List (Int × α)) :
    cliOutput false tbl entries = none ↔ ∃ e ∈ entries, e.1 < 0 ∨ tbl.length ≤ e.1.toNat :=
  mapM_eq_none_iff_of (f := fun e : Int × α => (getPeerId false tbl e.1).map fun n => (n, e.2))
    (fun e => Option.map_eq_none_iff.trans (getPeerId_eq_none_iff tbl e.1)) entries

/-- Round trip through a request: the index the CLI sent for a field is written back as that
    field's name. -/
theorem output_roundtrip {tbl : NameTable} {f : Fe.Field α} {i : Int} (h : IdxOf false tbl f i)
    (v : α) : cliOutput false tbl [(i, v)] = some [(f.raw, v)] := by
  rw [output_exact]
  have := (getPeerId_eq_some_iff tbl i f.raw).mp (id_of_IdxOf h)
  exact List.Forall₂.cons ⟨this.1, this.2, rfl⟩ List.Forall₂.nil

/-- raw mode writes the decimal rendering of the index -/
theorem output_raw (tbl : NameTable) (entries : List (Int × α)) :
    cliOutput true tbl entries = some (entries.map fun e => (toString e.1, e.2)) := by
  unfold cliOutput
  rw [mapM_eq_some_iff]
  induction entries with
  | nil => exact List.Forall₂.nil
  | cons e es ih => exact List.Forall₂.cons rfl ih

/-! ### the request contains exactly the CSV's arcs, values and sizes -/

/-- The request built from the CSV files contains, record by record, exactly the listed arcs:
    entry `k` of the inline local trust is `(idx from, idx to, value)` of data record `k`
    (`value` = the parsed third field, `Scalar.one` for a two-field record); the inline size is
    the highest index used + 1; likewise for the pre-trust and initial-trust vectors (one- or
    two-field records).  `idx` is relative to the final, shared name table `req.peerIds`
    (name mode) resp. the `ParseInt` value (raw mode) — see `FeL.IdxOf`. -/
theorem request_exact {raw hasHeader : Bool} {lt : List (Record α)}
    {pt it : Option (List (Record α))} {req : CliRequest α}
    (h : cliBuildRequest raw hasHeader lt pt it = some req) :
    List.Forall₂ (MRel raw req.peerIds) (dataRecs hasHeader lt) req.localTrust.entries ∧
      MSizeExact req.localTrust ∧
      VecExact raw hasHeader req.peerIds pt req.preTrust ∧
      VecExact raw hasHeader req.peerIds it req.initialTrust := by
  obtain ⟨t1, t2, h1, h2, h3⟩ := cliBuildRequest_inv h
  obtain ⟨_, e1, hrel, hsz, h0⟩ := cliLoadMatrix_spec h1
  have p2 : t1 <+: t2 := by rw [loadOptV_tbl h2]; exact tblAfter_prefix _ _ _
  have p3 : t2 <+: req.peerIds := by rw [loadOptV_tbl h3]; exact tblAfter_prefix _ _ _
  refine ⟨?_, mSizeExact_of_fold hsz h0, vecExact_of_load h2 p3,
    vecExact_of_load h3 (List.prefix_refl _)⟩
  refine List.Forall₂.imp ?_ hrel
  rintro r e ⟨f0, f1, rest, hr, hi, hj, hv⟩
  exact ⟨f0, f1, rest, hr, hi.mono (p2.trans p3), hj.mono (p2.trans p3), hv⟩

/-- In name mode every index in the request is the position of the record's name in
    `req.peerIds`, so `writeOutput` maps it back to that name (`id_of_IdxOf`). -/
theorem request_indices_roundtrip {hasHeader : Bool} {lt : List (Record α)}
    {pt it : Option (List (Record α))} {req : CliRequest α}
    (h : cliBuildRequest false hasHeader lt pt it = some req) :
    List.Forall₂ (fun r e => ∃ f0 f1 rest, r = f0 :: f1 :: rest ∧
        getPeerId false req.peerIds e.1 = some f0.raw ∧
        getPeerId false req.peerIds e.2.1 = some f1.raw)
      (dataRecs hasHeader lt) req.localTrust.entries := by
  refine List.Forall₂.imp ?_ (request_exact h).1
  rintro r e ⟨f0, f1, rest, hr, hi, hj, _⟩
  exact ⟨f0, f1, rest, hr, id_of_IdxOf hi, id_of_IdxOf hj⟩

/-! ### malformed CLI input is refused -/

/-- a local-trust CSV the CLI must refuse: a record (the header included) with a field count
    outside 2..3, no data record, a value field that is not a float, or — raw mode — an index
    field that is not a non-negative integer literal -/
def BadMatrixFile (raw hasHeader : Bool) (recs : List (Record α)) : Prop :=
  (∃ r ∈ recs, r.length < 2 ∨ 3 < r.length) ∨
  dataRecs hasHeader recs = [] ∨
  (∃ r ∈ dataRecs hasHeader recs, ∃ f0 f1 f2, r = [f0, f1, f2] ∧ f2.float = none) ∨
  (raw = true ∧ ∃ r ∈ dataRecs hasHeader recs, ∃ f ∈ r.take 2,
    ∀ i, f.parseInt0 = some i → i < 0)

/-- a trust-vector CSV the CLI must refuse: field count outside 1..2 (header included), no data
    record, a value that is not a float or is negative, or a bad raw index -/
def BadVectorFile (raw hasHeader : Bool) (recs : List (Record α)) : Prop :=
  (∃ r ∈ recs, r.length < 1 ∨ 2 < r.length) ∨
  dataRecs hasHeader recs = [] ∨
  (∃ r ∈ dataRecs hasHeader recs, ∃ f0 f1, r = [f0, f1] ∧
    (f1.float = none ∨ ∃ v, f1.float = some v ∧ lt v zero = true)) ∨
  (raw = true ∧ ∃ r ∈ dataRecs hasHeader recs, ∃ f ∈ r.take 1,
    ∀ i, f.parseInt0 = some i → i < 0)

theorem not_idxOf_raw {tbl : NameTable} {f : Fe.Field α} {i : Int}
    (hneg : ∀ i, f.parseInt0 = some i → i < 0) : ¬ IdxOf true tbl f i := by
  intro hi
  obtain ⟨h1, h2⟩ := idxOf_raw_nonneg hi
  exact Int.not_lt.mpr h2 (hneg _ h1)

theorem exists_nonneg_of_not_neg {o : Option Int} (h : ¬ ∀ i, o = some i → i < 0) :
    ∃ i, o = some i ∧ 0 ≤ i := by
  cases o with
  | none => exact absurd nofun h
  | some i => exact ⟨i, rfl, Int.not_lt.mp fun hlt => h fun j hj => Option.some.inj hj ▸ hlt⟩

theorem cliLoadMatrix_bad {raw hasHeader : Bool} {recs : List (Record α)}
    (hb : BadMatrixFile raw hasHeader recs) (tbl : NameTable) :
    cliLoadMatrix raw hasHeader recs tbl = none := by
  cases hl : cliLoadMatrix raw hasHeader recs tbl with
  | none => rfl
  | some x =>
    exfalso
    obtain ⟨m, tbl'⟩ := x
    obtain ⟨hlen, _, hrel, hsz, h0⟩ := cliLoadMatrix_spec hl
    rcases hb with ⟨r, hr, hbad⟩ | hempty | ⟨r, hr, f0, f1, f2, rfl, hf⟩ | ⟨rfl, r, hr, f, hf, hneg⟩
    · have := hlen r hr; omega
    · rw [hempty] at hrel
      rw [hsz, List.forall₂_nil_left_iff.mp hrel] at h0
      exact h0 rfl
    · obtain ⟨e, _, g0, g1, rest, hreq, _, _, hv⟩ := forall₂_mem_left hrel hr
      simp only [List.cons.injEq] at hreq
      obtain ⟨rfl, rfl, rfl⟩ := hreq
      rcases hv with ⟨hnil, _⟩ | ⟨g2, hg, hfl⟩
      · cases hnil
      · simp only [List.cons.injEq, and_true] at hg
        subst hg
        rw [hf] at hfl; cases hfl
    · obtain ⟨e, _, g0, g1, rest, rfl, hi, hj, _⟩ := forall₂_mem_left hrel hr
      simp only [List.take_succ_cons, List.take_zero, List.mem_cons, List.not_mem_nil,
        or_false] at hf
      rcases hf with rfl | rfl
      · exact not_idxOf_raw hneg hi
      · exact not_idxOf_raw hneg hj

theorem cliLoadVector_bad {raw hasHeader : Bool} {recs : List (Record α)}
    (hb : BadVectorFile raw hasHeader recs) (tbl : NameTable) :
    cliLoadVector raw hasHeader recs tbl = none := by
  cases hl : cliLoadVector raw hasHeader recs tbl with
  | none => rfl
  | some x =>
    exfalso
    obtain ⟨m, tbl'⟩ := x
    obtain ⟨hlen, _, hrel, hsz, h0⟩ := cliLoadVector_spec hl
    rcases hb with ⟨r, hr, hbad⟩ | hempty | ⟨r, hr, f0, f1, rfl, hf⟩ | ⟨rfl, r, hr, f, hf, hneg⟩
    · have := hlen r hr; omega
    · rw [hempty] at hrel
      rw [hsz, List.forall₂_nil_left_iff.mp hrel] at h0
      exact h0 rfl
    · obtain ⟨e, _, g0, rest, hreq, _, hlt, hv⟩ := forall₂_mem_left hrel hr
      simp only [List.cons.injEq] at hreq
      obtain ⟨rfl, rfl⟩ := hreq
      rcases hv with ⟨hnil, _⟩ | ⟨g1, hg, hfl⟩
      · cases hnil
      · simp only [List.cons.injEq, and_true] at hg
        subst hg
        rcases hf with hf | ⟨v, hf, hneg⟩
        · rw [hf] at hfl; cases hfl
        · rw [hf] at hfl
          cases hfl
          rw [hlt] at hneg; cases hneg
    · obtain ⟨e, _, g0, rest, rfl, hi, _⟩ := forall₂_mem_left hrel hr
      simp only [List.take_succ_cons, List.take_zero, List.mem_cons, List.not_mem_nil,
        or_false] at hf
      subst hf
      exact not_idxOf_raw hneg hi

/-- Any malformed file makes the CLI report an error and send nothing. -/
theorem cli_malformed (raw hasHeader : Bool) (lt : List (Record α))
    (pt it : Option (List (Record α)))
    (h : BadMatrixFile raw hasHeader lt ∨
      (∃ recs, pt = some recs ∧ BadVectorFile raw hasHeader recs) ∨
      (∃ recs, it = some recs ∧ BadVectorFile raw hasHeader recs)) :
    cliBuildRequest raw hasHeader lt pt it = none := by
  cases hr : cliBuildRequest raw hasHeader lt pt it with
  | none => rfl
  | some req =>
    exfalso
    obtain ⟨t1, t2, h1, h2, h3⟩ := cliBuildRequest_inv hr
    rcases h with hb | ⟨recs, rfl, hb⟩ | ⟨recs, rfl, hb⟩
    · rw [cliLoadMatrix_bad hb] at h1; cases h1
    · rcases loadOptV_spec h2 with ⟨hn, _⟩ | ⟨recs', v, hs, _, hl⟩
      · cases hn
      · cases hs
        rw [cliLoadVector_bad hb] at hl; cases hl
    · rcases loadOptV_spec h3 with ⟨hn, _⟩ | ⟨recs', v, hs, _, hl⟩
      · cases hn
      · cases hs
        rw [cliLoadVector_bad hb] at hl; cases hl

/-! ### … and nothing else is refused -/

/-- The matrix loader refuses exactly the malformed files. -/
theorem cliLoadMatrix_none_iff (raw hasHeader : Bool) (recs : List (Record α)) (tbl : NameTable) :
    cliLoadMatrix raw hasHeader recs tbl = none ↔ BadMatrixFile raw hasHeader recs := by
  constructor
  · intro h
    by_contra hb
    unfold BadMatrixFile at hb
    simp only [not_or, not_exists, not_and] at hb
    obtain ⟨h1, h2, h3, h4⟩ := hb
    obtain ⟨x, hx⟩ := loadM_go_isSome raw recs hasHeader tbl 0 []
      (fun r hr => by have := h1 r hr; omega)
      (fun r hr => ⟨h3 r hr, fun hraw f hf => exists_nonneg_of_not_neg (h4 hraw r hr f hf)⟩)
      (Or.inr h2)
    unfold cliLoadMatrix at h
    rw [hx] at h
    cases h
  · intro hb; exact cliLoadMatrix_bad hb tbl

/-- The vector loader refuses exactly the malformed files (for a scalar type whose `1` is not
    negative — the loader applies its sign check to the default level too). -/
theorem cliLoadVector_none_iff (h1 : lt (one : α) zero = false) (raw hasHeader : Bool)
    (recs : List (Record α)) (tbl : NameTable) :
    cliLoadVector raw hasHeader recs tbl = none ↔ BadVectorFile raw hasHeader recs := by
  constructor
  · intro h
    by_contra hb
    unfold BadVectorFile at hb
    simp only [not_or, not_exists, not_and] at hb
    obtain ⟨g1, g2, g3, g4⟩ := hb
    obtain ⟨x, hx⟩ := loadV_go_isSome raw recs hasHeader tbl 0 []
      (fun r hr => by have := g1 r hr; omega)
      (fun r hr => ⟨fun f0 f1 hreq => by
          have := g3 r hr f0 f1 hreq
          cases hf : f1.float with
          | none => exact absurd hf this.1
          | some v =>
            refine ⟨v, rfl, ?_⟩
            cases hlt : lt v zero with
            | false => rfl
            | true => exact absurd hlt (this.2 v hf),
        fun _ _ => h1, fun hraw f hf => exists_nonneg_of_not_neg (g4 hraw r hr f hf)⟩)
      (Or.inr g2)
    unfold cliLoadVector at h
    rw [hx] at h
    cases h
  · intro hb; exact cliLoadVector_bad hb tbl

/-- The CLI reports an error exactly for malformed input. -/
theorem cli_refuses_iff (h1 : lt (one : α) zero = false) (raw hasHeader : Bool)
    (lt_ : List (Record α)) (pt it : Option (List (Record α))) :
    cliBuildRequest raw hasHeader lt_ pt it = none ↔
      BadMatrixFile raw hasHeader lt_ ∨
      (∃ recs, pt = some recs ∧ BadVectorFile raw hasHeader recs) ∨
      (∃ recs, it = some recs ∧ BadVectorFile raw hasHeader recs) := by
  constructor
  · intro h
    by_contra hb
    simp only [not_or, not_exists, not_and] at hb
    obtain ⟨b1, b2, b3⟩ := hb
    have optSome : ∀ (o : Option (List (Record α))) (t : NameTable),
        (∀ recs, o = some recs → ¬ BadVectorFile raw hasHeader recs) →
        ∃ x, loadOptV raw hasHeader o t = some x := by
      intro o t ho
      cases o with
      | none => exact ⟨_, rfl⟩
      | some recs =>
        cases hl : cliLoadVector raw hasHeader recs t with
        | none => exact absurd ((cliLoadVector_none_iff h1 raw hasHeader recs t).mp hl) (ho recs rfl)
        | some x => exact ⟨(some x.1, x.2), by simp only [loadOptV, hl, Option.map_some]⟩
    rw [cliBuildRequest_eq] at h
    cases hm : cliLoadMatrix raw hasHeader lt_ [] with
    | none => exact b1 ((cliLoadMatrix_none_iff raw hasHeader lt_ []).mp hm)
    | some x =>
      obtain ⟨m, t1⟩ := x
      rw [hm] at h
      obtain ⟨⟨pv, t2⟩, hp⟩ := optSome pt t1 b2
      obtain ⟨⟨iv, t3⟩, hi⟩ := optSome it t2 b3
      simp only [hp, hi] at h
      cases h
  · exact cli_malformed raw hasHeader lt_ pt it

/-! ### the library CSV readers -/

/-- `ReadPeerNamesFromCsv`: the result is exactly the list of first fields, which must be
    duplicate-free; … -/
theorem readPeerNames_exact (recs : List (Record α)) (ns : List String) :
    readPeerNames recs [] = some ns ↔
      (∀ r ∈ recs, r ≠ []) ∧ ns = recs.map firstName ∧ ns.Nodup := by
  rw [readPeerNames_acc]
  simp only [List.reverse_nil, List.nil_append, List.not_mem_nil, not_false_eq_true, implies_true,
    and_true]
  constructor
  · rintro ⟨h1, rfl, h3⟩; exact ⟨h1, rfl, h3⟩
  · rintro ⟨h1, rfl, h3⟩; exact ⟨h1, rfl, h3⟩

/-- … it is an error iff a record is empty or a name occurs twice. -/
theorem readPeerNames_malformed (recs : List (Record α)) :
    readPeerNames recs [] = none ↔ (∃ r ∈ recs, r = []) ∨ ¬ (recs.map firstName).Nodup := by
  cases h : readPeerNames recs [] with
  | none =>
    simp only [true_iff]
    by_contra hc
    simp only [not_or, not_exists, not_and, not_not] at hc
    have := (readPeerNames_exact recs (recs.map firstName)).mpr ⟨fun r hr => hc.1 r hr, rfl, hc.2⟩
    rw [h] at this; cases this
  | some ns =>
    simp only [reduceCtorEq, false_iff, not_or, not_exists, not_and, not_not]
    obtain ⟨h1, rfl, h3⟩ := (readPeerNames_exact recs ns).mp h
    exact ⟨h1, h3⟩

/-- Names resolve through the peer list: the index of a name is its (first) position. -/
theorem parsePeerId_by_name (ns : List String) (f : Fe.Field α) (i : Nat) :
    parsePeerId (some ns) f = some i ↔
      i < ns.length ∧ ns[i]? = some f.raw ∧ ∀ j, j < i → ns[j]? ≠ some f.raw :=
  parsePeerId_names ns f i

/-- Without a peer list an index is a non-negative integer literal. -/
theorem parsePeerId_by_index (f : Fe.Field α) (i : Nat) :
    parsePeerId none f = some i ↔ ∃ z : Int, f.atoi = some z ∧ 0 ≤ z ∧ z.toNat = i :=
  parsePeerId_none f i

/-- the dimension the readers use: highest index + 1, 0 without records; every arc is in range
    (so `NewCSRMatrix` cannot index outside its row table) -/
theorem cooDim_spec (coos : List (Coo α)) :
    (∀ c ∈ coos, c.row < cooDim coos ∧ c.col < cooDim coos) ∧ (coos = [] → cooDim coos = 0) ∧
      (coos ≠ [] → ∃ c ∈ coos, c.row + 1 = cooDim coos ∨ c.col + 1 = cooDim coos) :=
  ⟨fun _ hc => lt_cooDim hc, fun h => by rw [h]; rfl, cooDim_attained⟩

theorem entDim_spec (es : List (Entry α)) :
    (∀ e ∈ es, e.idx < entDim es) ∧ (es = [] → entDim es = 0) ∧
      (es ≠ [] → ∃ e ∈ es, e.idx + 1 = entDim es) :=
  ⟨fun _ he => lt_entDim he, fun h => by rw [h]; rfl, entDim_attained⟩

/-- `ReadLocalTrustFromCsv` succeeds iff every record denotes an arc, and then it is exactly
    `NewCSRMatrix(dim, dim, arcs, false)` over the listed arcs in file order, `dim` = highest
    index + 1 (`cooDim_spec`). -/
theorem reader_exact_localTrust (names : Option (List String)) (recs : List (Record α))
    (m : CSM α) :
    readLocalTrust names recs = some m ↔
      ∃ coos, List.Forall₂ (ArcOf names) recs coos ∧
        m = CSM.newCSR (cooDim coos) (cooDim coos) coos false := by
  rw [readLocalTrust_eq]
  exact map_mapM_eq_some_iff (ltParse_eq_some_iff names) _ recs m

/-- … and fails iff some record is malformed: fewer than two fields, a `from`/`to` that does not
    resolve (unknown name, resp. not a non-negative integer literal), or a third field that is
    not a float. -/
theorem reader_malformed_localTrust (names : Option (List String)) (recs : List (Record α)) :
    readLocalTrust names recs = none ↔
      ∃ r ∈ recs, r.length < 2 ∨ ∃ f0 f1 rest, r = f0 :: f1 :: rest ∧
        (parsePeerId names f0 = none ∨ parsePeerId names f1 = none ∨
          ∃ f2 rest', rest = f2 :: rest' ∧ f2.float = none) := by
  rw [readLocalTrust_eq]
  exact map_mapM_eq_none_iff (ltParse_eq_none_iff names) _ recs

/-- `ReadTrustVectorFromCsv`: exactly `NewVector(dim, entries)` over the listed entries. -/
theorem reader_exact_trustVector (names : Option (List String)) (recs : List (Record α))
    (v : Vec α) :
    readTrustVector names recs = some v ↔
      ∃ es, List.Forall₂ (EntOf names) recs es ∧ v = Vec.new (entDim es) es := by
  rw [readTrustVector_eq]
  exact map_mapM_eq_some_iff (tvParse_eq_some_iff names) _ recs v

theorem reader_malformed_trustVector (names : Option (List String)) (recs : List (Record α)) :
    readTrustVector names recs = none ↔
      ∃ r ∈ recs, r = [] ∨ ∃ f0 rest, r = f0 :: rest ∧
        (parsePeerId names f0 = none ∨ ∃ f1 rest', rest = f1 :: rest' ∧ f1.float = none) := by
  rw [readTrustVector_eq]
  exact map_mapM_eq_none_iff (tvParse_eq_none_iff names) _ recs

/-! ### non-vacuity: concrete CSV record lists (at `α := Rat`) -/

section examples

private def fld (s : String) (a : Option Int := none) (x : Option Rat := none) : Fe.Field Rat :=
  ⟨s, a, a, x⟩

/-- local trust `alice,bob,2` / `bob,carol` / `alice,carol,1/2` -/
private def ltRecs : List (Record Rat) :=
  [[fld "alice", fld "bob", fld "2" (some 2) (some 2)],
   [fld "bob", fld "carol"],
   [fld "alice", fld "carol", fld "0.5" none (some (1/2))]]
/-- pre-trust `carol` / `dave,3` -/
private def ptRecs : List (Record Rat) := [[fld "carol"], [fld "dave", fld "3" (some 3) (some 3)]]
private def hdrM : Record Rat := [fld "from", fld "to", fld "value"]
private def hdrV : Record Rat := [fld "peer", fld "value"]

private def viewM (r : Option (CliRequest Rat)) : Option (Int × List (Int × Int × Rat)) :=
  r.map fun q => (q.localTrust.size, q.localTrust.entries)
private def viewV (r : Option (CliRequest Rat)) : Option (Option (Int × List (Int × Rat))) :=
  r.map fun q => q.preTrust.map (fun v => (v.size, v.entries))
private def viewT (r : Option (CliRequest Rat)) : Option (List String) := r.map (·.peerIds)

/-- a request built in name mode, header records skipped, table shared by both files -/
example : viewM (cliBuildRequest false true (hdrM :: ltRecs) (some (hdrV :: ptRecs)) none) =
    some (3, [(0, 1, 2), (1, 2, 1), (0, 2, 1/2)]) := by decide +kernel
example : viewV (cliBuildRequest false true (hdrM :: ltRecs) (some (hdrV :: ptRecs)) none) =
    some (some (4, [(2, 1), (3, 3)])) := by decide +kernel
example : viewT (cliBuildRequest false true (hdrM :: ltRecs) (some (hdrV :: ptRecs)) none) =
    some ["alice", "bob", "carol", "dave"] := by decide +kernel
/-- raw mode: the indices are the `ParseInt` values, no table -/
example : viewM (cliBuildRequest true false [[fld "4" (some 4), fld "0" (some 0)]] none none) =
    some (5, [(4, 0, 1)]) := by decide +kernel

example : firstAppearance (nameStream true (hdrM :: ltRecs) (some (hdrV :: ptRecs)) none) =
    ["alice", "bob", "carol", "dave"] := by decide +kernel

/-- the output maps indices back to names; an unknown index is an error -/
example : cliOutput false ["alice", "bob", "carol", "dave"] [(2, (1/2 : Rat)), (0, 1/4)] =
    some [("carol", 1/2), ("alice", 1/4)] := by decide +kernel
example : cliOutput false ["alice", "bob"] [(2, (1 : Rat))] = none := by decide +kernel
example : cliOutput false ["alice", "bob"] [(-1, (1 : Rat))] = none := by decide +kernel

/-- malformed files are refused: header with 4 fields, no data records, non-numeric value,
    negative vector value, negative raw index -/
example : BadMatrixFile false true ([fld "a", fld "b", fld "c", fld "d"] :: ltRecs) :=
  Or.inl ⟨_, List.mem_cons_self, Or.inr (by decide)⟩
example : cliBuildRequest false true ([fld "a", fld "b", fld "c", fld "d"] :: ltRecs) none none
    = none := by decide +kernel
example : cliBuildRequest false true [hdrM] none none = none := by decide +kernel
example : cliBuildRequest false false [[fld "a", fld "b", fld "x"]] none none = none := by
  decide +kernel
example : cliBuildRequest false false ltRecs (some [[fld "a", fld "-1" (some (-1)) (some (-1))]])
    none = none := by decide +kernel
example : cliBuildRequest true false [[fld "-1" (some (-1)), fld "0" (some 0)]] none none = none := by
  decide +kernel

/-- the library readers: by name … -/
example : (readLocalTrust (some ["alice", "bob", "carol"]) ltRecs).map (fun m => (m.major, m.minor,
      m.rows.map (fun r => r.map fun e => (e.idx, e.val)))) =
    some (3, 3, [[(1, 2), (2, 1/2)], [(2, 1)], []]) := by decide +kernel
/-- … by index … -/
example : (readTrustVector none [[fld "2" (some 2)], [fld "0" (some 0), fld "3" none (some 3)]]).map
      (fun v => (v.dim, v.entries.map fun e => (e.idx, e.val))) =
    some (3, [(0, 3), (2, 1)]) := by decide +kernel
/-- … and their errors: unknown name, negative index, duplicate / empty name record -/
example : readLocalTrust (some ["alice", "bob"]) ltRecs = none := by decide +kernel
example : readTrustVector none [[fld "-2" (some (-2))]] = none := by decide +kernel
example : readPeerNames ([[fld "a"], [fld "b"], [fld "a"]] : List (Record Rat)) [] = none := by
  decide +kernel
example : readPeerNames ([[fld "a"], []] : List (Record Rat)) [] = none := by decide +kernel
example : readPeerNames ([[fld "a", fld "x"], [fld "b"]] : List (Record Rat)) [] = some ["a", "b"] := by
  decide +kernel

end examples

end EtVerif.C19
