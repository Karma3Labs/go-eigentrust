/-
  TrGo08c — C08 about the PIPELINE of the two translated Go functions (Gen/Translated.lean, regenerated from the
  current source on every run): `ExtractDistrust(L)` and then `DiscountTrustVector(t, D)` on the very matrix the
  first call returned.  The two sites cooperate: the discount is right only if the matrix the first produces has
  the shape and sign the second assumes.  `go_extract_then_discount` states the end-to-end formula in terms of
  the ORIGINAL local trust `L` and the trust part `P` left in its place:  t'_j = t_j − Σ_i t_i · (P_ij − L_ij),
  with a fuel bound for the second call taken from `L` alone.  `go_extract_twice`: a second `ExtractDistrust` on
  the trust part finds nothing to extract.  Compositions of `TrGo08.go_extract_spec`, `go_extract_ok` and
  `go_discount_spec`; property theorems, plus the two list lemmas `sum_len_le` and `splitRow_of_nonneg`.
-/
import EtVerif.Props.TrGo08

namespace EtVerif.TrGo08c
open EtVerif EtVerif.GoSem EtVerif.Gen EtVerif.Tr EtVerif.Distrust Scalar EtVerif.TrGo08

variable {K : Type} [Field K] [LinearOrder K]

/-- Bounds `nnz(D)` by `nnz(L)`, so that the fuel bound of the second call can be stated from `L` alone. -/
theorem sum_len_le {β : Type} : ∀ (A B : List (List β)), A.length = B.length →
    (∀ i, (A.getD i []).length ≤ (B.getD i []).length) →
    (A.map List.length).sum ≤ (B.map List.length).sum := by
  intro A
  induction A with
  | nil =>
    intro B _ _
    exact Nat.zero_le _
  | cons a A ih =>
    intro B hl h
    cases B with
    | nil => exact absurd hl (Nat.succ_ne_zero _)
    | cons b B =>
      exact Nat.add_le_add (h 0) (ih B (Nat.succ.inj hl) (fun i => h (i + 1)))

/-- `D, err := ExtractDistrust(L)` then `DiscountTrustVector(t, D)`: for every square `L` whose row table has
    `major` rows, every well-formed score vector `t`, every capacity behaviour, fuel ≥ `major` for the first call
    and ≥ `|t| + nnz(L) + 1` for the second: both calls return (no panic) a nil error, `L`'s place holds the trust
    part `P` (all stored values ≥ 0), and the discounted vector has `t`'s dimension with
    `t'_j = t_j − Σ_i t_i · (P_ij − L_ij)` — the negative part of the ORIGINAL matrix, weighted by the
    undiscounted scores. -/
theorem go_extract_then_discount [IsStrictOrderedRing K] (capO : Nat → Int) (fuel fuel' : Nat)
    (L : CSM K) (t : Vec K) (hrows : L.rows.length = L.major) (hf : L.major ≤ fuel)
    (hsq : L.major = L.minor) (ht : WF t.dim t.entries)
    (hf' : t.entries.length + (L.rows.map List.length).sum + 1 ≤ fuel') :
    ∃ st P gD st' out, Gen.ExtractDistrust fuel (toGM L) = .ok (st, (gD, none)) ∧ st.localTrust = toGM P ∧
      (∀ r ∈ P.rows, ∀ e ∈ r, 0 ≤ e.val) ∧
      Gen.DiscountTrustVector capO fuel' (toGV t) gD = .ok (st', none) ∧ st'.t = toGV out ∧
      out.dim = t.dim ∧
      ∀ j, denE out.entries j = denE t.entries j -
        ∑ i ∈ Finset.range t.dim, denE t.entries i * (denRows P.rows i j - denRows L.rows i j) := by
  obtain ⟨st, P, D, ha, hb, hsplit, hP, _, _, hcount, hdims, _⟩ := go_extract_spec fuel L hrows hf hsq
  have hlen : (D.rows.map List.length).sum ≤ (L.rows.map List.length).sum :=
    sum_len_le D.rows L.rows hdims.2.2.2.2.2 (fun i => hcount i ▸ Nat.le_add_left _ _)
  obtain ⟨st', out, ha', hb', hd', hspec⟩ := go_discount_spec capO fuel' t D
    (Nat.le_trans (Nat.add_le_add_right (Nat.add_le_add_left hlen _) 1) hf') ht
  refine ⟨st, P, toGM D, st', out, ha, hb, hP, ha', hb', hd', fun j => ?_⟩
  rw [hspec j]
  congr 1
  refine Finset.sum_congr rfl (fun i _ => ?_)
  rw [hsplit i j]; ring

theorem splitRow_of_nonneg (r : Row K) (h : ∀ e ∈ r, 0 ≤ e.val) : splitRow r = (r, []) := by
  unfold splitRow
  have h1 : r.filter (fun e => Scalar.ge e.val Scalar.zero) = r :=
    List.filter_eq_self.mpr (fun e he => by simpa [Scalar.ge] using h e he)
  have h2 : r.filter (fun e => !Scalar.ge e.val Scalar.zero) = [] :=
    List.filter_eq_nil_iff.mpr (fun e he => by simpa [Scalar.ge] using h e he)
  rw [h1, h2]; rfl

/-- Extraction is idempotent, as two successive Go calls: `ExtractDistrust` applied again to the trust part the
    first call left in place returns (no panic, nil error) a distrust matrix with NO stored entry and leaves the
    trust part exactly as it was. -/
theorem go_extract_twice [IsStrictOrderedRing K] (fuel : Nat) (L : CSM K)
    (hrows : L.rows.length = L.major) (hf : L.major ≤ fuel) (hsq : L.major = L.minor) :
    ∃ st P gD st' D', Gen.ExtractDistrust fuel (toGM L) = .ok (st, (gD, none)) ∧ st.localTrust = toGM P ∧
      Gen.ExtractDistrust fuel st.localTrust = .ok (st', (toGM D', none)) ∧ st'.localTrust = st.localTrust ∧
      D'.rows.length = L.major ∧ ∀ r ∈ D'.rows, r = [] := by
  obtain ⟨st, P, D, ha, hb, _, hP, _, _, _, hdims, _⟩ := go_extract_spec fuel L hrows hf hsq
  obtain ⟨d1, d2, d3, _⟩ := hdims
  obtain ⟨st', P', D', ha', hb', hm⟩ := go_extract_ok fuel P (d3.trans (hrows.trans d1.symm)) (d1 ▸ hf)
    (d1.trans (hsq.trans d2.symm))
  obtain ⟨_, hP', hD'⟩ := extractDistrust_ok hm
  have hsplit : P.rows.map splitRow = P.rows.map (fun r => (r, ([] : Row K))) :=
    List.map_congr_left (fun r hr => splitRow_of_nonneg r (hP r hr))
  rw [hsplit] at hP' hD'
  have hPP : P' = P := by
    rw [hP']; simp [List.map_map, Function.comp_def]
  refine ⟨st, P, toGM D, st', D', ha, hb, by rw [hb]; exact ha', by rw [hb', hPP, hb], ?_, ?_⟩
  · rw [hD']
    simp only [List.length_map]
    exact d3.trans hrows
  · intro r hr
    rw [hD'] at hr
    simp only [List.map_map, List.mem_map, Function.comp_apply] at hr
    obtain ⟨_, _, rfl⟩ := hr
    rfl

/-- Non-vacuity: a square two-peer matrix with a negative entry, a well-formed score vector. -/
example : ({ major := 2, minor := 2, rows := [[⟨1, -1⟩], [⟨0, 2⟩]] } : CSM ℚ).rows.length = 2 ∧
    WF 2 ([⟨0, 1/2⟩, ⟨1, 1/2⟩] : List (Entry ℚ)) := by
  unfold WF Sorted
  decide

end EtVerif.TrGo08c
