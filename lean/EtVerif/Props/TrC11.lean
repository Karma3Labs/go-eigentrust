/-
  TrC11 — the CURRENT SOURCE of `mergeSpan` / `Vector.Merge` (translated by tools/go2lean on every run)
  computes exactly the model's `mergeSpan` / `Vec.merge`; composed with Props/C11 this states the
  overlay property about the translated Go code itself.  Property theorems only.
-/
import EtVerif.Proofs.TrVecMerge
import EtVerif.Props.C11

namespace EtVerif.TrC11
open EtVerif EtVerif.GoSem EtVerif.Gen EtVerif.Tr Scalar

variable {α : Type} [Scalar α]

set_option linter.unusedSectionVars false

/-- matrix.go `mergeSpan` = the model's `mergeSpan`: all seven branches, for every pair of spans (sorted or
    not), every fuel ≥ the number of entries (termination included), no panic. -/
theorem mergeSpan_refines (fuel : Nat) (s1 s2 : List (Entry α)) (hf : s1.length + s2.length ≤ fuel) :
    (Gen.mergeSpan fuel (toGs s1) (toGs s2)).map (fun r => r.2) = .ok (toGs (EtVerif.mergeSpan s1 s2)) :=
  Tr.mergeSpan_refines fuel s1 s2 hf

/-- vector.go `Vector.Merge` = `Vec.merge` (grow to the larger dimension, overlay, reset the argument). -/
theorem vector_merge_refines (fuel : Nat) (v v2 : Vec α)
    (hf : v.entries.length + v2.entries.length ≤ fuel) :
    (Vector_Merge fuel (toGV v) (toGV v2)).map (fun r => (r.1.v, r.1.v2)) =
      .ok (toGV (v.merge v2).1, toGV (v.merge v2).2) :=
  Vector_Merge_refines fuel v v2 hf

/-- The property, on the translated Go code: for index-sorted spans over an ordered field, the Go
    `mergeSpan` returns (without panicking, within the fuel) a span that is index-sorted and is, cell by
    cell, the update where the update stores an entry (an explicit zero erasing the cell) and the old
    content elsewhere. -/
theorem go_mergeSpan_overlay {K : Type} [Field K] [LinearOrder K] (fuel : Nat)
    (s1 s2 : List (Entry K)) (h1 : Sorted s1) (h2 : Sorted s2) (hf : s1.length + s2.length ≤ fuel) :
    ∃ st out, Gen.mergeSpan fuel (toGs s1) (toGs s2) = .ok (st, toGs out) ∧ Sorted out ∧
      ∀ i, denE out i = if ∃ e ∈ s2, e.idx = i then denE s2 i else denE s1 i := by
  obtain ⟨r, hr, hout⟩ := map_eq_ok (Tr.mergeSpan_refines fuel s1 s2 hf)
  refine ⟨r.1, EtVerif.mergeSpan s1 s2, ?_, C11.sorted_mergeSpan h1 h2, fun i => C11.den_mergeSpan h1 h2 i⟩
  rw [hr, ← hout]

/-- …and the same for `Vector.Merge`: dimension = max, argument emptied, well-formed, overlay. -/
theorem go_vector_merge_overlay {K : Type} [Field K] [LinearOrder K] (fuel : Nat) (v v2 : Vec K)
    (h : WF v.dim v.entries) (h2 : WF v2.dim v2.entries)
    (hf : v.entries.length + v2.entries.length ≤ fuel) :
    ∃ st out, Vector_Merge fuel (toGV v) (toGV v2) = .ok (st, ()) ∧ st.v = toGV out ∧
      st.v2 = toGV (⟨0, []⟩ : Vec K) ∧ out.dim = max v.dim v2.dim ∧ WF out.dim out.entries ∧
      ∀ i, denE out.entries i = if ∃ e ∈ v2.entries, e.idx = i then denE v2.entries i else denE v.entries i := by
  obtain ⟨r, hr, hout⟩ := map_eq_ok (Vector_Merge_refines fuel v v2 hf)
  obtain ⟨hd, hz, hwf, hden⟩ := C11.merge_vec v v2 h h2
  have h1 := congrArg Prod.fst hout
  have h2' := congrArg Prod.snd hout
  simp only at h1 h2'
  refine ⟨r.1, (v.merge v2).1, ?_, h1, ?_, hd, hwf, hden⟩
  · rw [hr]
  · rw [h2', hz]

/-- non-vacuity of the hypotheses. -/
example : Sorted ([⟨0, 1⟩, ⟨2, 3⟩] : List (Entry ℚ)) ∧ Sorted ([⟨1, 5⟩, ⟨2, 0⟩] : List (Entry ℚ)) := by
  unfold Sorted
  decide

end EtVerif.TrC11
