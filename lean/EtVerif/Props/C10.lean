/-
  C10 — Matrix construction, transpose and resize equal their dense counterparts.
  Property theorems; the lemmas on the model are in Proofs/Merge.lean, Proofs/Matrix.lean.

  `denRows rows i j` is the dense value of a row table at `(i, j)` (`denE (rows.getD i []) j`);
  `Sorted es` = strictly increasing indices; `WF d es` = `Sorted es` and all indices `< d`;
  `WFM M` = `M.rows.length = M.major` and every row `WF M.minor` ("every stored column index is
  within the current dimension"); `HiddenClean M` = every row of `Entries[len:cap]` is nil.
-/
import EtVerif.Proofs.Matrix
import Mathlib.Algebra.Order.Field.Rat
import Mathlib.Tactic.NormNum

namespace EtVerif.C10
open EtVerif

variable {K : Type} [Field K] [LinearOrder K]

set_option linter.unusedSectionVars false

/-! ## NewCSRMatrix -/

/-- Dense content: with pairwise distinct coordinates (and the stored entries' rows in range,
    which Go needs not to panic) every listed cell has its listed value, every other cell is 0. -/
theorem newCSR_cells (rows cols : Nat) (es : List (Coo K)) (inc : Bool)
    (hd : (es.map (fun e => (e.row, e.col))).Nodup)
    (hr : ∀ e ∈ es, (e.val ≠ 0 ∨ inc = true) → e.row < rows) :
    (∀ e ∈ es, denRows (CSM.newCSR rows cols es inc).rows e.row e.col = e.val) ∧
    (∀ i j, (∀ e ∈ es, ¬ (e.row = i ∧ e.col = j)) →
      denRows (CSM.newCSR rows cols es inc).rows i j = 0) :=
  ⟨fun _ he => Mx.newCSR_den_of_mem hd hr he, fun _ _ h => Mx.newCSR_den_of_not_mem h⟩

/-- Stored cells: row `i` stores exactly (as a multiset) the listed cells of that row whose
    value is non-zero, or all of them when zeros are requested.  No distinctness needed. -/
theorem newCSR_stored (rows cols : Nat) (es : List (Coo K)) (inc : Bool) (i : Nat)
    (hi : i < rows) :
    ((CSM.newCSR rows cols es inc).rows.getD i []).Perm
      ((es.filter (fun e => decide (e.row = i) && (decide (e.val ≠ 0) || inc))).map
        (fun e => ⟨e.col, e.val⟩)) :=
  Mx.newCSR_row_perm rows cols es inc hi

/-- Zeros are kept only on request. -/
theorem newCSR_no_zero (rows cols : Nat) (es : List (Coo K)) (i : Nat) :
    ∀ x ∈ (CSM.newCSR rows cols es false).rows.getD i [], x.val ≠ 0 :=
  Mx.newCSR_no_zero rows cols es i

/-- Every row is sorted by column (weakly, for arbitrary input). -/
theorem newCSR_row_sorted (rows cols : Nat) (es : List (Coo K)) (inc : Bool) (i : Nat) :
    ((CSM.newCSR rows cols es inc).rows.getD i []).Pairwise (fun a b => a.idx ≤ b.idx) :=
  Mx.newCSR_row_sortedLe rows cols es inc i

/-- With distinct coordinates and stored columns in range the result is well-formed (rows
    strictly sorted, one row per row index, indices below `cols`), nothing hidden. -/
theorem newCSR_wf (rows cols : Nat) (es : List (Coo K)) (inc : Bool)
    (hd : (es.map (fun e => (e.row, e.col))).Nodup)
    (hc : ∀ e ∈ es, (e.val ≠ 0 ∨ inc = true) → e.col < cols) :
    WFM (CSM.newCSR rows cols es inc) ∧ HiddenClean (CSM.newCSR rows cols es inc) ∧
    (CSM.newCSR rows cols es inc).major = rows ∧ (CSM.newCSR rows cols es inc).minor = cols ∧
    (CSM.newCSR rows cols es inc).rows.length = rows :=
  ⟨Mx.newCSR_wfm hd hc, Mx.hiddenClean_of_hidden_nil rfl, rfl, rfl, Mx.newCSR_length rows cols es inc⟩

/-- The result does not depend on the order of the coordinate list. -/
theorem newCSR_perm (rows cols : Nat) (es es' : List (Coo K)) (inc : Bool)
    (hd : (es.map (fun e => (e.row, e.col))).Nodup) (hp : es.Perm es') :
    CSM.newCSR rows cols es inc = CSM.newCSR rows cols es' inc :=
  Mx.newCSR_perm hd hp

example :
    let es : List (Coo ℚ) := [⟨1, 2, 5⟩, ⟨0, 0, 1⟩, ⟨1, 0, 0⟩, ⟨2, 1, 7⟩]
    (es.map (fun e => (e.row, e.col))).Nodup ∧
    (∀ e ∈ es, (e.val ≠ 0 ∨ false = true) → e.row < 3) ∧
    (∀ e ∈ es, (e.val ≠ 0 ∨ false = true) → e.col < 3) := by
  decide +kernel

/-! ## Transpose -/

/-- Transpose is the dense transpose. -/
theorem transpose_den (M : CSM K) (hw : WFM M) (i j : Nat) :
    denRows M.transpose.rows j i = denRows M.rows i j :=
  Mx.transpose_den hw i j

/-- Dimensions are swapped. -/
theorem transpose_dims (M : CSM K) :
    M.transpose.major = M.minor ∧ M.transpose.minor = M.major := ⟨rfl, rfl⟩

/-- The transpose of a well-formed matrix is well-formed (one row per column, strictly sorted,
    indices below the old major dimension) and has nothing hidden. -/
theorem transpose_wf (M : CSM K) (hw : WFM M) :
    WFM M.transpose ∧ HiddenClean M.transpose ∧ M.transpose.rows.length = M.minor :=
  ⟨Mx.transpose_wfm hw, Mx.hiddenClean_of_hidden_nil rfl, Mx.transpose_length M⟩

/-- The stored cells of the transpose are exactly the mirrored stored cells (explicit zeros
    included). -/
theorem transpose_stored (M : CSM K) (j : Nat) (x : Entry K) :
    x ∈ M.transpose.rows.getD j [] ↔
      j < M.minor ∧ (⟨j, x.val⟩ : Entry K) ∈ M.rows.getD x.idx [] :=
  Mx.mem_transpose_row

/-- Transpose is an involution, as an equality of representations (the freshly built result
    has an empty hidden part). -/
theorem transpose_involutive (M : CSM K) (hw : WFM M) :
    M.transpose.transpose = { M with hidden := [] } := by
  have h : M.transpose.transpose = ⟨M.major, M.minor, M.transpose.transpose.rows, []⟩ := rfl
  rw [h, Mx.transpose_transpose_rows hw]

/-- Row view: `RowVector i` shares row `i` and denotes row `i`, well-formed. -/
theorem rowVec_view (M : CSM K) (hw : WFM M) (i : Nat) :
    (M.rowVec i).entries = M.rows.getD i [] ∧ (M.rowVec i).dim = M.minor ∧
    WF (M.rowVec i).dim (M.rowVec i).entries ∧
    ∀ j, denE (M.rowVec i).entries j = denRows M.rows i j :=
  ⟨rfl, rfl, Mx.WFM.row hw i, fun _ => rfl⟩

/-- Column view: row `j` of the transpose denotes column `j`. -/
theorem colVec_view (M : CSM K) (hw : WFM M) (j : Nat) :
    (M.transpose.rowVec j).dim = M.major ∧
    WF (M.transpose.rowVec j).dim (M.transpose.rowVec j).entries ∧
    ∀ i, denE (M.transpose.rowVec j).entries i = denRows M.rows i j :=
  ⟨rfl, Mx.WFM.row (Mx.transpose_wfm hw) j, fun i => Mx.transpose_den hw i j⟩

/-- `CSRMatrix.TransposeToCSC` / `CSCMatrix.TransposeToCSR` (matrix.go): the row table is
    shared, the two dimension fields are swapped. -/
def sharedView (M : CSM K) : CSM K := ⟨M.minor, M.major, M.rows, M.hidden⟩

/-- The shared view read along the other axis (cell `(i, j)` of a compressed-column matrix is
    entry `i` of span `j`) has the cells of the built transpose, and shares the rows. -/
theorem views_agree (M : CSM K) (hw : WFM M) (i j : Nat) :
    (sharedView M).rows = M.rows ∧
    denRows (sharedView M).rows j i = denRows M.transpose.rows i j :=
  ⟨rfl, (Mx.transpose_den hw j i).symm⟩

/-- The dimension fields of the shared view are consistent with its row table only for
    square matrices: `MajorDim` becomes the old `MinorDim` although the table still has
    `MajorDim` spans. -/
theorem sharedView_wf_iff (M : CSM K) (hw : WFM M) :
    (sharedView M).rows.length = (sharedView M).major ↔ M.major = M.minor := by
  show M.rows.length = M.minor ↔ M.major = M.minor
  rw [hw.1]

example : WFM (⟨2, 3, [[⟨0, 1⟩, ⟨2, 3⟩], [⟨1, 2⟩]], []⟩ : CSM ℚ) := by
  decide

/-- witness: the shared view of a well-formed 1×2 matrix is not well-formed -/
example : WFM (⟨1, 2, [[⟨1, 5⟩]], []⟩ : CSM ℚ) ∧
    ¬ WFM (sharedView (⟨1, 2, [[⟨1, 5⟩]], []⟩ : CSM ℚ)) := by
  unfold sharedView; decide

/-! ## Resize -/

/-! `HiddenClean` is preserved by every operation. -/

theorem hiddenClean_setMajorDim (M : CSM K) (hc : HiddenClean M) (d : Nat) :
    HiddenClean (M.setMajorDim d) := Mx.setMajorDim_hiddenClean hc d

theorem hiddenClean_setMinorDim (M : CSM K) (hc : HiddenClean M) (d : Nat) :
    HiddenClean (M.setMinorDim d) := Mx.setMinorDim_hiddenClean hc d

theorem hiddenClean_setDim (M : CSM K) (hc : HiddenClean M) (r c : Nat) :
    HiddenClean (M.setDim r c) := Mx.setDim_hiddenClean hc r c

theorem hiddenClean_merge (A B : CSM K) (hc : HiddenClean A) : HiddenClean (A.merge B).1 :=
  Mx.merge_hiddenClean hc B

theorem hiddenClean_transpose (M : CSM K) : HiddenClean M.transpose :=
  Mx.hiddenClean_of_hidden_nil rfl

theorem hiddenClean_newCSR (rows cols : Nat) (es : List (Coo K)) (inc : Bool) :
    HiddenClean (CSM.newCSR rows cols es inc) :=
  Mx.hiddenClean_of_hidden_nil rfl

/-- dense crop-and-zero-pad to `r × c` -/
def crop (r c : Nat) (f : Nat → Nat → K) : Nat → Nat → K :=
  fun i j => if i < r ∧ j < c then f i j else 0

/-- `SetDim` is dense crop-and-zero-pad. -/
theorem setDim_den (M : CSM K) (hw : WFM M) (hc : HiddenClean M) (r c i j : Nat) :
    denRows (M.setDim r c).rows i j = if i < r ∧ j < c then denRows M.rows i j else 0 :=
  Mx.setDim_den hw hc r c i j

/-- After `SetDim` the matrix is well-formed for the new dimensions: `r` rows, every stored
    column index below `c`. -/
theorem setDim_wf (M : CSM K) (hw : WFM M) (hc : HiddenClean M) (r c : Nat) :
    WFM (M.setDim r c) ∧ HiddenClean (M.setDim r c) ∧
    (M.setDim r c).major = r ∧ (M.setDim r c).minor = c ∧ (M.setDim r c).rows.length = r := by
  have h := Mx.setDim_wfm hw hc r c
  have hmaj : (M.setDim r c).major = r := by unfold CSM.setDim; simp
  have hmin : (M.setDim r c).minor = c := by unfold CSM.setDim; simp
  exact ⟨h, Mx.setDim_hiddenClean hc r c, hmaj, hmin, by rw [h.1, hmaj]⟩

/-- `SetMajorDim` crops / pads rows. -/
theorem setMajorDim_den (M : CSM K) (hc : HiddenClean M) (d i j : Nat) :
    denRows (M.setMajorDim d).rows i j = if i < d then denRows M.rows i j else 0 :=
  Mx.setMajorDim_den hc d i j

/-- `SetMinorDim` crops / pads columns. -/
theorem setMinorDim_den (M : CSM K) (hw : WFM M) (d i j : Nat) :
    denRows (M.setMinorDim d).rows i j = if j < d then denRows M.rows i j else 0 :=
  Mx.setMinorDim_den hw.2 d i j

/-- `Vector.SetDim` is dense crop-and-zero-pad and keeps the vector well-formed. -/
theorem vec_setDim (v : Vec K) (h : WF v.dim v.entries) (d : Nat) :
    (v.setDim d).dim = d ∧ WF d (v.setDim d).entries ∧
    ∀ i, denE (v.setDim d).entries i = if i < d then denE v.entries i else 0 := by
  unfold Vec.setDim
  split
  · exact ⟨rfl, Mg.wf_takeWhile h.1, Mg.den_takeWhile h.1⟩
  · next hd =>
    refine ⟨rfl, Mg.wf_mono h (not_lt.mp hd), fun i => ?_⟩
    split
    · rfl
    · next hi => exact Mg.denE_of_ge_dim h ((not_lt.mp hd).trans (not_lt.mp hi))

/-- Cells removed by a shrink do not reappear when the matrix grows again. -/
theorem shrink_then_grow (M : CSM K) (hw : WFM M) (hc : HiddenClean M) (r c r' c' i j : Nat) :
    denRows ((M.setDim r c).setDim r' c').rows i j =
      if (i < r ∧ j < c) ∧ (i < r' ∧ j < c') then denRows M.rows i j else 0 := by
  obtain ⟨h1, h2, _⟩ := setDim_wf M hw hc r c
  rw [setDim_den _ h1 h2, setDim_den _ hw hc, ← ite_and]
  exact if_congr and_comm rfl rfl

/-- resize / transpose / merge operations -/
inductive ROp (K : Type) where
  | setDim (r c : Nat)
  | setMajor (d : Nat)
  | setMinor (d : Nat)
  | transpose
  | merge (B : CSM K)

/-- the operation on the sparse representation -/
def runOp (M : CSM K) : ROp K → CSM K
  | .setDim r c => M.setDim r c
  | .setMajor d => M.setMajorDim d
  | .setMinor d => M.setMinorDim d
  | .transpose => M.transpose
  | .merge B => (M.merge B).1

/-- the operation on a dense matrix `(rows, cols, cells)` -/
def runDense (s : Nat × Nat × (Nat → Nat → K)) : ROp K → Nat × Nat × (Nat → Nat → K)
  | .setDim r c => (r, c, crop r c s.2.2)
  | .setMajor d => (d, s.2.1, crop d s.2.1 s.2.2)
  | .setMinor d => (s.1, d, crop s.1 d s.2.2)
  | .transpose => (s.2.1, s.1, fun i j => s.2.2 j i)
  | .merge B => (max s.1 B.major, max s.2.1 B.minor,
      fun i j => if ∃ e ∈ B.rows.getD i [], e.idx = j then denRows B.rows i j else s.2.2 i j)

/-- side condition of an operation: a merged update must be well-formed -/
def ROp.ok : ROp K → Prop
  | .merge B => WFM B
  | _ => True

/-- the dense matrix a sparse matrix denotes -/
def dense (M : CSM K) : Nat × Nat × (Nat → Nat → K) := (M.major, M.minor, denRows M.rows)

/-- the cells of a well-formed matrix vanish beyond its minor dimension -/
theorem crop_minor {M : CSM K} (hw : WFM M) (r i j : Nat) :
    crop r M.minor (denRows M.rows) i j = if i < r then denRows M.rows i j else 0 := by
  unfold crop
  by_cases hj : j < M.minor
  · simp only [hj, and_true]
  · simp only [hj, and_false, Mx.denRows_of_ge_minor hw i (not_lt.mp hj), ite_self]

/-- the cells of a well-formed matrix vanish beyond its major dimension -/
theorem crop_major {M : CSM K} (hw : WFM M) (c i j : Nat) :
    crop M.major c (denRows M.rows) i j = if j < c then denRows M.rows i j else 0 := by
  unfold crop
  by_cases hi : i < M.major
  · simp only [hi, true_and]
  · simp only [hi, false_and, Mx.denRows_of_ge_major hw (not_lt.mp hi) j, ite_self]

theorem dense_eq {M : CSM K} {r c : Nat} {f : Nat → Nat → K} (hr : M.major = r)
    (hc : M.minor = c) (hf : ∀ i j, denRows M.rows i j = f i j) : dense M = (r, c, f) := by
  subst hr hc
  exact congrArg (fun g => (M.major, M.minor, g)) (funext fun i => funext (hf i))

/-- One operation: invariants are kept and the sparse result denotes the dense result. -/
theorem resize_step (M : CSM K) (hw : WFM M) (hc : HiddenClean M) (op : ROp K) (hop : op.ok) :
    WFM (runOp M op) ∧ HiddenClean (runOp M op) ∧ dense (runOp M op) = runDense (dense M) op := by
  cases op with
  | setDim r c =>
    obtain ⟨h1, h2, h3, h4, _⟩ := setDim_wf M hw hc r c
    exact ⟨h1, h2, dense_eq h3 h4 (setDim_den M hw hc r c)⟩
  | setMajor d =>
    exact ⟨Mx.setMajorDim_wfm hw hc d, Mx.setMajorDim_hiddenClean hc d,
      dense_eq (Mx.setMajorDim_major M d) (Mx.setMajorDim_minor M d) fun i j =>
        (Mx.setMajorDim_den hc d i j).trans (crop_minor hw d i j).symm⟩
  | setMinor d =>
    exact ⟨Mx.setMinorDim_wfm hw d, Mx.setMinorDim_hiddenClean hc d,
      dense_eq (Mx.setMinorDim_major M d) (Mx.setMinorDim_minor M d) fun i j =>
        (Mx.setMinorDim_den hw.2 d i j).trans (crop_major hw d i j).symm⟩
  | transpose =>
    exact ⟨Mx.transpose_wfm hw, hiddenClean_transpose M,
      dense_eq rfl rfl fun i j => Mx.transpose_den hw j i⟩
  | merge B =>
    exact ⟨Mx.merge_wfm hw hc hop, Mx.merge_hiddenClean hc B,
      dense_eq (Mx.merge_major M B) (Mx.merge_minor M B) (Mx.merge_den hw hc hop)⟩

/-- Every history of resizes, transposes and merges, started from a well-formed matrix with
    a clean hidden part: the result is well-formed (every stored column index is below the
    current minor dimension), its hidden part is clean, and its dimensions and cells are those of
    the dense interpretation — in particular cells removed by a shrink never reappear. -/
theorem resize_history (ops : List (ROp K)) (M : CSM K) (hw : WFM M) (hc : HiddenClean M)
    (hops : ∀ op ∈ ops, op.ok) :
    WFM (ops.foldl runOp M) ∧ HiddenClean (ops.foldl runOp M) ∧
    dense (ops.foldl runOp M) = ops.foldl runDense (dense M) := by
  induction ops generalizing M with
  | nil => exact ⟨hw, hc, rfl⟩
  | cons op ops ih =>
    have hops' := List.forall_mem_cons.mp hops
    obtain ⟨h1, h2, h3⟩ := resize_step M hw hc op hops'.1
    rw [List.foldl_cons, List.foldl_cons, ← h3]
    exact ih _ h1 h2 hops'.2

example :
    let M : CSM ℚ := ⟨3, 3, [[⟨0, 1⟩], [⟨2, 5⟩], [⟨1, 7⟩]], []⟩
    let ops : List (ROp ℚ) := [.setDim 1 1, .setDim 3 3, .transpose,
      .merge ⟨2, 4, [[⟨3, 2⟩], []], []⟩, .setMinor 2, .setMajor 5]
    WFM M ∧ HiddenClean M ∧ ∀ op ∈ ops, op.ok := by
  simp only [List.forall_mem_cons, ROp.ok, List.not_mem_nil, false_implies, implies_true,
    and_true, true_and]
  decide

end EtVerif.C10
