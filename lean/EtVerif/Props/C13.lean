/-
  C13 (sequential part) — `/local-trust/{id}` behaves like a sequential map from id to matrix.
  Property theorems only (helper lemmas live in Proofs/OapiLemmas.lean).

  Vocabulary (Proofs/OapiLemmas.lean, namespace `EtVerif.OapiL`):
  * `MatInv M`   — invariant of a stored matrix: `WFM M`, square, `HiddenClean M`, no stored zero,
                   size ≥ 1, nothing hidden;
  * `StoreInv s` — every stored matrix satisfies `MatInv`;
  * `denIM m i j` — dense value of an inline body (the listed value, `0` if not listed);
  * `denCells es i j` — dense reading of a list of `(i, j, v)` cells (sum of the listed values);
  * `renderI M`  — the inline body `GET` answers with, re-read as a request body.
-/
import EtVerif.Proofs.OapiLemmas
import Mathlib.Algebra.Order.Field.Rat
import Mathlib.Tactic.NormNum

namespace EtVerif.C13
open EtVerif EtVerif.Oapi EtVerif.OapiL

variable {K : Type} [Field K] [LinearOrder K]

set_option linter.unusedSectionVars false

/-! ## the specification: a sequential map from id to (size, dense content) -/

/-- abstract state: id ↦ size and dense content -/
abbrev KV (K : Type) := String → Option (Nat × (Nat → Nat → K))

def kvSet (kv : KV K) (id : String) (x : Option (Nat × (Nat → Nat → K))) : KV K :=
  fun id' => if id' = id then x else kv id'

/-- the state a store denotes (first binding wins, as `Store.get?`) -/
def absStore (s : Store K) : KV K :=
  fun id => (s.get? id).map fun M => (M.major, denRows M.rows)

/-- a decoded request body: a valid matrix (size, dense content), a reference to a stored id, or
    a body the loader refuses -/
inductive SpecBody (K : Type) where
  | matrix (size : Nat) (den : Nat → Nat → K)
  | stored (id : String)
  | invalid

inductive SpecReq (K : Type) where
  | put (id : String) (merge : Bool) (body : SpecBody K)
  | get (id : String)
  | head (id : String)
  | delete (id : String)

inductive SpecResp (K : Type) where
  | created | updated | noContent | notFound | badRequest
  | matrix (size : Nat) (den : Nat → Nat → K)

/-- overlay of an update on existing content: the update wins wherever it has an entry (inline
    bodies cannot carry zero entries, so "has an entry" = "is non-zero") -/
def overlayNZ (f0 f : Nat → Nat → K) : Nat → Nat → K :=
  fun i j => if f i j = 0 then f0 i j else f i j

/-- the matrix a body denotes in a state (`none` = refused) -/
def resolve (kv : KV K) : SpecBody K → Option (Nat × (Nat → Nat → K))
  | .matrix n f => some (n, f)
  | .stored id => kv id
  | .invalid => none

/-- the documented behaviour of one request -/
def specStep (kv : KV K) : SpecReq K → KV K × SpecResp K
  | .put id merge body =>
    match resolve kv body with
    | none => (kv, .badRequest)
    | some (n, f) =>
      match kv id with
      | none => (kvSet kv id (some (n, f)), .created)
      | some (n0, f0) =>
        if merge then (kvSet kv id (some (max n0 n, overlayNZ f0 f)), .updated)
        else (kvSet kv id (some (n, f)), .updated)
  | .get id =>
    match kv id with
    | none => (kv, .notFound)
    | some (n, f) => (kv, .matrix n f)
  | .head id => (kv, if (kv id).isSome then .noContent else .notFound)
  | .delete id => if (kv id).isSome then (kvSet kv id none, .noContent) else (kv, .notFound)

open Classical in
/-- decoding of a request body, independent of the store: an inline body is valid when
    `size ≥ 1` and all indices are in `[0, size)` -/
noncomputable def absBody : MatrixRef K → SpecBody K
  | .inline m => if 0 < m.size ∧ InRangeM m then .matrix m.size.toNat (denIM m) else .invalid
  | .stored id => .stored id
  | .objectStorage _ => .invalid
  | .unknown _ => .invalid

noncomputable def absReq : StoreReq K → SpecReq K
  | .put id merge body => .put id merge (absBody body)
  | .get id => .get id
  | .head id => .head id
  | .delete id => .delete id

def absResp : StoreResp K → SpecResp K
  | .created => .created
  | .updated => .updated
  | .noContent => .noContent
  | .notFound => .notFound
  | .badRequest => .badRequest
  | .matrix n es => .matrix n (denCells es)

/-- side condition on requests: an inline PUT body lists every `(i, j)` at most once (with
    repeated coordinates the order produced by Go's unstable sort is unspecified) -/
def ReqOK : StoreReq K → Prop
  | .put _ _ (.inline m) => (m.entries.map fun e => (e.1, e.2.1)).Nodup
  | _ => True

/-! ## one step refines the specification -/

theorem absStore_set (s : Store K) (id : String) (M : CSM K) :
    absStore (Store.set s id M) = kvSet (absStore s) id (some (M.major, denRows M.rows)) := by
  funext id'
  unfold absStore kvSet
  rw [get?_set]
  split <;> rfl

theorem absStore_erase (s : Store K) (id : String) :
    absStore (Store.erase s id) = kvSet (absStore s) id none := by
  funext id'
  unfold absStore kvSet
  rw [get?_erase]
  split <;> rfl

/-- the loader and the decoding agree: a refused body is `invalid`; an accepted one satisfies the
    stored-matrix invariant and denotes the decoded (size, dense content) -/
theorem resolve_load {s : Store K} (hs : StoreInv s) (body : MatrixRef K)
    (hok : ∀ m, body = .inline m → (m.entries.map fun e => (e.1, e.2.1)).Nodup) :
    (loadMatrix s body = none ∧ resolve (absStore s) (absBody body) = none) ∨
    (∃ c, loadMatrix s body = some c ∧ MatInv c ∧
      resolve (absStore s) (absBody body) = some (c.major, denRows c.rows)) := by
  classical
  cases body with
  | inline m =>
    by_cases hv : 0 < m.size ∧ InRangeM m
    · right
      have hl := loadInlineMatrix_eq_some_iff.mpr ⟨hv, rfl⟩
      obtain ⟨h1, h2, h3⟩ := MatInv.load hl (hok m rfl)
      refine ⟨_, hl, h1, ?_⟩
      simp only [absBody, if_pos hv, resolve]
      rw [h2]
      congr 2
      funext i j
      exact (h3 i j).symm
    · left
      refine ⟨loadInlineMatrix_eq_none_iff.mpr hv, ?_⟩
      simp only [absBody, if_neg hv, resolve]
  | stored id' =>
    cases hg : s.get? id' with
    | none =>
      left
      exact ⟨hg, by simp only [absBody, resolve, absStore, hg, Option.map_none]⟩
    | some M =>
      right
      exact ⟨M, hg, hs.get hg, by simp only [absBody, resolve, absStore, hg, Option.map_some]⟩
  | objectStorage u => left; exact ⟨rfl, rfl⟩
  | unknown u => left; exact ⟨rfl, rfl⟩

theorem merge_abs {old c : CSM K} (ho : MatInv old) (hc : MatInv c) :
    ((old.merge c).1.major, denRows (old.merge c).1.rows) =
      (max old.major c.major, overlayNZ (denRows old.rows) (denRows c.rows)) := by
  refine congrArg₂ Prod.mk (Mx.merge_major old c) (funext fun i => funext fun j => ?_)
  rw [Mx.merge_den ho.wfm ho.clean hc.wfm, overlayNZ]
  by_cases h : denRows c.rows i j = 0
  · rw [if_neg (fun hex => (stored_iff_ne_zero hc.wfm hc.noZero i j).mp hex h), if_pos h]
  · rw [if_pos ((stored_iff_ne_zero hc.wfm hc.noZero i j).mpr h), if_neg h]

/-- Every request on a store satisfying the invariant: the invariant is kept, the new state
    denotes the specification's new state, and the response is the specification's response. -/
theorem store_step_refines (s : Store K) (hs : StoreInv s) (req : StoreReq K) (hok : ReqOK req) :
    StoreInv (handleStore s req).1 ∧
    absStore (handleStore s req).1 = (specStep (absStore s) (absReq req)).1 ∧
    absResp (handleStore s req).2 = (specStep (absStore s) (absReq req)).2 := by
  cases req with
  | put id merge body =>
    have hok' : ∀ m, body = .inline m → (m.entries.map fun e => (e.1, e.2.1)).Nodup := by
      intro m hm; subst hm; exact hok
    rcases resolve_load hs body hok' with ⟨hl, hr⟩ | ⟨c, hl, hc, hr⟩
    · simp only [handleStore, hl, absReq, specStep, hr]
      exact ⟨hs, (by trivial), (by trivial)⟩
    · cases hg : s.get? id with
      | none =>
        have hkv : absStore s id = none := by simp only [absStore, hg, Option.map_none]
        simp only [handleStore, hl, hg, absReq, specStep, hr, hkv]
        exact ⟨hs.set id hc, absStore_set s id c, (by trivial)⟩
      | some old =>
        have ho := hs.get hg
        have hkv : absStore s id = some (old.major, denRows old.rows) := by
          simp only [absStore, hg, Option.map_some]
        cases merge with
        | true =>
          simp only [handleStore, hl, hg, absReq, specStep, hr, hkv, if_true]
          refine ⟨hs.set id (ho.merge hc), ?_, (by trivial)⟩
          rw [absStore_set, merge_abs ho hc]
        | false =>
          simp only [handleStore, hl, hg, absReq, specStep, hr, hkv, Bool.false_eq_true, if_false]
          exact ⟨hs.set id hc, absStore_set s id c, (by trivial)⟩
  | get id =>
    cases hg : s.get? id with
    | none =>
      have hkv : absStore s id = none := by simp only [absStore, hg, Option.map_none]
      simp only [handleStore, hg, absReq, specStep, hkv]
      exact ⟨hs, (by trivial), (by trivial)⟩
    | some M =>
      have hkv : absStore s id = some (M.major, denRows M.rows) := by
        simp only [absStore, hg, Option.map_some]
      simp only [handleStore, hg, absReq, specStep, hkv]
      refine ⟨hs, (by trivial), ?_⟩
      simp only [absResp]
      congr 1
      funext i j
      exact denCells_entriesOf M i j
  | head id =>
    have hkv : (absStore s id).isSome = (s.get? id).isSome := by
      simp only [absStore, Option.isSome_map]
    simp only [handleStore, absReq, specStep, hkv]
    refine ⟨hs, (by trivial), ?_⟩
    cases (s.get? id).isSome <;> rfl
  | delete id =>
    have hkv : (absStore s id).isSome = (s.get? id).isSome := by
      simp only [absStore, Option.isSome_map]
    simp only [handleStore, absReq, specStep, hkv]
    cases hg : (s.get? id).isSome with
    | true =>
      simp only [if_true]
      exact ⟨hs.erase id, absStore_erase s id, (by trivial)⟩
    | false =>
      simp only [Bool.false_eq_true, if_false]
      exact ⟨hs, (by trivial), (by trivial)⟩

/-! ## any request sequence from the empty store -/

def runStore (s : Store K) : List (StoreReq K) → List (StoreResp K)
  | [] => []
  | q :: qs => (handleStore s q).2 :: runStore (handleStore s q).1 qs

def runSpec (kv : KV K) : List (SpecReq K) → List (SpecResp K)
  | [] => []
  | q :: qs => (specStep kv q).2 :: runSpec (specStep kv q).1 qs

theorem store_refines_from (s : Store K) (hs : StoreInv s) (reqs : List (StoreReq K))
    (hok : ∀ q ∈ reqs, ReqOK q) :
    (runStore s reqs).map absResp = runSpec (absStore s) (reqs.map absReq) := by
  induction reqs generalizing s with
  | nil => rfl
  | cons q qs ih =>
    obtain ⟨h1, h2, h3⟩ := store_step_refines s hs q (hok q (by simp))
    simp only [runStore, List.map_cons, runSpec]
    rw [h3, ih _ h1 (fun q' hq' => hok q' (by simp [hq'])), h2]

/-- From the empty store, the responses to any sequence of PUT / PUT?merge / GET / HEAD / DELETE
    requests are those of the sequential map. -/
theorem store_refines_map (reqs : List (StoreReq K)) (hok : ∀ q ∈ reqs, ReqOK q) :
    (runStore ([] : Store K) reqs).map absResp = runSpec (fun _ => none) (reqs.map absReq) :=
  store_refines_from [] (fun p hp => by cases hp) reqs hok

/-! ## reachable stores satisfy the invariant -/

def runState (s : Store K) : List (StoreReq K) → Store K
  | [] => s
  | q :: qs => runState (handleStore s q).1 qs

def runSpecState (kv : KV K) : List (SpecReq K) → KV K
  | [] => kv
  | q :: qs => runSpecState (specStep kv q).1 qs

/-- Every store reachable from the empty one satisfies the invariant (in particular every stored
    matrix satisfies `MatInv`), and denotes the specification's state. -/
theorem reachable_inv (reqs : List (StoreReq K)) (hok : ∀ q ∈ reqs, ReqOK q) :
    StoreInv (runState ([] : Store K) reqs) ∧
    absStore (runState ([] : Store K) reqs) = runSpecState (fun _ => none) (reqs.map absReq) := by
  have key : ∀ (s : Store K), StoreInv s → ∀ reqs : List (StoreReq K), (∀ q ∈ reqs, ReqOK q) →
      StoreInv (runState s reqs) ∧
      absStore (runState s reqs) = runSpecState (absStore s) (reqs.map absReq) := by
    intro s hs reqs
    induction reqs generalizing s with
    | nil => intro _; exact ⟨hs, rfl⟩
    | cons q qs ih =>
      intro hok
      obtain ⟨h1, h2, _⟩ := store_step_refines s hs q (hok q (by simp))
      have := ih _ h1 (fun q' hq' => hok q' (by simp [hq']))
      simp only [runState, List.map_cons, runSpecState]
      rw [← h2]
      exact this
  exact key [] (fun p hp => by cases hp) reqs hok

/-! ## invalid bodies -/

/-- A body the loader refuses is answered 400 and leaves the store unchanged. -/
theorem invalid_body_unchanged (s : Store K) (id : String) (merge : Bool) (body : MatrixRef K)
    (h : loadMatrix s body = none) :
    handleStore s (.put id merge body) = (s, .badRequest) := by
  simp only [handleStore, h]

/-! ## PUT: status, replace, merge -/

/-- An accepted PUT answers 201 exactly when it created the id, 200 otherwise. -/
theorem put_status (s : Store K) (id : String) (merge : Bool) (body : MatrixRef K) (c : CSM K)
    (h : loadMatrix s body = some c) :
    (s.get? id = none → (handleStore s (.put id merge body)).2 = .created) ∧
    (∀ old, s.get? id = some old → (handleStore s (.put id merge body)).2 = .updated) := by
  constructor
  · intro hg
    simp only [handleStore, h, hg]
  · intro old hg
    cases merge <;> simp [handleStore, h, hg]

/-- A PUT without `merge` (or on a new id) stores exactly the loaded matrix under `id` and
    leaves every other id alone. -/
theorem put_replace (s : Store K) (id : String) (merge : Bool) (body : MatrixRef K) (c : CSM K)
    (h : loadMatrix s body = some c) (hm : merge = false ∨ s.get? id = none) :
    (handleStore s (.put id merge body)).1.get? id = some c ∧
    ∀ id', id' ≠ id → (handleStore s (.put id merge body)).1.get? id' = s.get? id' := by
  have hst : (handleStore s (.put id merge body)).1 = Store.set s id c := by
    rcases hm with rfl | hg
    · cases hg : s.get? id <;> simp [handleStore, h, hg]
    · simp only [handleStore, h, hg]
  rw [hst]
  refine ⟨by rw [get?_set, if_pos rfl], fun id' hne => by rw [get?_set, if_neg hne]⟩

/-- A PUT with `merge=true` on an existing id overlays the stored cells of the new matrix onto
    the existing one (`C11.overlay`) and enlarges it to the larger of the two sizes; every other
    id is left alone. -/
theorem merge_overlay (s : Store K) (id : String) (body : MatrixRef K) (old c : CSM K)
    (hg : s.get? id = some old) (hl : loadMatrix s body = some c)
    (ho : WFM old) (hoc : HiddenClean old) (hc : WFM c) :
    ∃ M', (handleStore s (.put id true body)).1.get? id = some M' ∧
      M'.major = max old.major c.major ∧ M'.minor = max old.minor c.minor ∧
      WFM M' ∧ HiddenClean M' ∧
      denRows M'.rows = C11.overlay (denRows old.rows) c ∧
      ∀ id', id' ≠ id → (handleStore s (.put id true body)).1.get? id' = s.get? id' := by
  have hst : (handleStore s (.put id true body)).1 = Store.set s id (old.merge c).1 := by
    simp only [handleStore, hl, hg, if_true]
  rw [hst]
  obtain ⟨h1, h2, _, h4, h5, h6⟩ := C11.merge_matrix old c ho hoc hc
  refine ⟨(old.merge c).1, by rw [get?_set, if_pos rfl], h1, h2, h4, h5, ?_,
    fun id' hne => by rw [get?_set, if_neg hne]⟩
  funext i j
  exact h6 i j

/-! ## GET returns exactly the current size and entries -/

/-- `GET` on an absent id is 404; on a present id it returns the size and an entry list that
    contains `(i, j, v)` exactly when `v ≠ 0` is the value of cell `(i, j)`, lists every cell at
    most once, stays within the size, and whose dense reading is the stored content. -/
theorem get_exact (s : Store K) (hs : StoreInv s) (id : String) :
    (s.get? id = none → handleStore s (.get id) = (s, .notFound)) ∧
    (∀ M, s.get? id = some M →
      handleStore s (.get id) = (s, .matrix M.major (entriesOf M)) ∧
      (∀ i j v, (i, j, v) ∈ entriesOf M ↔ (v ≠ 0 ∧ denRows M.rows i j = v)) ∧
      ((entriesOf M).map fun e => (e.1, e.2.1)).Nodup ∧
      (∀ i j v, (i, j, v) ∈ entriesOf M → i < M.major ∧ j < M.major) ∧
      (∀ i j, denCells (entriesOf M) i j = denRows M.rows i j)) := by
  constructor
  · intro hg; simp only [handleStore, hg]
  · intro M hg
    have hM := hs.get hg
    refine ⟨by simp only [handleStore, hg], ?_, entriesOf_nodup hM.wfm, ?_, denCells_entriesOf M⟩
    · intro i j v
      rw [mem_entriesOf]
      constructor
      · intro hm
        refine ⟨hM.noZero i _ hm, ?_⟩
        exact Mg.denE_of_mem (Mx.WFM.row hM.wfm i).1 hm
      · rintro ⟨hv, hd⟩
        have hne : denRows M.rows i j ≠ 0 := by rw [hd]; exact hv
        obtain ⟨e, he, rfl⟩ := (stored_iff_ne_zero hM.wfm hM.noZero i j).mpr hne
        have := Mg.denE_of_mem (Mx.WFM.row hM.wfm i).1 he
        unfold denRows at hd
        rw [this] at hd
        rw [← hd]
        exact he
    · intro i j v hm
      have hin := inRange_renderI hM.wfm hM.square ((i : Int), (j : Int), v)
        (List.mem_map.mpr ⟨(i, j, v), hm, rfl⟩)
      simp only [renderI] at hin
      omega

/-- GET followed by PUT of the returned body (under any id, replacing) stores a matrix with the
    same rows, dimensions and dense content; the request satisfies `ReqOK`. -/
theorem get_put_roundtrip (s : Store K) (hs : StoreInv s) (id id2 : String) (M : CSM K)
    (hg : s.get? id = some M) :
    ReqOK (.put id2 false (.inline (renderI M)) : StoreReq K) ∧
    ∃ M', (handleStore s (.put id2 false (.inline (renderI M)))).1.get? id2 = some M' ∧
      M'.rows = M.rows ∧ M'.major = M.major ∧ M'.minor = M.minor ∧
      absStore (handleStore s (.put id2 false (.inline (renderI M)))).1 id2 = absStore s id := by
  have hM := hs.get hg
  have hl : loadMatrix s (.inline (renderI M)) = some ⟨M.major, M.major, M.rows, []⟩ :=
    load_renderI hM.wfm hM.square hM.noZero hM.pos
  obtain ⟨h1, _⟩ := put_replace s id2 false _ _ hl (Or.inl rfl)
  refine ⟨(valid_renderI hM.wfm hM.square hM.pos).2.2, _, h1, rfl, rfl, hM.square, ?_⟩
  simp only [absStore, h1, hg, Option.map_some]

/-! ## non-vacuity at `K := ℚ` -/

section examples

-- `ℚ` carries two `Scalar` instances (`ratScalar` for the driver, `fieldScalar` for proofs);
-- the examples use the proof instance.
attribute [local instance 10000] fieldScalar

/-- create, merge-with-enlargement, read, probe, refused body, delete, read again -/
private def exReqs : List (StoreReq ℚ) :=
  [ .put "a" false (.inline ⟨2, [(0, 1, 1), (1, 0, 2)]⟩),
    .put "a" true (.inline ⟨3, [(2, 0, 5), (0, 1, 7)]⟩),
    .get "a", .head "b", .put "b" false (.inline ⟨0, []⟩), .put "b" true (.stored "a"),
    .put "c" false (.stored "nope"), .delete "a", .get "a" ]

private theorem exReqs_ok : ∀ q ∈ exReqs, ReqOK q := by
  intro q hq
  simp only [exReqs, List.mem_cons, List.not_mem_nil, or_false] at hq
  rcases hq with rfl | rfl | rfl | rfl | rfl | rfl | rfl | rfl | rfl <;>
    first | trivial | (simp only [ReqOK]; decide)

example := store_refines_map exReqs exReqs_ok
example := reachable_inv exReqs exReqs_ok

private def code : StoreResp ℚ → Nat × List (Nat × Nat × ℚ)
  | .created => (201, [])
  | .updated => (200, [])
  | .noContent => (204, [])
  | .notFound => (404, [])
  | .badRequest => (400, [])
  | .matrix n es => (1000 + n, es)

example : (runStore [] exReqs).map code =
    [(201, []), (200, []), (1003, [(0, 1, 7), (1, 0, 2), (2, 0, 5)]), (404, []), (400, []),
     (201, []), (400, []), (204, []), (404, [])] := by
  decide +kernel

/-- the store after the first two requests: id "a" holds the merged 3×3 matrix -/
private def exS : Store ℚ := runState [] (exReqs.take 2)
private theorem exS_inv : StoreInv exS :=
  (reachable_inv _ (fun q hq => exReqs_ok q (List.mem_of_mem_take hq))).1
private def exA : CSM ℚ := ⟨3, 3, [[⟨1, 7⟩], [⟨0, 2⟩], [⟨0, 5⟩]], []⟩
deriving instance DecidableEq for Entry
deriving instance DecidableEq for CSM
private theorem exS_a : exS.get? "a" = some exA := by decide +kernel

example := (get_exact exS exS_inv "a").2 exA exS_a
example := (get_exact exS exS_inv "zzz").1 (by decide +kernel)
example := get_put_roundtrip exS exS_inv "a" "copy" exA exS_a
example : handleStore exS (.put "a" true (.inline ⟨2, [(5, 0, 1)]⟩)) = (exS, .badRequest) :=
  invalid_body_unchanged exS "a" true _ (by decide +kernel)
example := put_status exS "a" true (.stored "a") exA exS_a
example := put_replace exS "a" false (.stored "a") exA exS_a (Or.inl rfl)
example := merge_overlay exS "a" (.stored "a") exA exA exS_a exS_a
  (exS_inv.get exS_a).wfm (exS_inv.get exS_a).clean (exS_inv.get exS_a).wfm
example := store_step_refines exS exS_inv (.put "a" true (.inline ⟨4, [(3, 3, 1)]⟩))
  (by simp only [ReqOK]; decide)

end examples

end EtVerif.C13
