/-
  C11 — Merge is a last-writer-wins overlay.
  Property theorems; the lemmas on the model are in Proofs/Merge.lean, Proofs/Matrix.lean.

  `denE es i` is the dense value of the span `es` at index `i`; `denRows rows i j` the dense
  value of a row table at `(i, j)` (`denE (rows.getD i []) j`); `Sorted es` = strictly
  increasing indices; `WF d es` = `Sorted es` and all indices `< d`;
  `WFM M` = `M.rows.length = M.major` and every row `WF M.minor`;
  `HiddenClean M` = every row of `Entries[len:cap]` is nil.
-/
import EtVerif.Proofs.Matrix
import Mathlib.Algebra.Order.Field.Rat
import Mathlib.Tactic.NormNum

namespace EtVerif.C11
open EtVerif

variable {K : Type} [Field K] [LinearOrder K]

set_option linter.unusedSectionVars false

/-! ## `mergeSpan` -/

/-- Cell by cell, the merged span has the update's value where the update stores an entry
    (an explicit zero erasing the cell) and the old value elsewhere. -/
theorem den_mergeSpan {s1 s2 : List (Entry K)} (h1 : Sorted s1) (h2 : Sorted s2) (i : Nat) :
    denE (mergeSpan s1 s2) i = if ∃ e ∈ s2, e.idx = i then denE s2 i else denE s1 i :=
  Mg.den_mergeSpan h1 h2 i

/-- The merged span is strictly increasing (also where explicit zeros of `s2` are kept). -/
theorem sorted_mergeSpan {s1 s2 : List (Entry K)} (h1 : Sorted s1) (h2 : Sorted s2) :
    Sorted (mergeSpan s1 s2) :=
  Mg.sorted_mergeSpan h1 h2

/-- Well-formedness for a dimension is preserved. -/
theorem wf_mergeSpan {d : Nat} {s1 s2 : List (Entry K)} (h1 : WF d s1) (h2 : WF d s2) :
    WF d (mergeSpan s1 s2) :=
  Mg.wf_mergeSpan h1 h2

/-- Every stored entry of the merged span is a stored entry of one of the arguments. -/
theorem mem_mergeSpan {s1 s2 : List (Entry K)} {e : Entry K} (h : e ∈ mergeSpan s1 s2) :
    e ∈ s1 ∨ e ∈ s2 :=
  Mg.mem_mergeSpan h

example : Sorted ([⟨0, 1⟩, ⟨2, 3⟩] : List (Entry ℚ)) ∧ Sorted ([⟨1, 5⟩, ⟨2, 0⟩] : List (Entry ℚ)) := by
  decide

example : WF 3 ([⟨0, 1⟩, ⟨2, 3⟩] : List (Entry ℚ)) ∧ WF 3 ([⟨1, 5⟩, ⟨2, 0⟩] : List (Entry ℚ)) := by
  decide

/-! ## `Vector.Merge` -/

/-- `SetDim` to a dimension that is not smaller never truncates. -/
theorem setDim_of_le (v : Vec K) {d : Nat} (h : v.dim ≤ d) : v.setDim d = ⟨d, v.entries⟩ :=
  vec_setDim_of_le v h

/-- `Vector.Merge`: the dimension becomes the maximum, the argument is left empty, the result
    is well-formed and is cell by cell the overlay of `v2` on `v`. -/
theorem merge_vec (v v2 : Vec K) (h : WF v.dim v.entries) (h2 : WF v2.dim v2.entries) :
    (v.merge v2).1.dim = max v.dim v2.dim ∧
    (v.merge v2).2 = ⟨0, []⟩ ∧
    WF (v.merge v2).1.dim (v.merge v2).1.entries ∧
    ∀ i, denE (v.merge v2).1.entries i =
      if ∃ e ∈ v2.entries, e.idx = i then denE v2.entries i else denE v.entries i := by
  have hm : v.merge v2 = (⟨max v.dim v2.dim, mergeSpan v.entries v2.entries⟩, ⟨0, []⟩) := by
    unfold Vec.merge
    simp only [setDim_of_le v (Nat.le_max_left v.dim v2.dim)]
  rw [hm]
  refine ⟨rfl, rfl, ?_, ?_⟩
  · exact Mg.wf_mergeSpan (Mg.wf_mono h (Nat.le_max_left _ _))
      (Mg.wf_mono h2 (Nat.le_max_right _ _))
  · intro i
    exact Mg.den_mergeSpan h.1 h2.1 i

example : WF (⟨3, [⟨0, 1⟩, ⟨2, 3⟩]⟩ : Vec ℚ).dim (⟨3, [⟨0, 1⟩, ⟨2, 3⟩]⟩ : Vec ℚ).entries ∧
    WF (⟨5, [⟨1, 5⟩, ⟨2, 0⟩, ⟨4, 7⟩]⟩ : Vec ℚ).dim (⟨5, [⟨1, 5⟩, ⟨2, 0⟩, ⟨4, 7⟩]⟩ : Vec ℚ).entries := by
  decide

/-! ## `CSMatrix.Merge` -/

/-- `CSMatrix.Merge`: dimensions become the maxima, the argument is left empty, the result
    is well-formed with a clean hidden part, and is cell by cell the overlay of `B` on `A`. -/
theorem merge_matrix (A B : CSM K) (hA : WFM A) (hc : HiddenClean A) (hB : WFM B) :
    (A.merge B).1.major = max A.major B.major ∧
    (A.merge B).1.minor = max A.minor B.minor ∧
    (A.merge B).2 = CSM.empty ∧
    WFM (A.merge B).1 ∧ HiddenClean (A.merge B).1 ∧
    ∀ i j, denRows (A.merge B).1.rows i j =
      if ∃ e ∈ B.rows.getD i [], e.idx = j then denRows B.rows i j else denRows A.rows i j :=
  ⟨Mx.merge_major A B, Mx.merge_minor A B, Mx.merge_snd A B, Mx.merge_wfm hA hc hB,
    Mx.merge_hiddenClean hc B, Mx.merge_den hA hc hB⟩

/-- Row `i` of the merged matrix is literally `mergeSpan` of the two rows `i`. -/
theorem merge_matrix_row (A B : CSM K) (hA : WFM A) (hc : HiddenClean A) (hB : WFM B) (i : Nat) :
    (A.merge B).1.rows.getD i [] = mergeSpan (A.rows.getD i []) (B.rows.getD i []) :=
  Mx.merge_getD hA.1 hc hB.1 i

example : WFM (⟨2, 3, [[⟨0, 1⟩, ⟨2, 3⟩], [⟨1, 2⟩]], [[]]⟩ : CSM ℚ) ∧
    HiddenClean (⟨2, 3, [[⟨0, 1⟩, ⟨2, 3⟩], [⟨1, 2⟩]], [[]]⟩ : CSM ℚ) ∧
    WFM (⟨3, 2, [[⟨0, 0⟩], [], [⟨1, 4⟩]], []⟩ : CSM ℚ) := by
  decide

/-! ## sequences of merges -/

/-- dense overlay of the stored cells of `B` (explicit zeros included) on a dense map -/
def overlay (f : Nat → Nat → K) (B : CSM K) : Nat → Nat → K :=
  fun i j => if ∃ e ∈ B.rows.getD i [], e.idx = j then denRows B.rows i j else f i j

/-- After any sequence of merges the matrix is well-formed, its dimensions are the running
    maxima, and its dense content is the map obtained by applying the updates in order. -/
theorem merge_history (us : List (CSM K)) (A : CSM K) (hA : WFM A) (hc : HiddenClean A)
    (hus : ∀ B ∈ us, WFM B) :
    WFM (us.foldl (fun A B => (A.merge B).1) A) ∧
    HiddenClean (us.foldl (fun A B => (A.merge B).1) A) ∧
    (us.foldl (fun A B => (A.merge B).1) A).major = us.foldl (fun d B => max d B.major) A.major ∧
    (us.foldl (fun A B => (A.merge B).1) A).minor = us.foldl (fun d B => max d B.minor) A.minor ∧
    denRows (us.foldl (fun A B => (A.merge B).1) A).rows = us.foldl overlay (denRows A.rows) := by
  induction us generalizing A with
  | nil => exact ⟨hA, hc, rfl, rfl, rfl⟩
  | cons B us ih =>
    have hus' := List.forall_mem_cons.mp hus
    obtain ⟨h1, h2, _, h4, h5, h6⟩ := merge_matrix A B hA hc hus'.1
    simp only [List.foldl_cons]
    rw [← h1, ← h2, show overlay (denRows A.rows) B = denRows (A.merge B).1.rows from
      funext fun i => funext fun j => (h6 i j).symm]
    exact ih _ h4 h5 hus'.2

/-- dense overlay of the stored cells of a vector update on a dense vector -/
def overlayVec (f : Nat → K) (u : Vec K) : Nat → K :=
  fun i => if ∃ e ∈ u.entries, e.idx = i then denE u.entries i else f i

/-- `merge_history` for `Vector.Merge`. -/
theorem merge_vec_history (us : List (Vec K)) (v : Vec K) (hv : WF v.dim v.entries)
    (hus : ∀ u ∈ us, WF u.dim u.entries) :
    WF (us.foldl (fun v u => (v.merge u).1) v).dim (us.foldl (fun v u => (v.merge u).1) v).entries ∧
    (us.foldl (fun v u => (v.merge u).1) v).dim = us.foldl (fun d u => max d u.dim) v.dim ∧
    denE (us.foldl (fun v u => (v.merge u).1) v).entries = us.foldl overlayVec (denE v.entries) := by
  induction us generalizing v with
  | nil => exact ⟨hv, rfl, rfl⟩
  | cons u us ih =>
    have hus' := List.forall_mem_cons.mp hus
    obtain ⟨h1, _, h3, h4⟩ := merge_vec v u hv hus'.1
    simp only [List.foldl_cons]
    rw [← h1, show overlayVec (denE v.entries) u = denE (v.merge u).1.entries from
      funext fun i => (h4 i).symm]
    exact ih _ h3 hus'.2

/-! ## independence of batching -/

/-- one single-cell assignment `(row, col) := val` on a dense map (`val = 0` erases) -/
def assign (f : Nat → Nat → K) (x : Coo K) : Nat → Nat → K :=
  fun i j => if x.row = i ∧ x.col = j then x.val else f i j

theorem assign_fold_of_not_mem (b : List (Coo K)) (f : Nat → Nat → K) {i j : Nat}
    (h : ∀ x ∈ b, ¬ (x.row = i ∧ x.col = j)) : b.foldl assign f i j = f i j := by
  induction b generalizing f with
  | nil => rfl
  | cons a b ih =>
    rw [List.foldl_cons, ih _ (fun x hx => h x (by simp [hx]))]
    unfold assign
    rw [if_neg (h a (by simp))]

theorem assign_fold_of_mem (b : List (Coo K)) (f : Nat → Nat → K)
    (hd : (b.map (fun e => (e.row, e.col))).Nodup) {x : Coo K} (hx : x ∈ b) :
    b.foldl assign f x.row x.col = x.val := by
  induction b generalizing f with
  | nil => simp at hx
  | cons a b ih =>
    obtain ⟨hd1, hd2⟩ := Mx.distinctCoo_cons.mp hd
    rw [List.foldl_cons]
    rcases List.mem_cons.mp hx with rfl | hx'
    · rw [assign_fold_of_not_mem b _ hd1]
      unfold assign
      rw [if_pos ⟨rfl, rfl⟩]
    · exact ih _ hd2 hx'

/-- Merging the update matrix built (zeros kept) from a batch of assignments with pairwise
    distinct coordinates is the same as applying the assignments one by one. -/
theorem overlay_newCSR (f : Nat → Nat → K) (r c : Nat) (b : List (Coo K))
    (hd : (b.map (fun e => (e.row, e.col))).Nodup) (hr : ∀ x ∈ b, x.row < r) :
    overlay f (CSM.newCSR r c b true) = b.foldl assign f := by
  funext i j
  unfold overlay
  by_cases h : ∃ x ∈ b, x.row = i ∧ x.col = j
  · obtain ⟨x, hx, rfl, rfl⟩ := h
    have hs : ∃ e ∈ (CSM.newCSR r c b true).rows.getD x.row [], e.idx = x.col :=
      Mx.newCSR_stores.mpr ⟨hr x hx, x, hx, rfl, rfl, Or.inr rfl⟩
    rw [if_pos hs, assign_fold_of_mem b f hd hx]
    exact Mx.newCSR_den_of_mem hd (fun e he _ => hr e he) hx
  · have hs : ¬ ∃ e ∈ (CSM.newCSR r c b true).rows.getD i [], e.idx = j := by
      intro hs
      obtain ⟨_, e, he, h1, h2, _⟩ := Mx.newCSR_stores.mp hs
      exact h ⟨e, he, h1, h2⟩
    rw [if_neg hs, assign_fold_of_not_mem b f (fun x hx hxy => h ⟨x, hx, hxy⟩)]

/-- The dense content after merging a sequence of assignment batches (each batch
    `(rows, cols, assignments)` built with `NewCSRMatrix(…, includeZero = true)`, pairwise distinct
    coordinates inside a batch, in range) is the result of applying all single assignments in
    order: it depends only on the concatenation of the batches, not on the batching. -/
theorem rebatch_history (batches : List (Nat × Nat × List (Coo K))) (A : CSM K) (hA : WFM A)
    (hc : HiddenClean A)
    (hb : ∀ b ∈ batches, (b.2.2.map (fun e => (e.row, e.col))).Nodup ∧
      ∀ x ∈ b.2.2, x.row < b.1 ∧ x.col < b.2.1) :
    denRows (batches.foldl (fun A b => (A.merge (CSM.newCSR b.1 b.2.1 b.2.2 true)).1) A).rows =
      (batches.map (·.2.2)).flatten.foldl assign (denRows A.rows) := by
  rw [← List.foldl_map (f := fun b : Nat × Nat × List (Coo K) => CSM.newCSR b.1 b.2.1 b.2.2 true)
    (g := fun A B : CSM K => (A.merge B).1)]
  have hw : ∀ B ∈ batches.map (fun b => CSM.newCSR b.1 b.2.1 b.2.2 true), WFM B :=
    List.forall_mem_map.mpr fun b hbm =>
      Mx.newCSR_wfm (hb b hbm).1 (fun e he _ => ((hb b hbm).2 e he).2)
  rw [(merge_history _ A hA hc hw).2.2.2.2]
  generalize denRows A.rows = f
  clear hw hA hc
  induction batches generalizing f with
  | nil => rfl
  | cons b bs ih =>
    have hb' := List.forall_mem_cons.mp hb
    simp only [List.map_cons, List.foldl_cons, List.flatten_cons, List.foldl_append]
    rw [overlay_newCSR f b.1 b.2.1 b.2.2 hb'.1.1 (fun x hx => (hb'.1.2 x hx).1)]
    exact ih hb'.2 _

/-- Two ways of cutting the same sequence of assignments into batches give the same dense
    content. -/
theorem rebatch_invariant (bs1 bs2 : List (Nat × Nat × List (Coo K))) (A : CSM K) (hA : WFM A)
    (hc : HiddenClean A)
    (h1 : ∀ b ∈ bs1, (b.2.2.map (fun e => (e.row, e.col))).Nodup ∧
      ∀ x ∈ b.2.2, x.row < b.1 ∧ x.col < b.2.1)
    (h2 : ∀ b ∈ bs2, (b.2.2.map (fun e => (e.row, e.col))).Nodup ∧
      ∀ x ∈ b.2.2, x.row < b.1 ∧ x.col < b.2.1)
    (hsame : (bs1.map (·.2.2)).flatten = (bs2.map (·.2.2)).flatten) :
    denRows (bs1.foldl (fun A b => (A.merge (CSM.newCSR b.1 b.2.1 b.2.2 true)).1) A).rows =
      denRows (bs2.foldl (fun A b => (A.merge (CSM.newCSR b.1 b.2.1 b.2.2 true)).1) A).rows := by
  rw [rebatch_history bs1 A hA hc h1, rebatch_history bs2 A hA hc h2, hsame]

/-- Overlaying `B` then `C` on a dense map is overlaying once the combined
    update "`C` over `B`" (any matrix `D` whose stored cells are those of `B` or `C`, with `C`'s
    value where `C` stores the cell): batches can be combined before merging. -/
theorem rebatch_invariant_dense (f : Nat → Nat → K) (B C D : CSM K)
    (hcells : ∀ i j, (∃ e ∈ D.rows.getD i [], e.idx = j) ↔
      ((∃ e ∈ B.rows.getD i [], e.idx = j) ∨ ∃ e ∈ C.rows.getD i [], e.idx = j))
    (hvals : ∀ i j, denRows D.rows i j =
      if ∃ e ∈ C.rows.getD i [], e.idx = j then denRows C.rows i j else denRows B.rows i j) :
    overlay (overlay f B) C = overlay f D := by
  funext i j
  unfold overlay
  by_cases hC : ∃ e ∈ C.rows.getD i [], e.idx = j
  · rw [if_pos hC, if_pos ((hcells i j).mpr (Or.inr hC)), hvals, if_pos hC]
  · rw [if_neg hC]
    by_cases hB : ∃ e ∈ B.rows.getD i [], e.idx = j
    · rw [if_pos hB, if_pos ((hcells i j).mpr (Or.inl hB)), hvals, if_neg hC]
    · rw [if_neg hB, if_neg (fun h => ((hcells i j).mp h).elim hB hC)]

example :
    let bs1 : List (Nat × Nat × List (Coo ℚ)) := [(2, 2, [⟨0, 0, 1⟩, ⟨1, 1, 2⟩]), (2, 2, [⟨0, 0, 0⟩])]
    let bs2 : List (Nat × Nat × List (Coo ℚ)) := [(2, 2, [⟨0, 0, 1⟩]), (2, 2, [⟨1, 1, 2⟩, ⟨0, 0, 0⟩])]
    (∀ b ∈ bs1, (b.2.2.map (fun e => (e.row, e.col))).Nodup ∧
      ∀ x ∈ b.2.2, x.row < b.1 ∧ x.col < b.2.1) ∧
    (∀ b ∈ bs2, (b.2.2.map (fun e => (e.row, e.col))).Nodup ∧
      ∀ x ∈ b.2.2, x.row < b.1 ∧ x.col < b.2.1) ∧
    (bs1.map (·.2.2)).flatten = (bs2.map (·.2.2)).flatten := by
  intro bs1 bs2
  exact ⟨by decide +kernel, by decide +kernel, rfl⟩

end EtVerif.C11
