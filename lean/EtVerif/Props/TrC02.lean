/-
  TrC02 — C02 stated about the translated Go code: every vector the CURRENT SOURCE of `basic.Compute`
  (Gen/Translated.lean, regenerated by tools/go2lean on every run) returns on canonical inputs is a
  probability distribution — composition of the refinement `TrC01.compute_refines_ok_partial` with
  `C02.compute_distribution` (any ordered field).  Property theorems only.
-/
import EtVerif.Props.TrC01
import EtVerif.Props.C02

namespace EtVerif.TrC02
open EtVerif EtVerif.GoSem EtVerif.Gen EtVerif.Tr Scalar

variable {K : Type} [Field K] [LinearOrder K] [IsStrictOrderedRing K]

/-- Canonical `c`, `p` (`Canon`), an initial vector that is a distribution when given, any `a`, `e`,
    options, schedule: whenever the model run ends properly, the translated Go `Compute` returns (no panic, no
    error) a vector of dimension `n` whose indices are strictly increasing and `< n`, whose stored values are
    `≥ 0` and sum to exactly 1 — and that vector is the model's. -/
theorem go_compute_distribution (capO : Nat → Int) (n fuel : Nat) (c : CSM K) (p : Vec K) (a e : K)
    (o : ComputeOpts K) (tRes : Option (Vec K)) (gs : Option (GFlatTailStats K))
    (hres : o.resultDim = tRes.map (·.dim)) (hcols : c.colsInRange = true)
    (hap : (Vec.scale a p).entries ≠ [])
    (hc : Canon n c p) (ht0 : ∀ t0, o.t0 = some t0 → Dist n t0.entries)
    (r : ComputeResult K) (hr : compute fuel c p a e o = .ok r) (hend : r.endedBy ≠ .outOfFuel)
    (hfuel : c.major + p.entries.length ≤ fuel) (hfuel63 : fuel < 9223372036854775807) :
    ∃ st, Gen.Compute capO fuel (toGM c) (toGV p) a e (toGOpts o tRes gs) = .ok (st, (toGV r.t, none)) ∧
      r.t.dim = n ∧ Dist n r.t.entries := by
  obtain ⟨⟨st, out⟩, hx, hout⟩ := map_eq_ok
    (TrC01.compute_refines_ok_partial capO fuel c p a e o tRes gs hres hcols hap r hr hend hfuel hfuel63)
  obtain ⟨rfl, _⟩ := Prod.mk.inj hout
  exact ⟨st, hx, C02.compute_distribution n fuel c p a e o hc ht0 r hr⟩

end EtVerif.TrC02
