/-
  C13 (concurrent clause) — concurrent `/local-trust/{id}` requests behave as some sequential
  order of the same requests.  Property theorems only; the step-level model (`Step`, `Reach`, the
  history variables `trace` / `hist`) and the simulation argument live in Proofs/StoreConc.lean.

  Vocabulary (Proofs/StoreConc.lean, namespace `EtVerif.StoreConc`):
  * `Req M`, `Resp M`, `specStep ov` / `runSpec ov` — the sequential specification of C13
    (`Oapi.handleStore`, `C13.specStep`) with matrices abstracted to a type `M` and merge to an
    overlay `ov target update`; `specStep_eq_C13` below ties it back to `C13.specStep`;
  * `Step prog ov s s'` — one atomic action (a `sync.Map` primitive or a `LockAndRun` section) of
    one goroutine; `Reach prog ov s` — `s` is reachable from the empty store by any interleaving of
    any number of goroutines, goroutine `r` serving request `prog r`;
  * `s.trace` — the atomic actions in execution order; `s.hist` — the completed requests with the
    step indices of their first (`inv`) and last (`res`) atomic action, request and response;
  * `mapOf tr`, `contOf ov tr o` — map and object contents *defined from a trace*: `contOf` is the
    fold of `ov` over the merge bodies applied to `o` by locked sections, in section order, starting
    from the body `o` was allocated with; `Sound ov tr` — every action of `tr` observed exactly the
    map / content defined by the actions before it; `Rec.Backed` — the response of a record is the
    one determined by the final atomic action of its request (201 iff `Swap` / `LoadOrStore` found
    no previous binding, …).

  RESULT.  `linearizable` holds with no side condition.  The orphaned-object scenarios (a merge
  section or a get's read on an object that a concurrent Swap / LoadAndDelete already removed from
  the map) are linearized immediately *before* the request that removed the object — they were in
  flight at that instant, and a put / delete of an id does not see the content it replaces.
  `linearizable_no_merge` is the instance for programs without merge requests.

  FINDING (outside the abstraction "bodies are already loaded"): a PUT whose body is a *stored
  reference* reads the source (Load + locked copy) and later Swaps — two separate instants — and is
  NOT linearizable w.r.t. `C13.specStep`: `stored_ref_put_not_linearizable`.
-/
import EtVerif.Proofs.StoreConc
import EtVerif.Props.C13

namespace EtVerif.C13b
open EtVerif EtVerif.StoreConc

set_option linter.unusedSectionVars false

variable {M : Type} {prog : Nat → Req M} {ov : M → M → M} {s : St M}

/-! ## the step-level invariant -/

/-- In every reachable state the map and every object's content are the ones defined by the trace
    of atomic actions (content = fold of `ov` over the merge bodies applied in locked sections, in
    section order, from the allocation body), every action observed exactly that state, and every
    recorded response is the one determined by the request's final atomic action. -/
theorem conc_invariant (h : Reach prog ov s) :
    s.map = mapOf s.trace ∧ s.cont = contOf ov s.trace ∧ Sound ov s.trace ∧
    (∀ rc ∈ s.hist, rc.Backed prog s.trace) :=
  let t := TraceInv.reach h
  ⟨t.map_eq, t.cont_eq, t.sound, t.backed⟩

/-- `conc_invariant` spelled out for one object. -/
theorem content_is_fold (h : Reach prog ov s) (o : Nat) (c : M) (hc : s.cont o = some c) :
    ∃ b0, allocBody s.trace o = some b0 ∧ c = (mergeBodies s.trace o).foldl ov b0 := by
  rw [(TraceInv.reach h).cont_eq, contOf, Option.map_eq_some_iff] at hc
  obtain ⟨b0, h0, h1⟩ := hc
  exact ⟨b0, h0, h1.symm⟩

/-! ## linearizability -/

/-- A history is linearizable: some permutation of the completed requests (a) respects real-time
    order — a request that responded before another was invoked stands before it — and (b) replayed
    through the sequential specification from the empty store produces exactly the recorded
    responses. -/
def Linearizable (ov : M → M → M) (hist : List (Rec M)) : Prop :=
  ∃ l : List (Rec M), l.Perm hist ∧
    (∀ (i j : Nat) (hi : i < l.length) (hj : j < l.length), l[i].res < l[j].inv → i < j) ∧
    runSpec ov (fun _ => none) (l.map (·.req)) = l.map (·.resp)

/-- Every concurrent history of put / put?merge / get / head / delete requests, under every
    interleaving of the atomic actions of any number of goroutines, is linearizable.  (`s.hist`
    holds the completed requests; a pending request has had no effect yet — every handler's only
    write is its final atomic action — so pending requests are simply left out.) -/
theorem linearizable (h : Reach prog ov s) : Linearizable ov s.hist := by
  obtain ⟨l, hp, hrt, hrun⟩ := linearization_exists h
  refine ⟨l, hp, rt_index hrt ?_, hrun⟩
  intro rc hrc
  exact ((TraceInv.reach h).backed rc (hp.mem_iff.mp hrc)).2.1

/-- The merge-free case (put, get, head, delete only). -/
theorem linearizable_no_merge (h : Reach prog ov s) (_hnm : ∀ r id b, prog r ≠ .merge id b) :
    Linearizable ov s.hist :=
  linearizable h

/-! ## the abstract specification is `C13.specStep` -/

section tie
variable {K : Type} [Field K] [LinearOrder K]

/-- the matrices of the C13 specification: size and dense content -/
abbrev Mx (K : Type) := Nat × (Nat → Nat → K)

/-- merge in the C13 specification: larger size, update wins where it has an entry -/
def ovK (a b : Mx K) : Mx K := (max a.1 b.1, C13.overlayNZ a.2 b.2)

def toSpecReq : Req (Mx K) → C13.SpecReq K
  | .put id b => .put id false (.matrix b.1 b.2)
  | .merge id b => .put id true (.matrix b.1 b.2)
  | .get id => .get id
  | .head id => .head id
  | .delete id => .delete id

def toSpecResp : Resp (Mx K) → C13.SpecResp K
  | .created => .created
  | .updated => .updated
  | .noContent => .noContent
  | .notFound => .notFound
  | .matrix m => .matrix m.1 m.2

theorem kvSet_eq_update (kv : C13.KV K) (id : String) (x : Option (Mx K)) :
    C13.kvSet kv id x = Function.update kv id x := by
  funext id'
  simp [C13.kvSet, Function.update_apply]

/-- `StoreConc.specStep` at `M := Mx K`, `ov := ovK` is `C13.specStep` on valid inline bodies. -/
theorem specStep_eq_C13 (kv : C13.KV K) (q : Req (Mx K)) :
    C13.specStep kv (toSpecReq q) =
      ((specStep ovK kv q).1, toSpecResp (specStep ovK kv q).2) := by
  cases q with
  | put id b =>
    cases h : kv id <;>
      simp [toSpecReq, C13.specStep, C13.resolve, specStep, h, kvSet_eq_update, toSpecResp]
  | merge id b =>
    cases h : kv id <;>
      simp [toSpecReq, C13.specStep, C13.resolve, specStep, h, kvSet_eq_update, toSpecResp, ovK]
  | get id =>
    cases h : kv id <;> simp [toSpecReq, C13.specStep, specStep, h, toSpecResp]
  | head id =>
    cases h : kv id <;> simp [toSpecReq, C13.specStep, specStep, h, toSpecResp]
  | delete id =>
    cases h : kv id <;>
      simp [toSpecReq, C13.specStep, specStep, h, kvSet_eq_update, toSpecResp]

theorem runSpec_eq_C13 (kv : C13.KV K) (qs : List (Req (Mx K))) :
    C13.runSpec kv (qs.map toSpecReq) = (runSpec ovK kv qs).map toSpecResp := by
  induction qs generalizing kv with
  | nil => rfl
  | cons q qs ih =>
    simp only [List.map_cons, C13.runSpec, runSpec, specStep_eq_C13, ih]

/-- `linearizable`, replayed through the specification of Props/C13.lean itself. -/
theorem linearizable_C13 {prog : Nat → Req (Mx K)} {s : St (Mx K)} (h : Reach prog ovK s) :
    ∃ l : List (Rec (Mx K)), l.Perm s.hist ∧
      (∀ (i j : Nat) (hi : i < l.length) (hj : j < l.length), l[i].res < l[j].inv → i < j) ∧
      C13.runSpec (fun _ => none) (l.map fun rc => toSpecReq rc.req) =
        l.map fun rc => toSpecResp rc.resp := by
  obtain ⟨l, hp, hrt, hrun⟩ := linearizable h
  refine ⟨l, hp, hrt, ?_⟩
  have := runSpec_eq_C13 (K := K) (fun _ => none) (l.map (·.req))
  rw [List.map_map] at this
  rw [show (fun rc : Rec (Mx K) => toSpecReq rc.req) = toSpecReq ∘ (·.req) from rfl, this, hrun,
    List.map_map]
  rfl

end tie

/-! ## FINDING: a PUT whose body is a stored reference is not atomic

  `UpdateLocalTrust` with body `{scheme: "stored", id: src}` first runs `loadStoredTrustMatrix`
  (`Load(src)` + a locked copy: exactly the two atomic actions of a GET of `src`) and later
  `Set` / `Merge` (`Swap` / `LoadOrStore` with the copy: exactly the action of a PUT of the copied
  matrix).  In the model this goroutine is therefore a `get src` followed by a `put id copy`.
  Sequentially (`C13.specStep`, `SpecBody.stored`) such a PUT is one instant.

  Witness (3 clients): `PUT a X` completes; client P sends `PUT a {stored a}`, its handler loads
  and copies `a` (steps 1-2); `DELETE a` → 204 (step 3); P's handler Swaps (step 4): nothing was
  loaded, so P is answered **201 Created**.  Sequentially `PUT a {stored a}` can only answer 400
  (`a` absent) or 200 (`a` present, hence replaced) — never 201; so no order of the three requests,
  real-time respecting or not, explains the responses.  (With two ids the same non-atomicity gives
  the more familiar anomaly: `PUT a X`; P: `PUT b {stored a}` copies X; `DELETE a` → 204; then
  `GET b` → 404; P Swaps → 201: P must follow the GET, hence the DELETE, where `a` is absent.) -/

section witness

private def wX : Mx ℚ := (1, fun _ _ => 0)

/-- goroutines: 0 = `PUT a X`; 1 then 3 = the two halves of P's `PUT a {stored a}`;
    2 = `DELETE a` -/
private def wProg : Nat → Req (Mx ℚ)
  | 0 => .put "a" wX
  | 1 => .get "a"
  | 2 => .delete "a"
  | _ => .put "a" wX

/-- what the three clients observe: invocation step, response step, request, response -/
private def wClient : List (Nat × Nat × C13.SpecReq ℚ × C13.SpecResp ℚ) :=
  [ (0, 0, .put "a" false (.matrix wX.1 wX.2), .created),
    (1, 4, .put "a" false (.stored "a"), .created),
    (3, 3, .delete "a", .noContent) ]

theorem runSpec_mem {K : Type} [Field K] [LinearOrder K]
    (l : List (Nat × Nat × C13.SpecReq K × C13.SpecResp K)) (kv : C13.KV K)
    (h : C13.runSpec kv (l.map (·.2.2.1)) = l.map (·.2.2.2))
    (x : Nat × Nat × C13.SpecReq K × C13.SpecResp K) (hx : x ∈ l) :
    ∃ kv', (C13.specStep kv' x.2.2.1).2 = x.2.2.2 := by
  induction l generalizing kv with
  | nil => cases hx
  | cons y l ih =>
    simp only [List.map_cons, C13.runSpec, List.cons.injEq] at h
    rcases List.mem_cons.mp hx with rfl | hx
    · exact ⟨kv, h.1⟩
    · exact ih _ h.2 hx

/-- sequentially, copying an id onto itself never creates it -/
theorem self_copy_never_created {K : Type} [Field K] [LinearOrder K] (kv : C13.KV K) (id : String) :
    (C13.specStep kv (.put id false (.stored id))).2 ≠ .created := by
  cases h : kv id with
  | none => simp [C13.specStep, C13.resolve, h]
  | some m => simp [C13.specStep, C13.resolve, h]

/-- There is an execution of the handlers (5 atomic actions, 3 clients) whose client-visible
    history has NO sequential explanation at all w.r.t. `C13.specStep`: the handler of
    `PUT a {stored a}` (goroutines 1 and 3) copies `a`, `a` is deleted, and the handler's Swap
    then reports 201. -/
theorem stored_ref_put_not_linearizable :
    ∃ s : St (Mx ℚ), Reach wProg ovK s ∧
      s.hist = [⟨0, .put "a" wX, 0, 0, .created⟩, ⟨1, .get "a", 1, 2, .matrix wX⟩,
                ⟨2, .delete "a", 3, 3, .noContent⟩, ⟨3, .put "a" wX, 4, 4, .created⟩] ∧
      ¬ ∃ l : List (Nat × Nat × C13.SpecReq ℚ × C13.SpecResp ℚ), l.Perm wClient ∧
          C13.runSpec (fun _ => none) (l.map (·.2.2.1)) = l.map (·.2.2.2) := by
  refine ⟨_, reach_of_runFn (sched := [0, 1, 1, 2, 3]) rfl, rfl, ?_⟩
  rintro ⟨l, hp, hrun⟩
  have hx : (1, 4, C13.SpecReq.put "a" false (.stored "a"), C13.SpecResp.created) ∈ l :=
    hp.mem_iff.mpr (by simp [wClient])
  obtain ⟨kv', hkv'⟩ := runSpec_mem l _ hrun _ hx
  exact self_copy_never_created kv' "a" hkv'

end witness

/-! ## non-vacuity: concrete concurrent executions with overlapping requests -/

section examples

/-- the overlay of the examples is `++`, so that a content shows which bodies were merged into
    it and in which order -/
private def app (a b : List Nat) : List Nat := a ++ b

/-- goroutines: 0 = `PUT a [1]`, 1 = `PUT?merge a [2]`, 2 = `GET a`, 3 = `PUT a [9]` -/
private def exProg : Nat → Req (List Nat)
  | 0 => .put "a" [1]
  | 1 => .merge "a" [2]
  | 2 => .get "a"
  | 3 => .put "a" [9]
  | _ => .head "z"

/-- schedule: put 0 | merge 1 loads o0 | get 2 loads o0 | put 3 swaps (o0 orphaned) |
    merge 1 merges into the orphan | get 2 reads the orphan: `[1, 2]`, a value the map never held -/
private def exSched : List Nat := [0, 1, 2, 3, 1, 2]

private def exHist : List (Rec (List Nat)) :=
  [⟨0, .put "a" [1], 0, 0, .created⟩, ⟨3, .put "a" [9], 3, 3, .updated⟩,
   ⟨1, .merge "a" [2], 1, 4, .updated⟩, ⟨2, .get "a", 2, 5, .matrix [1, 2]⟩]

private theorem ex_run : ∃ s, runFn exProg app init exSched = some s ∧ s.hist = exHist ∧
    s.cont 0 = some [1, 2] ∧ s.map "a" = some 2 := by
  exact ⟨_, rfl, rfl, rfl, rfl⟩

example : ∃ s, Reach exProg app s ∧ s.hist = exHist ∧ Linearizable app s.hist := by
  obtain ⟨s, h1, h2, _⟩ := ex_run
  exact ⟨s, reach_of_runFn h1, h2, linearizable (reach_of_runFn h1)⟩

/-- its linearization, explicitly: put 0, merge 1, get 2 (both *before* the put that orphaned the
    object they worked on), put 3 -/
private def exLin : List (Rec (List Nat)) :=
  [⟨0, .put "a" [1], 0, 0, .created⟩, ⟨1, .merge "a" [2], 1, 4, .updated⟩,
   ⟨2, .get "a", 2, 5, .matrix [1, 2]⟩, ⟨3, .put "a" [9], 3, 3, .updated⟩]

example : exLin.Perm exHist ∧ exLin.Pairwise (fun a b => ¬ b.res < a.inv) ∧
    runSpec app (fun _ => none) (exLin.map (·.req)) = exLin.map (·.resp) := by
  exact ⟨.cons _ (List.perm_append_comm (l₁ := [_, _])), by decide, rfl⟩

example : ∃ s, Reach exProg app s ∧ s.cont 0 = some [1, 2] ∧
    (∃ b0, allocBody s.trace 0 = some b0 ∧ [1, 2] = (mergeBodies s.trace 0).foldl app b0) := by
  obtain ⟨s, h1, _, h3, _⟩ := ex_run
  exact ⟨s, reach_of_runFn h1, h3, content_is_fold (reach_of_runFn h1) 0 _ h3⟩

example : ∃ s, Reach exProg app s ∧ s.hist = exHist ∧ Sound app s.trace := by
  obtain ⟨s, h1, h2, _⟩ := ex_run
  exact ⟨s, reach_of_runFn h1, h2, (conc_invariant (reach_of_runFn h1)).2.2.1⟩

/-- merge-free: 0 = `PUT a [1]`, 1 = `GET a`, 2 = `DELETE a`, 3 = `HEAD a`;
    the get loads, the delete and the head complete, the get reads the orphan -/
private def exProg2 : Nat → Req (List Nat)
  | 0 => .put "a" [1]
  | 1 => .get "a"
  | 2 => .delete "a"
  | _ => .head "a"

private theorem exProg2_no_merge : ∀ r id b, exProg2 r ≠ .merge id b := by
  intro r id b h
  unfold exProg2 at h
  split at h <;> cases h

example : ∃ s, Reach exProg2 app s ∧
    s.hist = [⟨0, .put "a" [1], 0, 0, .created⟩, ⟨2, .delete "a", 2, 2, .noContent⟩,
              ⟨3, .head "a", 3, 3, .notFound⟩, ⟨1, .get "a", 1, 4, .matrix [1]⟩] ∧
    Linearizable app s.hist := by
  have h : ∃ s, runFn exProg2 app init [0, 1, 2, 3, 1] = some s ∧ s.hist =
      [⟨0, .put "a" [1], 0, 0, .created⟩, ⟨2, .delete "a", 2, 2, .noContent⟩,
       ⟨3, .head "a", 3, 3, .notFound⟩, ⟨1, .get "a", 1, 4, .matrix [1]⟩] := by
    exact ⟨_, rfl, rfl⟩
  obtain ⟨s, h1, h2⟩ := h
  exact ⟨s, reach_of_runFn h1, h2, linearizable_no_merge (reach_of_runFn h1) exProg2_no_merge⟩

/-- the scenario "put a X; [get a loads o]; delete a; [merge a Z creates a new object]; get reads
    o": 0 = `PUT a [1]`, 1 = `GET a`, 2 = `DELETE a`, 3 = `PUT?merge a [7]` (answered 201);
    linearization: put, get, delete, merge -/
private def exProg3 : Nat → Req (List Nat)
  | 0 => .put "a" [1]
  | 1 => .get "a"
  | 2 => .delete "a"
  | _ => .merge "a" [7]

example : ∃ s, Reach exProg3 app s ∧
    s.hist = [⟨0, .put "a" [1], 0, 0, .created⟩, ⟨2, .delete "a", 2, 2, .noContent⟩,
              ⟨3, .merge "a" [7], 3, 3, .created⟩, ⟨1, .get "a", 1, 4, .matrix [1]⟩] ∧
    Linearizable app s.hist ∧
    runSpec app (fun _ => none) [.put "a" [1], .get "a", .delete "a", .merge "a" [7]] =
      [.created, .matrix [1], .noContent, .created] := by
  have h : ∃ s, runFn exProg3 app init [0, 1, 2, 3, 1] = some s ∧ s.hist =
      [⟨0, .put "a" [1], 0, 0, .created⟩, ⟨2, .delete "a", 2, 2, .noContent⟩,
       ⟨3, .merge "a" [7], 3, 3, .created⟩, ⟨1, .get "a", 1, 4, .matrix [1]⟩] := by
    exact ⟨_, rfl, rfl⟩
  obtain ⟨s, h1, h2⟩ := h
  exact ⟨s, reach_of_runFn h1, h2, linearizable (reach_of_runFn h1), rfl⟩

/-- the C13 specification instance: a put and an overlapping merge at `K := ℚ` -/
private def exProgQ : Nat → Req (Mx ℚ)
  | 0 => .put "a" (2, fun i j => if i = 0 ∧ j = 1 then 1 else 0)
  | 1 => .merge "a" (3, fun i j => if i = 2 ∧ j = 0 then 5 else 0)
  | _ => .get "a"

example : ∃ s, Reach exProgQ ovK s ∧ s.hist.length = 3 := by
  have h : ∃ s, runFn exProgQ ovK init [0, 1, 2, 1, 2] = some s ∧ s.hist.length = 3 :=
    ⟨_, rfl, rfl⟩
  obtain ⟨s, h1, h2⟩ := h
  exact ⟨s, reach_of_runFn h1, h2⟩

example (s : St (Mx ℚ)) (h : Reach exProgQ ovK s) := linearizable_C13 h

example := runSpec_eq_C13 (K := ℚ) (fun _ => none)
  [.put "a" (2, fun _ _ => 1), .merge "a" (3, fun _ _ => 0), .get "a", .delete "a", .head "a"]

end examples

end EtVerif.C13b
