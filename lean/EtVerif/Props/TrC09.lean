/-
  TrC09 — the CURRENT SOURCE of the sparse-vector kernels of pkg/sparse, translated statement by
  statement by tools/go2lean on every run (Gen/Translated.lean), computes exactly what the
  hand-written model computes.  Together with Props/C09 (the model denotes dense arithmetic) this
  ties the C09 theorems to the code by proof, not only by sampling: a change to one of these Go
  functions regenerates its Lean definition and the refinement below has to be re-proved.

  Each theorem: for every input (sorted or not), every capacity behaviour `capO`, every fuel above the
  stated bound (so termination is part of the statement), for an arbitrary `Scalar` (hence at Float,
  Rat and every ordered field alike):  translated Go function = model function, no panic.
  Property theorems only; proofs live in Proofs/Tr*.lean.

  Modelled, not verified, by the translation: see Model/GoSem.lean (value semantics — no aliasing
  between slices / pointer parameters, `cap` an arbitrary function `capO` of the length, unbounded ints).
-/
import EtVerif.Proofs.TrAddSub
import EtVerif.Proofs.TrScale
import EtVerif.Proofs.TrVecDot
import EtVerif.Proofs.TrVecSmall
import EtVerif.Proofs.TrScaleVec
import EtVerif.Proofs.TrSetDim
import EtVerif.Proofs.FieldScalar

namespace EtVerif.TrC09
open EtVerif EtVerif.GoSem EtVerif.Gen EtVerif.Tr Scalar

variable {α : Type} [Scalar α]

set_option linter.unusedSectionVars false

/-- util.go `KBNSummer.Add` = `KBN.push`. -/
theorem kbn_add (k : KBN α) (x : α) :
    (KBNSummer_Add (toGK k) x).map (fun r => r.1.s) = .ok (toGK (k.push x)) :=
  KBNSummer_Add_refines k x

/-- util.go `KBNSummer.Sum` = `KBN.result`. -/
theorem kbn_sum (k : KBN α) : (KBNSummer_Sum (toGK k)).map (fun r => r.2) = .ok k.result :=
  KBNSummer_Sum_refines k

/-- vector.go `Vector.Sum` = `Vec.sum` (compensated sum of the stored values, in order). -/
theorem vector_sum (v : Vec α) : (Vector_Sum (toGV v)).map (fun r => r.2) = .ok v.sum :=
  Vector_Sum_refines v

/-- vector.go `Vector.AddVec` = `Vec.addVec`: same merge, same dimension check, receiver overwritten
    only on success. -/
theorem addVec (capO : Nat → Int) (fuel : Nat) (w : GVector α) (v1 v2 : Vec α)
    (hf : v1.entries.length + v2.entries.length ≤ fuel) :
    (Vector_AddVec capO fuel w (toGV v1) (toGV v2)).map (fun r => (r.1.v, r.2)) =
      (match v1.addVec v2 with
       | .ok r => .ok (toGV r, none)
       | .error _ => .ok (w, some ⟨"ErrDimensionMismatch"⟩)) :=
  Vector_AddVec_refines capO fuel w v1 v2 hf

/-- vector.go `Vector.SubVec` = `Vec.subVec`. -/
theorem subVec (capO : Nat → Int) (fuel : Nat) (w : GVector α) (v1 v2 : Vec α)
    (hf : v1.entries.length + v2.entries.length ≤ fuel) :
    (Vector_SubVec capO fuel w (toGV v1) (toGV v2)).map (fun r => (r.1.v, r.2)) =
      (match v1.subVec v2 with
       | .ok r => .ok (toGV r, none)
       | .error _ => .ok (w, some ⟨"ErrDimensionMismatch"⟩)) :=
  Vector_SubVec_refines capO fuel w v1 v2 hf

/-- vector.go `Vector.scaleInPlace` = `scaleEntries` (in-place compaction of products equal to zero). -/
theorem scaleInPlace (v : Vec α) (a : α) :
    (Vector_scaleInPlace (toGV v) a).map (fun r => r.1.v) = .ok (toGV ⟨v.dim, scaleEntries a v.entries⟩) :=
  Vector_scaleInPlace_refines v a

/-- vector.go `Vector.ScaleVec` = `Vec.scale`: `a == 0` clears; otherwise copy unless the operand is the
    receiver, then scale in place.  Go's pointer comparison `v1 != v` is `!al`: `al` (operand and receiver are
    the same object) is decided at each call site. -/
theorem scaleVec (w : GVector α) (a : α) (v1 : Vec α) (al : Bool) (hal : al = true → w = toGV v1) :
    (Gen.Vector_ScaleVec w a (toGV v1) al).map (fun r => r.1.v) = .ok (toGV (Vec.scale a v1)) :=
  Vector_ScaleVec_refines w a v1 al hal

/-- vector.go `VecDot` = `vecDot`, provided `0 + 0 = 0` in the scalar (needed only when the second operand
    is empty: Go returns the literal 0, the model an empty compensated sum). -/
theorem vecDot_partial (fuel : Nat) (v1 v2 : Vec α) (hf : v2.entries.length ≤ fuel)
    (h0 : v2.entries = [] → add (zero : α) zero = zero) :
    (Gen.VecDot fuel (toGV v1) (toGV v2)).map (fun r => r.2) = .ok (vecDot v1.entries v2.entries) :=
  VecDot_refines_partial fuel v1 v2 hf h0

/-- …and that hypothesis is exactly what is needed (the statement without it is refuted by
    `Tr.VecDot_refines_false` on a law-free `Scalar Bool`). -/
theorem vecDot_iff (fuel : Nat) (v1 v2 : Vec α) (hf : v2.entries.length ≤ fuel) :
    ((Gen.VecDot fuel (toGV v1) (toGV v2)).map (fun r => r.2) = .ok (vecDot v1.entries v2.entries)) ↔
      (v2.entries = [] → add (zero : α) zero = zero) :=
  VecDot_refines_iff fuel v1 v2 hf

/-- At the proof instance (any ordered field, in particular the exact tier's ℚ) the hypothesis holds:
    the translated `VecDot` is the model's `vecDot` outright. -/
theorem vecDot_field {K : Type} [Field K] [LinearOrder K] (fuel : Nat) (v1 v2 : Vec K)
    (hf : v2.entries.length ≤ fuel) :
    (Gen.VecDot fuel (toGV v1) (toGV v2)).map (fun r => r.2) = .ok (vecDot v1.entries v2.entries) :=
  VecDot_refines_partial fuel v1 v2 hf (fun _ => by simp)

/-- vector.go `Vector.Assign`, `Clone`, `Reset`. -/
theorem assign (w : GVector α) (v1 : Vec α) :
    (Vector_Assign w (toGV v1)).map (fun r => r.1.v) = .ok (toGV v1) :=
  Vector_Assign_refines w v1

theorem clone (v : Vec α) : (Vector_Clone (toGV v)).map (fun r => r.2) = .ok (toGV v) :=
  Vector_Clone_refines v

theorem reset (w : GVector α) :
    (Vector_Reset w).map (fun r => r.1.v) = .ok (toGV (⟨0, []⟩ : Vec α)) :=
  Vector_Reset_refines w

/-- vector.go `Vector.SetDim` (binary search + truncation) = `Vec.setDim` (`takeWhile`) on index-sorted
    entries. -/
theorem setDim (v : Vec α) (d : Nat) (hs : sortedStrict v.entries = true) :
    (Vector_SetDim (toGV v) (d : Int)).map (fun r => r.1.v) = .ok (toGV (v.setDim d)) :=
  Vector_SetDim_refines v d hs

/-- non-vacuity: a concrete pair of vectors meets the hypotheses of `addVec`, `setDim`. -/
example : ([⟨0, 1⟩, ⟨2, 3⟩] : List (Entry Rat)).length + ([⟨1, 5⟩] : List (Entry Rat)).length ≤ 3 ∧
    sortedStrict ([⟨0, 1⟩, ⟨2, 3⟩] : List (Entry Rat)) = true := by decide

end EtVerif.TrC09
