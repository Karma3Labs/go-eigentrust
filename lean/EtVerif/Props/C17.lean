/-
  C17 — gRPC `BasicCompute` (pkg/basic/server/grpc/compute.go), on the model `Model/Grpc.lean`.

  BasicCompute replaces the named global-trust vector with the discounted EigenTrust scores of
  the referenced local trust and pre-trust (warm-started from the vector's previous contents;
  uniform pre-trust when none is named), writes the undiscounted scores to the positive-only
  vector when one is named, and honours alpha, epsilon and max_iterations.  Results are stamped
  with the newest input timestamp without ever lowering an existing timestamp, local trust and
  pre-trust are left unchanged, and unknown ids or out-of-range parameters are reported as
  NotFound / InvalidArgument.

  Vocabulary (Proofs/GrpcLemmas.lean):
  * `bcPrep k s q : Except Code (BcEff K)` — everything `basicCompute` does before calling
    `compute`, as a chain of named stages in the order of the model: load the three objects,
    align the dimensions (`bcAlignPre`, `bcAlignGt`; together `bcAligned`), check `alpha` /
    `epsilon` (`bcParamsOK`), canonicalise and split off the distrust (`bcFinish`).  The model
    itself is one nested `match`; `basicCompute_eq` connects the two.  `bcEffective` is `bcPrep`
    as an `Option`.
  * `BcEff` — the effective inputs: `ltm`, `pre`, `gt` (the loaded objects), `c2 p2 t2` (aligned),
    `c4 p3 t3 d4` (canonicalised local trust, pre-trust, initial trust, discounts), `a`, `e`,
    `ts2` (newest input timestamp).
  * `bcOpts q E` — the options passed to `compute`; `bcWrite s q E res` — the write-back.
  * `basicCompute_eq` — `basicCompute` is `bcPrep`, then `compute`, then `bcWrite`.
-/
import EtVerif.Proofs.GrpcLemmas
import Mathlib.Algebra.Order.Field.Rat
import Mathlib.Tactic.NormNum

namespace EtVerif.C17
open EtVerif EtVerif.Grpc EtVerif.GrpcL Scalar

variable {K : Type} [Field K] [LinearOrder K]

set_option linter.unusedSectionVars false

/-! ## errors -/

/-- a request without `params` is refused -/
theorem bc_no_params (fuel : Nat) (k : Consts K) (s : GState K) :
    basicCompute fuel k s none = (s, .invalidArgument) := rfl

/-- unknown local trust id -/
theorem bc_unknown_local_trust (fuel : Nat) (k : Consts K) (s : GState K) (q : Params K)
    (h : lookup s.mats q.localTrustId = none) :
    basicCompute fuel k s (some q) = (s, .notFound) := by
  rw [basicCompute_eq]; unfold bcPrep; rw [h]

/-- unknown (non-empty) pre-trust id -/
theorem bc_unknown_pre_trust (fuel : Nat) (k : Consts K) (s : GState K) (q : Params K)
    (ltm : TM K) (h1 : lookup s.mats q.localTrustId = some ltm)
    (hsq : ltm.m.major = ltm.m.minor) (hne : q.preTrustId ≠ "")
    (h2 : lookup s.vecs q.preTrustId = none) :
    basicCompute fuel k s (some q) = (s, .notFound) := by
  rw [basicCompute_eq]; unfold bcPrep bcLoadPre
  have : (q.preTrustId == "") = false := beq_false_of_ne hne
  rw [h1]; simp only [hsq, ne_eq, not_true_eq_false, if_false, this, Bool.false_eq_true, h2]

/-- the pre-trust is absent (empty id) or present -/
def PreOK (s : GState K) (q : Params K) : Prop :=
  q.preTrustId = "" ∨ (lookup s.vecs q.preTrustId).isSome

theorem bcLoadPre_isSome {s : GState K} {q : Params K} (h : PreOK s q) :
    ∃ pre, bcLoadPre s q = some pre := by
  unfold bcLoadPre
  by_cases h0 : q.preTrustId = ""
  · have : (q.preTrustId == "") = true := by rw [h0]; rfl
    rw [this]; exact ⟨none, rfl⟩
  · have : (q.preTrustId == "") = false := beq_false_of_ne h0
    rw [this]
    rcases h with h | h
    · exact absurd h h0
    · cases hl : lookup s.vecs q.preTrustId with
      | none => rw [hl] at h; cases h
      | some pt => exact ⟨some pt, by simp⟩

theorem bcLoadPre_some {s : GState K} {q : Params K} {pre : Option (TV K)}
    (h : bcLoadPre s q = some pre) :
    (q.preTrustId = "" ∧ pre = none) ∨
    (q.preTrustId ≠ "" ∧ ∃ pt, lookup s.vecs q.preTrustId = some pt ∧ pre = some pt) := by
  unfold bcLoadPre at h
  by_cases h0 : q.preTrustId = ""
  · have : (q.preTrustId == "") = true := by rw [h0]; rfl
    rw [this, if_pos rfl] at h
    exact Or.inl ⟨h0, (Option.some.inj h).symm⟩
  · have : (q.preTrustId == "") = false := beq_false_of_ne h0
    rw [this] at h
    cases hl : lookup s.vecs q.preTrustId with
    | none => rw [hl] at h; cases h
    | some pt => rw [hl] at h; exact Or.inr ⟨h0, pt, rfl, (Option.some.inj h).symm⟩

/-- unknown global trust id -/
theorem bc_unknown_global_trust (fuel : Nat) (k : Consts K) (s : GState K) (q : Params K)
    (ltm : TM K) (h1 : lookup s.mats q.localTrustId = some ltm)
    (hsq : ltm.m.major = ltm.m.minor) (hpre : PreOK s q)
    (h3 : lookup s.vecs q.globalTrustId = none) :
    basicCompute fuel k s (some q) = (s, .notFound) := by
  obtain ⟨pre, hp⟩ := bcLoadPre_isSome hpre
  rw [basicCompute_eq]; unfold bcPrep
  rw [h1]; simp only [hsq, ne_eq, not_true_eq_false, if_false, hp, h3]

/-- `alpha` outside `[0, 1]` or `epsilon` outside `(0, 1]` -/
def BadParams (q : Params K) : Prop :=
  (∃ a, q.alpha = some a ∧ (a < 0 ∨ 1 < a)) ∨ (∃ e, q.epsilon = some e ∧ (e ≤ 0 ∨ 1 < e))

theorem bcParamsOK_eq_false_iff (q : Params K) : bcParamsOK q = false ↔ BadParams q := by
  unfold bcParamsOK BadParams
  rw [Bool.and_eq_false_iff]
  refine or_congr ?_ ?_
  · cases q.alpha with
    | none => simp only [reduceCtorEq, false_and, exists_false]
    | some a =>
      simp only [Bool.not_eq_eq_eq_not, Bool.not_false, Bool.or_eq_true, s_lt, s_zero, s_one,
        decide_eq_true_eq, Option.some.injEq, exists_eq_left']
  · cases q.epsilon with
    | none => simp only [reduceCtorEq, false_and, exists_false]
    | some e =>
      simp only [Bool.not_eq_eq_eq_not, Bool.not_false, Bool.or_eq_true, s_lt, s_le, s_zero, s_one,
        decide_eq_true_eq, Option.some.injEq, exists_eq_left']

/-- out-of-range `alpha` / `epsilon` (all ids being known) -/
theorem bc_bad_params (fuel : Nat) (k : Consts K) (s : GState K) (q : Params K)
    (ltm : TM K) (h1 : lookup s.mats q.localTrustId = some ltm)
    (hsq : ltm.m.major = ltm.m.minor) (hpre : PreOK s q) (gt : TV K)
    (h3 : lookup s.vecs q.globalTrustId = some gt) (hbad : BadParams q) :
    basicCompute fuel k s (some q) = (s, .invalidArgument) := by
  obtain ⟨pre, hp⟩ := bcLoadPre_isSome hpre
  have hb := (bcParamsOK_eq_false_iff q).mpr hbad
  rw [basicCompute_eq]; unfold bcPrep
  rw [h1]; simp only [hsq, ne_eq, not_true_eq_false, if_false, hp, h3, hb, Bool.not_false, if_true]

/-- in every non-ok outcome the state is unchanged -/
theorem bc_error_unchanged (fuel : Nat) (k : Consts K) (s : GState K) (p : Option (Params K))
    (h : (basicCompute fuel k s p).2 ≠ .ok) : (basicCompute fuel k s p).1 = s := by
  cases p with
  | none => rfl
  | some q =>
    revert h
    rw [basicCompute_eq]
    cases bcPrep k s q with
    | error c => intro _; rfl
    | ok E =>
      simp only
      cases compute fuel E.c4 E.p3 E.a E.e (bcOpts q E) with
      | error _ => intro _; rfl
      | ok res => intro h; exact absurd rfl h

/-- the preparation never "fails" with `ok` -/
theorem bcPrep_ne_ok (k : Consts K) (s : GState K) (q : Params K) :
    bcPrep k s q ≠ .error .ok := by
  intro hp
  rcases bcPrep_load k s q with ⟨he, _⟩ | he | ⟨ltm, pre, gt, _, _, _, _, he⟩
  · rw [he] at hp; cases hp
  · rw [he] at hp; cases hp
  · rw [hp] at he
    cases hpar : bcParamsOK q with
    | false => rw [hpar] at he; cases he
    | true =>
      rw [hpar, if_pos rfl] at he
      cases bcFinish_error he.symm

theorem bc_ok_inv {fuel : Nat} {k : Consts K} {s s' : GState K} {q : Params K}
    (h : basicCompute fuel k s (some q) = (s', .ok)) :
    ∃ E res, bcPrep k s q = .ok E ∧ compute fuel E.c4 E.p3 E.a E.e (bcOpts q E) = .ok res ∧
      s' = bcWrite s q E res := by
  rw [basicCompute_eq] at h
  cases hp : bcPrep k s q with
  | error c =>
    rw [hp] at h
    simp only [Prod.mk.injEq] at h
    obtain ⟨_, rfl⟩ := h
    exact absurd hp (bcPrep_ne_ok k s q)
  | ok E =>
    rw [hp] at h
    simp only at h
    cases hc : compute fuel E.c4 E.p3 E.a E.e (bcOpts q E) with
    | error e => rw [hc] at h; simp at h
    | ok res =>
      rw [hc] at h
      simp only [Prod.mk.injEq, and_true] at h
      exact ⟨E, res, rfl, hc, h.symm⟩

/-! ## the result -/

/-- what the effective inputs are, in terms of the stored objects: the three objects are the
    stored ones; with `n` the largest of the three dimensions, the local trust is grown to
    `n × n` (same cells), pre-trust and previous global trust are padded to `n`; then pre-trust
    and previous global trust are canonicalised (`p3`, `t3`), the distrust is split off and both
    matrices are canonicalised (`c4`, `d4`).  Without a pre-trust id, `p3` is uniform. -/
theorem bc_effective_spec {k : Consts K} {s : GState K} {q : Params K} {E : BcEff K}
    (h : bcEffective k s q = some E) :
    lookup s.mats q.localTrustId = some E.ltm ∧
    (q.preTrustId = "" → E.pre = none) ∧
    (q.preTrustId ≠ "" → ∃ pt, lookup s.vecs q.preTrustId = some pt ∧ E.pre = some pt) ∧
    lookup s.vecs q.globalTrustId = some E.gt ∧
    E.c2.major = max E.ltm.m.major (max (preDim E.pre) E.gt.v.dim) ∧
    E.c2.minor = max E.ltm.m.major (max (preDim E.pre) E.gt.v.dim) ∧
    E.p2 = ⟨max E.ltm.m.major (max (preDim E.pre) E.gt.v.dim), preEntries E.pre⟩ ∧
    E.t2 = ⟨max E.ltm.m.major (max (preDim E.pre) E.gt.v.dim), E.gt.v.entries⟩ ∧
    (GoodM E.ltm → WFM E.c2 ∧ HiddenClean E.c2 ∧ denRows E.c2.rows = denRows E.ltm.m.rows) ∧
    E.p3 = canonicalizeTrustVector E.p2 ∧ E.t3 = canonicalizeTrustVector E.t2 ∧
    (∃ c3 d3, extractDistrust E.c2 = .ok (c3, d3) ∧
      canonicalizeLocalTrust c3 (some E.p3) = .ok E.c4 ∧
      canonicalizeLocalTrust d3 none = .ok E.d4) ∧
    E.a = q.alpha.getD k.half ∧ E.e = q.epsilon.getD (k.epsNum / (E.c2.major : K)) ∧
    (q.preTrustId = "" →
      E.p3 = ⟨E.c2.major, uniformEntries E.c2.major⟩ ∧
      E.p3 = canonicalizeTrustVector (Vec.new E.c2.major [])) := by
  obtain ⟨h1, hsq, hp, hg, _, hf⟩ := bcPrep_ok (bcEffective_eq_some.mp h)
  obtain ⟨_, _, _, e1, e2, e3, _, e5, e6, e7, e8, e9⟩ := bcFinish_ok hf
  obtain ⟨b1, b2, b3, b4, b5⟩ := bcAligned_spec E.ltm hsq E.pre E.gt
  rw [← e1] at b1 b2 b5
  rw [← e2] at b3
  rw [← e3] at b4
  have hpre0 : q.preTrustId = "" → E.pre = none := fun h0 =>
    (bcLoadPre_some hp).elim (·.2) (fun h => absurd h0 h.1)
  refine ⟨h1, hpre0, ?_, hg, b1, b2, b3, b4, b5, e5, e6, e7, e8, e9, ?_⟩
  · exact fun hne => (bcLoadPre_some hp).elim (fun h => absurd h.1 hne) (·.2)
  · intro h0
    have : E.p2 = ⟨E.c2.major, []⟩ := by
      have b3 : E.p2 = _ := b3
      rw [b3, b1, hpre0 h0]; rfl
    constructor
    · rw [e5, this]
      exact C04.canonTV_uniform _ (by simp)
    · rw [e5, this]; rfl

/-- the pre-trust used when no pre-trust id is given (`sparse.NewVector(cDim, nil)`,
    canonicalised) is the uniform distribution -/
theorem uniform_pretrust (n : Nat) :
    canonicalizeTrustVector (Vec.new n ([] : List (Entry K))) = ⟨n, uniformEntries n⟩ :=
  C04.canonTV_uniform ⟨n, []⟩ (by simp)

/-- **Result.**  On `ok` the effective inputs `E` exist and `compute` succeeded on them,
    warm-started from `E.t3` (the canonicalised previous content of the global trust vector),
    with `alpha`, `epsilon`, `max_iterations` as requested (defaults `k.half`,
    `k.epsNum / n`, unlimited); the global trust vector now holds the discounted scores
    `discountTrustVector res.t E.d4`, and a distinct, existing positive-only vector holds the
    undiscounted scores `res.t`. -/
theorem bc_result {fuel : Nat} {k : Consts K} {s s' : GState K} {q : Params K}
    (h : basicCompute fuel k s (some q) = (s', .ok)) :
    ∃ E res, bcEffective k s q = some E ∧
      compute fuel E.c4 E.p3 E.a E.e (bcOpts q E) = .ok res ∧
      (bcOpts q E).t0 = some E.t3 ∧
      (bcOpts q E).maxIterations =
        (if q.maxIterations = 0 then none else some (q.maxIterations : Int)) ∧
      (bcOpts q E).minIterations = none ∧ (bcOpts q E).checkFreq = none ∧
      (bcOpts q E).flatTail = 0 ∧ (bcOpts q E).numLeaders = 0 ∧
      E.a = q.alpha.getD k.half ∧ E.e = q.epsilon.getD (k.epsNum / (E.c2.major : K)) ∧
      (lookup s'.vecs q.globalTrustId).map (·.v) = some (discountTrustVector res.t E.d4) ∧
      (∀ gtp, q.positiveGlobalTrustId ≠ "" → q.positiveGlobalTrustId ≠ q.globalTrustId →
        lookup s.vecs q.positiveGlobalTrustId = some gtp →
        (lookup s'.vecs q.positiveGlobalTrustId).map (·.v) = some res.t) := by
  obtain ⟨E, res, hp, hc, rfl⟩ := bc_ok_inv h
  obtain ⟨_, _, _, hg, _, hf⟩ := bcPrep_ok hp
  obtain ⟨_, _, _, _, _, _, _, _, _, _, e8, e9⟩ := bcFinish_ok hf
  refine ⟨E, res, bcEffective_eq_some.mpr hp, hc, rfl, rfl, rfl, rfl, rfl, rfl, e8, e9, ?_, ?_⟩
  · rw [bcWrite_gt s q E res hg]; rfl
  · intro gtp h0 hne hl
    rw [bcWrite_pos s q E res h0 hne hl]; rfl

/-- the scores are the `res.iters`-th power iterate started from the previous (canonicalised)
    global trust -/
theorem bc_warm_start {fuel : Nat} {k : Consts K} {s s' : GState K} {q : Params K}
    (h : basicCompute fuel k s (some q) = (s', .ok)) :
    ∃ E res, bcEffective k s q = some E ∧
      compute fuel E.c4 E.p3 E.a E.e (bcOpts q E) = .ok res ∧
      res.t = ⟨E.c4.major, iterate E.c4.transpose.rows (Vec.scale E.a E.p3).entries
        (1 - E.a) res.iters E.t3.entries⟩ := by
  obtain ⟨E, res, hp, hc, _⟩ := bc_ok_inv h
  exact ⟨E, res, bcEffective_eq_some.mpr hp, hc, (C05.compute_spec _ _ _ _ _ _ _ hc).2.1⟩

/-! ## timestamps -/

/-- the timestamp of the named pre-trust (0 when none is named) -/
def preTrustTs (s : GState K) (q : Params K) : Nat :=
  if q.preTrustId = "" then 0 else ((lookup s.vecs q.preTrustId).map (·.ts)).getD 0

/-- **Timestamps.**  On `ok` the global trust vector is stamped with the maximum of its old
    timestamp and the timestamps of local trust and pre-trust; a distinct positive-only vector
    with the maximum of its own old timestamp and all three input timestamps. -/
theorem bc_timestamps {fuel : Nat} {k : Consts K} {s s' : GState K} {q : Params K}
    (h : basicCompute fuel k s (some q) = (s', .ok)) :
    ∃ ltm gt, lookup s.mats q.localTrustId = some ltm ∧
      lookup s.vecs q.globalTrustId = some gt ∧
      (lookup s'.vecs q.globalTrustId).map (·.ts) =
        some (max gt.ts (max ltm.ts (preTrustTs s q))) ∧
      (∀ gtp, q.positiveGlobalTrustId ≠ "" → q.positiveGlobalTrustId ≠ q.globalTrustId →
        lookup s.vecs q.positiveGlobalTrustId = some gtp →
        (lookup s'.vecs q.positiveGlobalTrustId).map (·.ts) =
          some (max gtp.ts (max (max ltm.ts (preTrustTs s q)) gt.ts))) := by
  obtain ⟨E, res, hp, hc, rfl⟩ := bc_ok_inv h
  obtain ⟨h1, _, hpre, hg, _, hf⟩ := bcPrep_ok hp
  have ets := (bcFinish_ok hf).2.2.2.2.2.2.1
  have hpt : preTs E.pre = preTrustTs s q := by
    unfold preTrustTs
    rcases bcLoadPre_some hpre with ⟨h0, he⟩ | ⟨h0, pt, hl, he⟩
    · rw [if_pos h0, he]; rfl
    · rw [if_neg h0, hl, he]; rfl
  rw [hpt] at ets
  refine ⟨E.ltm, E.gt, h1, hg, ?_, ?_⟩
  · rw [bcWrite_gt s q E res hg, ets, Nat.max_comm _ E.gt.ts, ← Nat.max_assoc, Nat.max_self]
    rfl
  · intro gtp h0 hne hl
    rw [bcWrite_pos s q E res h0 hne hl, ets]
    rfl

/-- in particular no timestamp is ever lowered, and the result is at least as new as every
    input -/
theorem bc_ts_never_lowered {fuel : Nat} {k : Consts K} {s s' : GState K} {q : Params K}
    (h : basicCompute fuel k s (some q) = (s', .ok)) :
    ∃ ltm gt gt', lookup s.mats q.localTrustId = some ltm ∧
      lookup s.vecs q.globalTrustId = some gt ∧ lookup s'.vecs q.globalTrustId = some gt' ∧
      gt.ts ≤ gt'.ts ∧ ltm.ts ≤ gt'.ts ∧ preTrustTs s q ≤ gt'.ts ∧
      (∀ gtp, q.positiveGlobalTrustId ≠ "" → q.positiveGlobalTrustId ≠ q.globalTrustId →
        lookup s.vecs q.positiveGlobalTrustId = some gtp →
        ∃ gtp', lookup s'.vecs q.positiveGlobalTrustId = some gtp' ∧ gtp.ts ≤ gtp'.ts ∧
          gt.ts ≤ gtp'.ts ∧ ltm.ts ≤ gtp'.ts ∧ preTrustTs s q ≤ gtp'.ts) := by
  obtain ⟨ltm, gt, h1, h2, h3, h4⟩ := bc_timestamps h
  obtain ⟨gt', hl, h3⟩ := Option.map_eq_some_iff.mp h3
  have h3 : gt'.ts = max gt.ts (max ltm.ts (preTrustTs s q)) := h3
  refine ⟨ltm, gt, gt', h1, h2, hl, ?_⟩
  rw [h3]
  simp only [le_max_iff, le_refl, true_or, or_true, true_and]
  intro gtp a b c
  obtain ⟨gtp', hl', h5⟩ := Option.map_eq_some_iff.mp (h4 gtp a b c)
  have h5 : gtp'.ts = max gtp.ts (max (max ltm.ts (preTrustTs s q)) gt.ts) := h5
  refine ⟨gtp', hl', ?_⟩
  rw [h5]
  simp only [le_max_iff, le_refl, true_or, or_true, and_self]

/-! ## inputs are left unchanged -/

/-- **Frame.**  Whatever the outcome, the trust matrices (content and timestamps) are unchanged,
    and so is every vector other than the global trust and the positive-only vector — in
    particular the pre-trust when its id differs from those two. -/
theorem bc_inputs_unchanged (fuel : Nat) (k : Consts K) (s : GState K) (p : Option (Params K)) :
    (basicCompute fuel k s p).1.mats = s.mats ∧
    ∀ id, (∀ q, p = some q → id ≠ q.globalTrustId ∧ id ≠ q.positiveGlobalTrustId) →
      lookup (basicCompute fuel k s p).1.vecs id = lookup s.vecs id := by
  by_cases hok : (basicCompute fuel k s p).2 = .ok
  · cases p with
    | none => cases hok
    | some q =>
      have h : basicCompute fuel k s (some q) = ((basicCompute fuel k s (some q)).1, .ok) := by
        rw [← hok]
      obtain ⟨E, res, _, _, hw⟩ := bc_ok_inv h
      rw [hw]
      refine ⟨bcWrite_mats s q E res, fun id hid => ?_⟩
      obtain ⟨a, b⟩ := hid q rfl
      exact bcWrite_lookup_other s q E res a b
  · rw [bc_error_unchanged fuel k s p hok]
    exact ⟨rfl, fun _ _ => rfl⟩

/-! ## `max_iterations` -/

/-- **max_iterations.**  With a non-zero `max_iterations` an `ok` run of `BasicCompute` made at
    most that many iterations (`0` means unlimited: `bcOpts`). -/
theorem bc_honours_max_iterations {fuel : Nat} {k : Consts K} {s s' : GState K} {q : Params K}
    (h : basicCompute fuel k s (some q) = (s', .ok)) (hm : q.maxIterations ≠ 0) :
    ∃ E res, bcEffective k s q = some E ∧
      compute fuel E.c4 E.p3 E.a E.e (bcOpts q E) = .ok res ∧ res.iters ≤ q.maxIterations := by
  obtain ⟨E, res, hp, hc, _⟩ := bc_ok_inv h
  refine ⟨E, res, bcEffective_eq_some.mpr hp, hc, ?_⟩
  have := (C05.compute_spec _ _ _ _ _ _ _ hc).2.2.1
  have ho : (bcOpts q E).maxIterations = some (q.maxIterations : Int) := by
    unfold bcOpts; simp [hm]
  rw [ho] at this
  simp only [Option.getD_some] at this
  have := this (by exact_mod_cast hm)
  exact_mod_cast this

/-! ## the error codes, exactly -/

theorem preOK_of_bcLoadPre {s : GState K} {q : Params K} {pre : Option (TV K)}
    (h : bcLoadPre s q = some pre) : PreOK s q := by
  rcases bcLoadPre_some h with ⟨h0, _⟩ | ⟨_, pt, hl, _⟩
  · exact Or.inl h0
  · exact Or.inr (by rw [hl]; rfl)

/-- the response code is the error of the preparation, else `Unavailable` when `compute` fails,
    else `ok` -/
theorem bc_code_eq (fuel : Nat) (k : Consts K) (s : GState K) (q : Params K) :
    (basicCompute fuel k s (some q)).2 =
      match bcPrep k s q with
      | .error c => c
      | .ok E =>
        match compute fuel E.c4 E.p3 E.a E.e (bcOpts q E) with
        | .error _ => .unavailable
        | .ok _ => .ok := by
  rw [basicCompute_eq]
  cases bcPrep k s q with
  | error c => rfl
  | ok E =>
    simp only
    cases compute fuel E.c4 E.p3 E.a E.e (bcOpts q E) <;> rfl

/-- the three ways the preparation fails -/
theorem bcPrep_error_cases {k : Consts K} {s : GState K} {q : Params K} {c : Code}
    (h : bcPrep k s q = .error c) :
    (c = .notFound ∧ (lookup s.mats q.localTrustId = none ∨
      ∃ ltm, lookup s.mats q.localTrustId = some ltm ∧ ltm.m.major = ltm.m.minor ∧
        (¬ PreOK s q ∨ lookup s.vecs q.globalTrustId = none))) ∨
    (c = .invalidArgument ∧ ∃ ltm gt, lookup s.mats q.localTrustId = some ltm ∧
      ltm.m.major = ltm.m.minor ∧ PreOK s q ∧ lookup s.vecs q.globalTrustId = some gt ∧
      BadParams q) ∨
    c = .internal := by
  rcases bcPrep_load k s q with ⟨he, hnf⟩ | he | ⟨ltm, pre, gt, h1, hsq, hp, hg, he⟩
  · rw [he] at h; cases h
    refine Or.inl ⟨rfl, hnf.imp_right ?_⟩
    rintro ⟨ltm, h1, hsq, hp | hg⟩
    · refine ⟨ltm, h1, hsq, Or.inl fun hpre => ?_⟩
      obtain ⟨pre, hp'⟩ := bcLoadPre_isSome hpre
      rw [hp] at hp'; cases hp'
    · exact ⟨ltm, h1, hsq, Or.inr hg⟩
  · rw [he] at h; cases h; exact Or.inr (Or.inr rfl)
  · rw [h] at he
    cases hpar : bcParamsOK q with
    | false =>
      rw [hpar] at he; cases he
      exact Or.inr (Or.inl ⟨rfl, ltm, gt, h1, hsq, preOK_of_bcLoadPre hp, hg,
        (bcParamsOK_eq_false_iff q).mp hpar⟩)
    | true =>
      rw [hpar, if_pos rfl] at he
      exact Or.inr (Or.inr (bcFinish_error he.symm))

theorem bcPrep_of_code {fuel : Nat} {k : Consts K} {s : GState K} {q : Params K} {c : Code}
    (h : (basicCompute fuel k s (some q)).2 = c) (h1 : c ≠ .ok) (h2 : c ≠ .unavailable) :
    bcPrep k s q = .error c := by
  rw [bc_code_eq] at h
  cases hp : bcPrep k s q with
  | error c' => rw [hp] at h; exact congrArg _ h
  | ok E =>
    rw [hp] at h
    simp only at h
    cases hc : compute fuel E.c4 E.p3 E.a E.e (bcOpts q E) with
    | error _ => rw [hc] at h; exact absurd h.symm h2
    | ok _ => rw [hc] at h; exact absurd h.symm h1

theorem not_preOK {s : GState K} {q : Params K} (h : ¬ PreOK s q) :
    q.preTrustId ≠ "" ∧ lookup s.vecs q.preTrustId = none := by
  refine ⟨fun h0 => h (Or.inl h0), ?_⟩
  cases hl : lookup s.vecs q.preTrustId with
  | none => rfl
  | some pt => exact absurd (Or.inr (by rw [hl]; rfl)) h

/-- **NotFound** is reported exactly when one of the referenced ids is unknown (ids are looked
    up in the order local trust, pre-trust, global trust; a stored local trust is always
    square) -/
theorem bc_notFound_iff (fuel : Nat) (k : Consts K) (s : GState K) (q : Params K) :
    (basicCompute fuel k s (some q)).2 = .notFound ↔
      (lookup s.mats q.localTrustId = none ∨
        ∃ ltm, lookup s.mats q.localTrustId = some ltm ∧ ltm.m.major = ltm.m.minor ∧
          (¬ PreOK s q ∨ lookup s.vecs q.globalTrustId = none)) := by
  constructor
  · intro h
    rcases bcPrep_error_cases (bcPrep_of_code h nofun nofun) with ⟨_, h'⟩ | ⟨h', _⟩ | h'
    · exact h'
    · cases h'
    · cases h'
  · rintro (h | ⟨ltm, h1, hsq, h | h⟩)
    · rw [bc_unknown_local_trust fuel k s q h]
    · rw [bc_unknown_pre_trust fuel k s q ltm h1 hsq (not_preOK h).1 (not_preOK h).2]
    · by_cases hpre : PreOK s q
      · rw [bc_unknown_global_trust fuel k s q ltm h1 hsq hpre h]
      · rw [bc_unknown_pre_trust fuel k s q ltm h1 hsq (not_preOK hpre).1 (not_preOK hpre).2]

/-- **InvalidArgument** for a request with `params` is reported exactly when all ids are known
    and `alpha` / `epsilon` is out of range (a request without `params`: `bc_no_params`) -/
theorem bc_invalidArgument_iff (fuel : Nat) (k : Consts K) (s : GState K) (q : Params K) :
    (basicCompute fuel k s (some q)).2 = .invalidArgument ↔
      ∃ ltm gt, lookup s.mats q.localTrustId = some ltm ∧ ltm.m.major = ltm.m.minor ∧
        PreOK s q ∧ lookup s.vecs q.globalTrustId = some gt ∧ BadParams q := by
  constructor
  · intro h
    rcases bcPrep_error_cases (bcPrep_of_code h nofun nofun) with ⟨h', _⟩ | ⟨_, h'⟩ | h'
    · cases h'
    · exact h'
    · cases h'
  · rintro ⟨ltm, gt, h1, hsq, hpre, hg, hb⟩
    rw [bc_bad_params fuel k s q ltm h1 hsq hpre gt hg hb]

/-! ## non-vacuity at `K := ℚ` -/

section examples

-- `ℚ` carries two `Scalar` instances; the examples use the proof instance.
attribute [local instance 10000] fieldScalar

/-- two peers: 0 trusts 1; 1 trusts 0 and distrusts itself.  Stored objects: local trust "lt"
    (ts 7), pre-trust "pt" = e₀ (ts 9), an empty global trust "gt" (ts 3) and an empty
    positive-only vector "pos" (ts 20). -/
private def exS : GState ℚ :=
  { mats := [("lt", ⟨⟨2, 2, [[⟨1, 1⟩], [⟨0, 1⟩, ⟨1, -1⟩]], []⟩, 7⟩)],
    vecs := [("gt", ⟨⟨0, []⟩, 3⟩), ("pt", ⟨⟨2, [⟨0, 1⟩]⟩, 9⟩), ("pos", ⟨⟨0, []⟩, 20⟩)] }
private def exK : Consts ℚ := ⟨1/2, 1/1000000⟩
private def exQ : Params ℚ := ⟨"lt", "pt", some (1/2), some (1/10), "gt", 0, "pos"⟩

/-- observable part of a stored vector: timestamp, dimension, entries -/
private def vview (s : GState ℚ) (id : String) : Option (Nat × Nat × List (Nat × ℚ)) :=
  (lookup s.vecs id).map fun tv => (tv.ts, tv.v.dim, tv.v.entries.map fun e => (e.idx, e.val))

private theorem exRun : basicCompute 100 exK exS (some exQ) =
    ((basicCompute 100 exK exS (some exQ)).1, .ok) :=
  Prod.ext rfl (by decide +kernel)

/-- one run: discounted scores in "gt" (peer 1 loses its own distrust), undiscounted scores in
    "pos"; "gt" is re-stamped 9 = max(3, 7, 9), "pos" keeps 20, "pt" is untouched -/
example :
    (basicCompute 100 exK exS (some exQ)).2 = .ok ∧
    vview (basicCompute 100 exK exS (some exQ)).1 "gt" = some (9, 2, [(0, 11/16), (1, 0)]) ∧
    vview (basicCompute 100 exK exS (some exQ)).1 "pos" = some (20, 2, [(0, 11/16), (1, 5/16)]) ∧
    vview (basicCompute 100 exK exS (some exQ)).1 "pt" = some (9, 2, [(0, 1)]) := by
  -- (instance search gives up on deciding all three views at once)
  refine ⟨congrArg Prod.snd exRun, ?_⟩
  rw [← and_assoc]
  exact ⟨by decide +kernel, by decide +kernel⟩

example := bc_result exRun
example (E : BcEff ℚ) (h : bcEffective exK exS exQ = some E) := bc_effective_spec h
example : (bcEffective exK exS exQ).isSome = true := by
  obtain ⟨E, _, h, _⟩ := bc_result exRun
  rw [h]; rfl
example := bc_inputs_unchanged 100 exK exS (some exQ)
example := bc_warm_start exRun
example := bc_timestamps exRun
example := bc_ts_never_lowered exRun

/-- `max_iterations = 2` stops earlier (after 2 iterations: 5/8 instead of 11/16) -/
private theorem exRun2 : basicCompute 100 exK exS (some { exQ with maxIterations := 2 }) =
    ((basicCompute 100 exK exS (some { exQ with maxIterations := 2 })).1, .ok) :=
  Prod.ext rfl (by decide +kernel)
example := bc_honours_max_iterations exRun2 (by decide)
example : vview (basicCompute 100 exK exS (some { exQ with maxIterations := 2 })).1 "gt"
    = some (9, 2, [(0, 5/8), (1, 0)]) := by decide +kernel

/-- no pre-trust id (uniform pre-trust), no positive-only id, default `alpha` / `epsilon` -/
private def exQ3 : Params ℚ := ⟨"lt", "", none, none, "gt", 0, ""⟩
example : vview (basicCompute 100 exK exS (some exQ3)).1 "gt"
    = some (7, 2, [(0, 1/2), (1, 0)]) := by decide +kernel

/-- errors: out-of-range alpha, unknown ids, no params -/
example : (basicCompute 100 exK exS (some { exQ with alpha := some 2 })).2 = .invalidArgument ∧
    (basicCompute 100 exK exS (some { exQ with epsilon := some 0 })).2 = .invalidArgument ∧
    (basicCompute 100 exK exS (some { exQ with globalTrustId := "zz" })).2 = .notFound ∧
    (basicCompute 100 exK exS (some { exQ with preTrustId := "zz" })).2 = .notFound ∧
    (basicCompute 100 exK exS (some { exQ with localTrustId := "zz" })).2 = .notFound ∧
    (basicCompute 100 exK exS none).2 = .invalidArgument := by decide +kernel
example : BadParams { exQ with alpha := some 2 } :=
  Or.inl ⟨2, rfl, Or.inr (by norm_num)⟩
example : PreOK exS exQ := Or.inr (by decide +kernel)

end examples

end EtVerif.C17
