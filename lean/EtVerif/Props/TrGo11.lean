/-
  TrGo11 — C11 ("Merge is a last-writer-wins overlay for EVERY UPDATE HISTORY") stated about the TRANSLATED Go
  code of `Vector.Merge` (Gen/Translated.lean, regenerated from the current source on every run): the run of the
  Go function over an arbitrary list of updates, each call's receiver being the next call's receiver.
  Composition of the one-call refinement (`TrC11.vector_merge_refines`) with the model-level history theorem
  (`C11.merge_vec_history`).  Property theorems only; helper lemma in Proofs/TrMergeHist.
  (Matrix `Merge` is not translated — see DESIGN 14.3 — so the matrix history stays a model-level theorem.)
-/
import EtVerif.Proofs.TrMergeHist
import EtVerif.Props.C11

namespace EtVerif.TrGo11
open EtVerif EtVerif.GoSem EtVerif.Gen EtVerif.Tr Scalar

variable {K : Type} [Field K] [LinearOrder K]

/-- The Go program `for _, u := range us { v.Merge(&u) }`: the translated `Vector.Merge` applied to the receiver
    left by the previous call, any panic or error of a call ending the run. -/
def goMergeRun (fuel : Nat) : GVector K → List (GVector K) → R (GVector K)
  | v, [] => .ok v
  | v, u :: us =>
    match Vector_Merge fuel v u with
    | .ok (st, _) => goMergeRun fuel st.v us
    | .error e => .error e

/-- The run of the Go code over EVERY history of well-formed updates equals the model's fold, with no panic, as
    soon as the fuel covers twice the largest dimension involved (a well-formed vector stores at most `dim`
    entries, so this bounds every merge loop of the history). -/
theorem go_merge_run_refines (fuel D : Nat) (us : List (Vec K)) (v : Vec K)
    (hv : WF v.dim v.entries) (hus : ∀ u ∈ us, WF u.dim u.entries)
    (hD : v.dim ≤ D) (hDs : ∀ u ∈ us, u.dim ≤ D) (hf : 2 * D ≤ fuel) :
    goMergeRun fuel (toGV v) (us.map toGV) = .ok (toGV (us.foldl (fun v u => (v.merge u).1) v)) := by
  induction us generalizing v with
  | nil => rfl
  | cons u us ih =>
    have hu := hus u (by simp)
    have hDu := hDs u (by simp)
    have hfu : v.entries.length + u.entries.length ≤ fuel :=
      Nat.le_trans (Nat.add_le_add ((Tr.Hist.wf_length_le hv).trans hD) ((Tr.Hist.wf_length_le hu).trans hDu))
        (Nat.two_mul D ▸ hf)
    obtain ⟨r, hr', hout⟩ := map_eq_ok (TrC11.vector_merge_refines fuel v u hfu)
    have h1 := congrArg Prod.fst hout
    simp only at h1
    simp only [List.map_cons, List.foldl_cons, goMergeRun, hr']
    rw [h1]
    obtain ⟨hd', _, hwf', _⟩ := C11.merge_vec v u hv hu
    exact ih (v.merge u).1 hwf' (fun x hx => hus x (by simp [hx]))
      (by rw [hd']; exact Nat.max_le.mpr ⟨hD, hDu⟩) (fun x hx => hDs x (by simp [hx]))

/-- C11 for vectors on the Go code: after ANY history of well-formed updates the receiver is well formed, its
    dimension is the largest dimension seen, and every cell holds the value of the LAST update that stored that
    cell (the fold of the dense overlays), or the original value if none did. -/
theorem go_vector_merge_history (fuel D : Nat) (us : List (Vec K)) (v : Vec K)
    (hv : WF v.dim v.entries) (hus : ∀ u ∈ us, WF u.dim u.entries)
    (hD : v.dim ≤ D) (hDs : ∀ u ∈ us, u.dim ≤ D) (hf : 2 * D ≤ fuel) :
    ∃ out : Vec K, goMergeRun fuel (toGV v) (us.map toGV) = .ok (toGV out) ∧
      WF out.dim out.entries ∧ out.dim = us.foldl (fun d u => max d u.dim) v.dim ∧
      denE out.entries = us.foldl C11.overlayVec (denE v.entries) := by
  obtain ⟨h1, h2, h3⟩ := C11.merge_vec_history us v hv hus
  exact ⟨_, go_merge_run_refines fuel D us v hv hus hD hDs hf, h1, h2, h3⟩

/-- Non-vacuity: a well-formed receiver and a two-update history within `D = 4`. -/
example : WF 3 ([⟨0, 1⟩, ⟨2, 3⟩] : List (Entry ℚ)) ∧ WF 4 ([⟨1, 5⟩, ⟨3, 2⟩] : List (Entry ℚ)) ∧
    WF 2 ([⟨1, 0⟩] : List (Entry ℚ)) := by
  unfold WF Sorted
  decide

end EtVerif.TrGo11
