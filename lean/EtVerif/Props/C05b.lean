/-
  C05 (termination clause, for the MODEL's `compute`) — "Every ... library call on canonical
  inputs, with a>=0.001 and e>=1e-9 finishes within ceil(ln(e/4)/ln(1-a))+2 iterations under the
  default schedule ... instead of looping forever."

  Props/C05a.lean proves the bound for the dense map `F`; here it is transferred to the sparse
  model `compute` (Model/Basic.lean) at `K := ℝ` (the `fieldScalar` instance): for every fuel
  above the bound the call succeeds, is ended by its exit criteria (not by the fuel, not by the
  non-finite-delta error), and reports at most `⌈ln(e/4)/ln(1-a)⌉ + 2` iterations.  By
  `C05.compute_fuel_mono` the result is then the same for every larger fuel: with
  `maxIterations = 0` ("unlimited") the loop still terminates.

  Default schedule (`DefaultSchedule o`, Proofs/TermGlue.lean): `flatTail = 0`, `maxIterations`
  unset or 0, `checkFreq` and `minIterations` unset or 1 — the exit criteria are evaluated after
  every iteration from iteration 1.  `o = {}` and `o = { t0 := some t0 }` are instances.

  Property theorems only; helper lemmas live in Proofs/TermGlue.lean.
-/
import EtVerif.Proofs.TermGlue

namespace EtVerif.C05b
open EtVerif EtVerif.Dense EtVerif.C01b Scalar

/-! ### the non-finite exit is unreachable in exact arithmetic -/

/-- In an ordered field no value is "non-finite": the test `!(x ≤ x) || (x + x = x && x ≠ 0)` of the
    repaired loop is always false, so `compute` never returns the `nonfinite` error there. -/
theorem nonFinite_never {K : Type} [Field K] [LinearOrder K] (x : K) : nonFinite x = false :=
  nonFinite_false x

example : nonFinite (3 / 7 : ℚ) = false := nonFinite_never (K := ℚ) _

/-! ### termination within the documented bound -/

/-- **General form** (any options that leave the default schedule in force; optional initial
    vector `t0` a distribution of dimension `n`; optional `resultDim = n`; any `numLeaders`).
    Canonical inputs, `0 < a < 1`, `0 < e`, `N = ⌈ln(e/4)/ln(1-a)⌉`: there is one result `r`,
    ended by the criteria with `1 ≤ r.iters ≤ N + 2`, returned for **every** fuel `> N + 2`. -/
theorem compute_terminates_schedule (n : Nat) (hn : 1 ≤ n) (c : CSM ℝ) (p : Vec ℝ) (a e : ℝ)
    (o : ComputeOpts ℝ) (hc : Canon n c p) (ha0 : 0 < a) (ha1 : a < 1) (he : 0 < e)
    (hs : DefaultSchedule o)
    (ht0 : ∀ t0, o.t0 = some t0 → t0.dim = n ∧ Dist n t0.entries)
    (hrd : ∀ d, o.resultDim = some d → d = n) :
    ∃ r : ComputeResult ℝ, r.endedBy = .criteria ∧ 1 ≤ r.iters ∧
      r.iters ≤ ⌈Real.log (e / 4) / Real.log (1 - a)⌉₊ + 2 ∧
      ∀ fuel, ⌈Real.log (e / 4) / Real.log (1 - a)⌉₊ + 2 < fuel →
        compute fuel c p a e o = .ok r := by
  have hstart : Dist n (o.t0.getD p).entries := by
    cases h0 : o.t0 with
    | none => exact hc.dist
    | some t0 => exact (ht0 t0 h0).2
  obtain ⟨hd0, hd1⟩ := toDense_dist n _ hstart
  obtain ⟨hp0, hp1⟩ := toDense_dist n _ hc.dist
  obtain ⟨K, k1, k2, k3⟩ := C05a.terminates_default (denseC n c) (toDense n p.entries) a e
    (denseC_nonneg n c p hc) (denseC_rowsum n c p hc) hp0 hp1 ha0 ha1 he
    (toDense n (o.t0.getD p).entries) hd0 hd1
  have hd : ∃ K, 1 ≤ K ∧ K ≤ ⌈Real.log (e / 4) / Real.log (1 - a)⌉₊ + 2 ∧
      TG.DenseOK n c p a e (o.t0.getD p).entries K := ⟨K, k1, k2, k3⟩
  obtain ⟨r, hr, hcr, r1, r2, _⟩ := TG.compute_terminates_of_dense n c p a e hn o hc ha0.le ha1.le
    he hs (fun t0 h => ⟨(ht0 t0 h).1, (ht0 t0 h).2.1⟩) hrd _ hd
    (⌈Real.log (e / 4) / Real.log (1 - a)⌉₊ + 3) (by omega)
  refine ⟨r, hcr, r1, r2, fun fuel hfuel => ?_⟩
  exact C05.compute_fuel_mono _ fuel (by omega) c p a e o _ hr
    (fun r' h => by cases h; rw [hcr]; decide)

/-- **C05 termination, default options** (`o = {}`: start vector `p`, no limits, no flat tail,
    check after every iteration).  For every fuel `> N + 2` the call succeeds, is ended by its
    criteria — not by the fuel — and performed between 1 and `N + 2` iterations. -/
theorem compute_terminates_default (n : Nat) (hn : 1 ≤ n) (c : CSM ℝ) (p : Vec ℝ) (a e : ℝ)
    (hc : Canon n c p) (ha0 : 0 < a) (ha1 : a < 1) (he : 0 < e) (fuel : Nat)
    (hfuel : ⌈Real.log (e / 4) / Real.log (1 - a)⌉₊ + 2 < fuel) :
    ∃ r, compute fuel c p a e {} = .ok r ∧ r.endedBy = .criteria ∧ 1 ≤ r.iters ∧
      r.iters ≤ ⌈Real.log (e / 4) / Real.log (1 - a)⌉₊ + 2 := by
  obtain ⟨r, h1, h2, h3, h4⟩ := compute_terminates_schedule n hn c p a e {} hc ha0 ha1 he
    ⟨rfl, rfl, rfl, rfl⟩ (fun t0 h => by cases h) (fun d h => by cases h)
  exact ⟨r, h4 fuel hfuel, h1, h2, h3⟩

/-- … and the result does not depend on the fuel: one `r` for every fuel above the bound. -/
theorem compute_terminates_default_any_fuel (n : Nat) (hn : 1 ≤ n) (c : CSM ℝ) (p : Vec ℝ)
    (a e : ℝ) (hc : Canon n c p) (ha0 : 0 < a) (ha1 : a < 1) (he : 0 < e) :
    ∃ r : ComputeResult ℝ, r.endedBy = .criteria ∧ 1 ≤ r.iters ∧
      r.iters ≤ ⌈Real.log (e / 4) / Real.log (1 - a)⌉₊ + 2 ∧
      ∀ fuel, ⌈Real.log (e / 4) / Real.log (1 - a)⌉₊ + 2 < fuel →
        compute fuel c p a e {} = .ok r :=
  compute_terminates_schedule n hn c p a e {} hc ha0 ha1 he ⟨rfl, rfl, rfl, rfl⟩
    (fun t0 h => by cases h) (fun d h => by cases h)

/-- **`a = 1`**: every iterate from the first on is `p`, the check after iteration 2 sees delta 0:
    at most 2 iterations (any fuel `> 2`, any `e > 0`). -/
theorem compute_terminates_alpha_one (n : Nat) (hn : 1 ≤ n) (c : CSM ℝ) (p : Vec ℝ) (e : ℝ)
    (hc : Canon n c p) (he : 0 < e) (fuel : Nat) (hfuel : 2 < fuel) :
    ∃ r, compute fuel c p 1 e {} = .ok r ∧ r.endedBy = .criteria ∧ 1 ≤ r.iters ∧
      r.iters ≤ 2 := by
  obtain ⟨K, k1, k2, k3⟩ := C05a.terminates_alpha_one (denseC n c) (toDense n p.entries) e he.le
    (toDense n p.entries)
  have hd : ∃ K, 1 ≤ K ∧ K ≤ 2 ∧ TG.DenseOK n c p 1 e p.entries K := ⟨K, k1, k2, k3⟩
  obtain ⟨r, hr, hcr, r1, r2, _⟩ := TG.compute_terminates_of_dense n c p 1 e hn {} hc zero_le_one
    le_rfl he ⟨rfl, rfl, rfl, rfl⟩ (fun t0 h => by cases h) (fun d h => by cases h) 2 hd fuel hfuel
  exact ⟨r, hr, hcr, r1, r2⟩

/-- **With an initial vector** `t0` (`WithInitialTrust`): a distribution of dimension `n`; same
    bound. -/
theorem compute_terminates_with_t0 (n : Nat) (hn : 1 ≤ n) (c : CSM ℝ) (p : Vec ℝ) (a e : ℝ)
    (t0 : Vec ℝ) (hc : Canon n c p) (ha0 : 0 < a) (ha1 : a < 1) (he : 0 < e)
    (hdim : t0.dim = n) (ht0 : Dist n t0.entries) (fuel : Nat)
    (hfuel : ⌈Real.log (e / 4) / Real.log (1 - a)⌉₊ + 2 < fuel) :
    ∃ r, compute fuel c p a e { t0 := some t0 } = .ok r ∧ r.endedBy = .criteria ∧ 1 ≤ r.iters ∧
      r.iters ≤ ⌈Real.log (e / 4) / Real.log (1 - a)⌉₊ + 2 := by
  obtain ⟨r, h1, h2, h3, h4⟩ := compute_terminates_schedule n hn c p a e { t0 := some t0 } hc ha0
    ha1 he ⟨rfl, rfl, rfl, rfl⟩ (fun t h => by cases h; exact ⟨hdim, ht0⟩) (fun d h => by cases h)
  exact ⟨r, h4 fuel hfuel, h1, h2, h3⟩

/-- The reported iteration count is moreover the **first** `K ≥ 1` at which the model's own
    convergence verdict (`Converged()` on the squared delta between iterates `K` and `K − 1`)
    holds: the loop does not run past the first successful check. -/
theorem compute_terminates_first (n : Nat) (hn : 1 ≤ n) (c : CSM ℝ) (p : Vec ℝ) (a e : ℝ)
    (hc : Canon n c p) (ha0 : 0 < a) (ha1 : a < 1) (he : 0 < e) (fuel : Nat)
    (hfuel : ⌈Real.log (e / 4) / Real.log (1 - a)⌉₊ + 2 < fuel) :
    ∃ r, compute fuel c p a e {} = .ok r ∧ r.endedBy = .criteria ∧
      convergedAt c.transpose.rows (Vec.scale a p).entries (1 - a) e 1 1 p.entries r.iters = true ∧
      ∀ K', 1 ≤ K' → K' < r.iters →
        convergedAt c.transpose.rows (Vec.scale a p).entries (1 - a) e 1 1 p.entries K' = false := by
  obtain ⟨hp0, hp1⟩ := toDense_dist n _ hc.dist
  obtain ⟨K, k1, k2, k3⟩ := C05a.terminates_default (denseC n c) (toDense n p.entries) a e
    (denseC_nonneg n c p hc) (denseC_rowsum n c p hc) hp0 hp1 ha0 ha1 he
    (toDense n p.entries) hp0 hp1
  have hd : ∃ K, 1 ≤ K ∧ K ≤ ⌈Real.log (e / 4) / Real.log (1 - a)⌉₊ + 2 ∧
      TG.DenseOK n c p a e p.entries K := ⟨K, k1, k2, k3⟩
  obtain ⟨r, hr, hcr, r1, _, r3, r4⟩ := TG.compute_terminates_of_dense n c p a e hn {} hc ha0.le
    ha1.le he ⟨rfl, rfl, rfl, rfl⟩ (fun t0 h => by cases h) (fun d h => by cases h) _ hd fuel hfuel
  refine ⟨r, hr, hcr, ?_, ?_⟩
  · exact (TG.convergedAt_default_iff n c p a e hc he.le p.entries hc.dist.1 r.iters r1).mpr r3
  · intro K' h1 h2
    rw [← Bool.not_eq_true, TG.convergedAt_default_iff n c p a e hc he.le p.entries hc.dist.1 K' h1]
    exact r4 K' h1 h2

/-! ## non-vacuity: two peers trusting each other, uniform pre-trust, over ℝ -/

section examples

/-- `C = [[0,1],[1,0]]` -/
private def c2 : CSM ℝ := ⟨2, 2, [[⟨1, 1⟩], [⟨0, 1⟩]], []⟩
/-- `p = (1/2, 1/2)` -/
private noncomputable def p2 : Vec ℝ := ⟨2, [⟨0, 1/2⟩, ⟨1, 1/2⟩]⟩
/-- `t0 = e₀` -/
private def t2 : Vec ℝ := ⟨2, [⟨0, 1⟩]⟩

private theorem canon2 : Canon 2 c2 p2 := canon_two_peers

private theorem dist_t2 : Dist 2 t2.entries := by
  refine ⟨⟨List.pairwise_singleton _ _, ?_⟩, ?_, ?_⟩
  · simp only [t2, List.forall_mem_cons, List.not_mem_nil, false_imp_iff, implies_true, and_true]
    decide
  · simp only [t2, List.forall_mem_cons, List.not_mem_nil, false_imp_iff, implies_true, and_true]
    exact zero_le_one
  · simp only [t2, List.map_cons, List.map_nil, List.sum_cons, List.sum_nil, add_zero]

/-- the concrete bound for `a = 1/3`, `e = 1/10`: `(2/3)^10 ≤ 1/40 < (2/3)^9`, so `N = 10` -/
private theorem ceil2 : ⌈Real.log ((1/10 : ℝ) / 4) / Real.log (1 - 1/3)⌉₊ = 10 := by
  have hlog : Real.log (1 - 1/3 : ℝ) < 0 := Real.log_neg (by norm_num) (by norm_num)
  rw [Nat.ceil_eq_iff (by norm_num)]
  constructor
  · rw [lt_div_iff_of_neg hlog, ← Real.log_pow]
    exact Real.log_lt_log (by norm_num) (by norm_num)
  · rw [div_le_iff_of_neg hlog, ← Real.log_pow]
    exact Real.log_le_log (by norm_num) (by norm_num)

/-- `compute` on the two-peer instance, `a = 1/3`, `e = 1/10`, default options: with fuel 13 (and
    hence any larger fuel) it ends by the criteria within `10 + 2 = 12` iterations. -/
example : ∃ r, compute 13 c2 p2 (1/3) (1/10) {} = .ok r ∧ r.endedBy = .criteria ∧ 1 ≤ r.iters ∧
    r.iters ≤ 12 := by
  have h := compute_terminates_default 2 (by norm_num) c2 p2 (1/3) (1/10) canon2 (by norm_num)
    (by norm_num) (by norm_num) 13 (by rw [ceil2]; norm_num)
  rw [ceil2] at h
  exact h

example : ∃ r : ComputeResult ℝ, r.endedBy = .criteria ∧ 1 ≤ r.iters ∧ r.iters ≤ 12 ∧
    ∀ fuel, 12 < fuel → compute fuel c2 p2 (1/3) (1/10) {} = .ok r := by
  have h := compute_terminates_default_any_fuel 2 (by norm_num) c2 p2 (1/3) (1/10) canon2
    (by norm_num) (by norm_num) (by norm_num)
  rw [ceil2] at h
  exact h

/-- `a = 1` -/
example : ∃ r, compute 3 c2 p2 1 (1/10) {} = .ok r ∧ r.endedBy = .criteria ∧ 1 ≤ r.iters ∧
    r.iters ≤ 2 :=
  compute_terminates_alpha_one 2 (by norm_num) c2 p2 (1/10) canon2 (by norm_num) 3 (by norm_num)

/-- start vector `e₀` -/
example : ∃ r, compute 13 c2 p2 (1/3) (1/10) { t0 := some t2 } = .ok r ∧ r.endedBy = .criteria ∧
    1 ≤ r.iters ∧ r.iters ≤ 12 := by
  have h := compute_terminates_with_t0 2 (by norm_num) c2 p2 (1/3) (1/10) t2 canon2 (by norm_num)
    (by norm_num) (by norm_num) rfl dist_t2 13 (by rw [ceil2]; norm_num)
  rw [ceil2] at h
  exact h

/-- a non-default instance of `DefaultSchedule`: explicit `checkFreq = 1`, `maxIterations = 0`,
    a result vector of the right dimension and a leader count -/
private def o2 : ComputeOpts ℝ :=
  { checkFreq := some 1, maxIterations := some 0, resultDim := some 2, numLeaders := 1 }

example : DefaultSchedule o2 := ⟨rfl, rfl, rfl, rfl⟩

example : ∃ r : ComputeResult ℝ, r.endedBy = .criteria ∧ 1 ≤ r.iters ∧ r.iters ≤ 12 ∧
    ∀ fuel, 12 < fuel → compute fuel c2 p2 (1/3) (1/10) o2 = .ok r := by
  have h := compute_terminates_schedule 2 (by norm_num) c2 p2 (1/3) (1/10) o2 canon2
    (by norm_num) (by norm_num) (by norm_num) ⟨rfl, rfl, rfl, rfl⟩ (fun t0 h => by cases h)
    (fun d h => by cases h; rfl)
  rw [ceil2] at h
  exact h

example : ∃ r, compute 13 c2 p2 (1/3) (1/10) {} = .ok r ∧ r.endedBy = .criteria ∧
    convergedAt c2.transpose.rows (Vec.scale (1/3) p2).entries (1 - 1/3) (1/10) 1 1 p2.entries
      r.iters = true ∧
    ∀ K', 1 ≤ K' → K' < r.iters →
      convergedAt c2.transpose.rows (Vec.scale (1/3) p2).entries (1 - 1/3) (1/10) 1 1 p2.entries
        K' = false :=
  compute_terminates_first 2 (by norm_num) c2 p2 (1/3) (1/10) canon2 (by norm_num) (by norm_num)
    (by norm_num) 13 (by rw [ceil2]; norm_num)

end examples

end EtVerif.C05b
