/-
  C04 — Canonicalisation: rows/vectors sum to one with ratios preserved, zero rows are replaced by
  the pre-trust (or left alone), zero vectors by the uniform distribution; scaling the inputs does
  not change the canonical form.
  Property theorems only (helper lemmas live in Proofs/Canon.lean).
-/
import EtVerif.Proofs.Canon
import EtVerif.Proofs.Distrust
import Mathlib.Algebra.Order.Field.Rat
import Mathlib.Tactic.NormNum

namespace EtVerif.C04
open EtVerif EtVerif.Canon

variable {K : Type} [Field K] [LinearOrder K]

/-! ### Canonicalize -/

/-- a list with non-zero sum is accepted; the result sums to one and keeps the index sequence. -/
theorem canonicalize_sum_one (es : List (Entry K)) (h : (es.map (·.val)).sum ≠ 0) :
    ∃ es', canonicalize es = .ok es' ∧ (es'.map (·.val)).sum = 1 ∧
      es'.map (·.idx) = es.map (·.idx) := by
  refine ⟨es.map fun e => ⟨e.idx, e.val / vsum es⟩, ?_, ?_, ?_⟩
  · rw [canonicalize_eq, if_neg h]
  · have := vsum_map_div es (vsum es)
    unfold vsum at this ⊢
    rw [this]; exact div_self h
  · simp [List.map_map, Function.comp_def]

/-- success means exactly that the sum was non-zero, and determines the result: every value is
    divided by the sum. -/
theorem canonicalize_ok_iff (es es' : List (Entry K)) :
    canonicalize es = .ok es' ↔
      (es.map (·.val)).sum ≠ 0 ∧ es' = es.map fun e => ⟨e.idx, e.val / (es.map (·.val)).sum⟩ := by
  rw [canonicalize_eq]
  by_cases h : vsum es = 0
  · rw [if_pos h]
    constructor
    · intro h'; cases h'
    · intro h'; exact absurd h h'.1
  · rw [if_neg h]
    constructor
    · intro h'; injection h' with h'; exact ⟨h, h'.symm⟩
    · intro h'; rw [h'.2]

/-- ratios between entries are preserved: `v'_a * v_b = v'_b * v_a` for all positions `a`, `b`. -/
theorem canonicalize_ratio (es es' : List (Entry K)) (h : canonicalize es = .ok es') :
    ∃ hl : es'.length = es.length, ∀ (a b : Nat) (ha : a < es.length) (hb : b < es.length),
      (es'[a]'(hl ▸ ha)).val * es[b].val = (es'[b]'(hl ▸ hb)).val * es[a].val := by
  obtain ⟨_, rfl⟩ := (canonicalize_ok_iff es es').mp h
  refine ⟨List.length_map _, fun a b ha hb => ?_⟩
  simp only [List.getElem_map]
  rw [div_mul_eq_mul_div, div_mul_eq_mul_div, mul_comm]

/-- dense form: every coordinate is divided by the sum. -/
theorem canonicalize_den (es es' : List (Entry K)) (h : canonicalize es = .ok es') (i : Nat) :
    denE es' i = denE es i / (es.map (·.val)).sum := by
  obtain ⟨_, rfl⟩ := (canonicalize_ok_iff es es').mp h
  exact denE_map_div es _ i

/-- a list whose values sum to zero (in particular the empty list) is rejected. -/
theorem canonicalize_zero_sum (es : List (Entry K)) (h : (es.map (·.val)).sum = 0) :
    canonicalize es = .error .zeroSum := by
  rw [canonicalize_eq, if_pos h]

/-- multiplying all values by a non-zero constant does not change the result (nor the error). -/
theorem canonicalize_scale (es : List (Entry K)) (c : K) (hc : c ≠ 0) :
    canonicalize (es.map fun e => ⟨e.idx, c * e.val⟩) = canonicalize es :=
  Canon.canonicalize_scale es hc

/-! ### CanonicalizeLocalTrust -/

theorem canonLT_ok_iff (m m' : CSM K) (p : Option (Vec K)) :
    canonicalizeLocalTrust m p = .ok m' ↔
      m.major = m.minor ∧ (∀ q, p = some q → q.dim = m.major) ∧
      m' = { m with rows := m.rows.map (canonRow p) } := by
  unfold canonicalizeLocalTrust CSM.dim
  by_cases hd : m.major = m.minor
  · rw [if_neg (by simpa using hd)]
    cases p with
    | none =>
      simp only [Bool.false_eq_true, if_false, reduceCtorEq, false_implies, implies_true, true_and]
      constructor
      · intro h; injection h with h; exact ⟨hd, h.symm⟩
      · intro h; rw [h.2]
    | some q =>
      by_cases hq : m.major = q.dim
      · simp only [hq, ne_eq, not_true_eq_false, decide_false, Bool.false_eq_true, if_false,
          Option.some.injEq]
        constructor
        · intro h; injection h with h
          exact ⟨hq ▸ hd, fun q' hq' => hq' ▸ rfl, h.symm⟩
        · intro h; rw [h.2.2]
      · simp only [ne_eq, hq, not_false_eq_true, decide_true, if_true, Option.some.injEq]
        constructor
        · intro h; cases h
        · intro h; exact absurd (h.2.1 q rfl).symm hq
  · rw [if_pos hd]
    constructor
    · intro h; cases h
    · intro h; exact absurd h.1 hd

theorem canonLT_dims {m m' : CSM K} {p : Option (Vec K)}
    (h : canonicalizeLocalTrust m p = .ok m') :
    m'.major = m.major ∧ m'.minor = m.minor ∧ m'.rows.length = m.rows.length ∧
      m'.hidden = m.hidden := by
  obtain ⟨_, _, rfl⟩ := (canonLT_ok_iff m m' p).mp h
  simp

/-- every row position `i < m.rows.length` — including the last one — is treated by the three
    cases of the specification. -/
theorem canonLT_rows {m m' : CSM K} {p : Option (Vec K)}
    (h : canonicalizeLocalTrust m p = .ok m') (i : Nat) (hi : i < m.rows.length) :
    (((m.rows.getD i []).map (·.val)).sum ≠ 0 →
        canonicalize (m.rows.getD i []) = .ok (m'.rows.getD i [])) ∧
    (((m.rows.getD i []).map (·.val)).sum = 0 →
        ∀ q, p = some q → m'.rows.getD i [] = q.entries) ∧
    (((m.rows.getD i []).map (·.val)).sum = 0 →
        p = none → m'.rows.getD i [] = m.rows.getD i []) := by
  obtain ⟨_, _, rfl⟩ := (canonLT_ok_iff m m' p).mp h
  have hrow : (m.rows.map (canonRow p)).getD i [] = canonRow p (m.rows.getD i []) := by
    simp only [List.getD_eq_getElem?_getD, List.getElem?_map, List.getElem?_eq_getElem hi,
      Option.map_some, Option.getD_some]
  simp only [hrow]
  unfold canonRow
  rw [canonicalize_eq]
  refine ⟨fun hs => ?_, fun hs q hq => ?_, fun hs hp => ?_⟩
  · rw [if_neg hs]
  · rw [if_pos hs, hq]
  · rw [if_pos hs, hp]

/-- a row with non-zero sum becomes a row that sums to one, on the same column indices. -/
theorem canonLT_row_sum_one {m m' : CSM K} {p : Option (Vec K)}
    (h : canonicalizeLocalTrust m p = .ok m') (i : Nat) (hi : i < m.rows.length)
    (hs : ((m.rows.getD i []).map (·.val)).sum ≠ 0) :
    ((m'.rows.getD i []).map (·.val)).sum = 1 ∧
      (m'.rows.getD i []).map (·.idx) = (m.rows.getD i []).map (·.idx) := by
  obtain ⟨es', h1, h2, h3⟩ := canonicalize_sum_one _ hs
  have := (canonLT_rows h i hi).1 hs
  rw [h1] at this
  injection this with this
  subst this
  exact ⟨h2, h3⟩

theorem canonLT_error_nonsquare (m : CSM K) (p : Option (Vec K)) (h : m.major ≠ m.minor) :
    canonicalizeLocalTrust m p = .error .dimMismatch := by
  unfold canonicalizeLocalTrust CSM.dim
  rw [if_pos h]

theorem canonLT_error_pdim (m : CSM K) (q : Vec K) (h : m.major = m.minor)
    (hq : q.dim ≠ m.major) :
    canonicalizeLocalTrust m (some q) = .error .dimMismatch := by
  unfold canonicalizeLocalTrust CSM.dim
  rw [if_neg (by simpa using h)]
  have : m.major ≠ q.dim := fun e => hq e.symm
  simp [this]

/-- the two rejections above are the only ones. -/
theorem canonLT_ok (m : CSM K) (p : Option (Vec K)) (h : m.major = m.minor)
    (hp : ∀ q, p = some q → q.dim = m.major) :
    ∃ m', canonicalizeLocalTrust m p = .ok m' :=
  ⟨_, (canonLT_ok_iff m _ p).mpr ⟨h, hp, rfl⟩⟩

/-! ### CanonicalizeTrustVector -/

/-- a vector whose values sum to zero becomes the uniform vector. -/
theorem canonTV_uniform (v : Vec K) (h : (v.entries.map (·.val)).sum = 0) :
    canonicalizeTrustVector v = ⟨v.dim, uniformEntries v.dim⟩ := by
  unfold canonicalizeTrustVector
  rw [canonicalize_zero_sum _ h]

theorem uniform_sum_one [IsStrictOrderedRing K] (n : Nat) (hn : 0 < n) :
    ((uniformEntries n : List (Entry K)).map (·.val)).sum = 1 := vsum_uniform hn

theorem uniform_wf (n : Nat) : WF n (uniformEntries n : List (Entry K)) := wf_uniform n

theorem uniform_entries (n : Nat) :
    (uniformEntries n : List (Entry K)).map (·.idx) = List.range n ∧
      ∀ e ∈ (uniformEntries n : List (Entry K)), e.val = 1 / (n : K) := by
  unfold uniformEntries
  constructor
  · simp [List.map_map, Function.comp_def]
  · intro e he
    obtain ⟨i, _, rfl⟩ := List.mem_map.mp he
    simp

/-- otherwise the vector is canonicalised: same indices, values divided by the sum, sum one. -/
theorem canonTV_nonzero (v : Vec K) (h : (v.entries.map (·.val)).sum ≠ 0) :
    ∃ es', canonicalize v.entries = .ok es' ∧ canonicalizeTrustVector v = ⟨v.dim, es'⟩ ∧
      (es'.map (·.val)).sum = 1 ∧ es'.map (·.idx) = v.entries.map (·.idx) := by
  obtain ⟨es', h1, h2, h3⟩ := canonicalize_sum_one _ h
  refine ⟨es', h1, ?_, h2, h3⟩
  unfold canonicalizeTrustVector
  rw [h1]

theorem canonTV_dim (v : Vec K) : (canonicalizeTrustVector v).dim = v.dim :=
  Canon.canonTV_dim v

/-- in every case the result of a positive dimension sums to one. -/
theorem canonTV_sum_one [IsStrictOrderedRing K] (v : Vec K) (hd : 0 < v.dim) :
    ((canonicalizeTrustVector v).entries.map (·.val)).sum = 1 := by
  by_cases h : (v.entries.map (·.val)).sum = 0
  · rw [canonTV_uniform v h]; exact uniform_sum_one _ hd
  · obtain ⟨es', _, h2, h3, _⟩ := canonTV_nonzero v h
    rw [h2]; exact h3

theorem canonTV_wf (v : Vec K) (hw : WF v.dim v.entries) :
    WF (canonicalizeTrustVector v).dim (canonicalizeTrustVector v).entries := by
  by_cases h : (v.entries.map (·.val)).sum = 0
  · rw [canonTV_uniform v h]; exact uniform_wf _
  · obtain ⟨es', _, h2, _, h4⟩ := canonTV_nonzero v h
    rw [h2]
    exact wf_of_idx_sublist (h4 ▸ List.Sublist.refl _) hw

/-! ### scale invariance of the canonicalisation pipeline -/

/-- Row-wise scaling by non-zero factors does not change the canonicalised local trust.
    For `p = none` a zero-sum row is *left untouched* by the code, so a zero-sum row must be
    all-zero for its scaled copy to be the same row; `hz` says exactly that (it is vacuous for
    `p = some _`, and holds whenever the values are non-negative, see
    `canonLT_scale_invariant_nonneg`).  It cannot be dropped: counter-example at the end of this
    file. -/
theorem canonLT_scale_invariant (s : Nat → K) (hs : ∀ i, s i ≠ 0) (m : CSM K)
    (p : Option (Vec K))
    (hz : p = none → ∀ r ∈ m.rows, (r.map (·.val)).sum = 0 → ∀ e ∈ r, e.val = 0) :
    canonicalizeLocalTrust (scaleRows s m) p = canonicalizeLocalTrust m p := by
  have hrows : (scaleRows s m).rows.map (canonRow p) = m.rows.map (canonRow p) := by
    unfold scaleRows
    simp only [List.map_map]
    apply map_zipIdx_congr
    intro r hr i
    simp only [Function.comp_apply]
    exact canonRow_scale p r (hs i) fun hp => hz hp r hr
  unfold canonicalizeLocalTrust
  have hdim : (scaleRows s m).dim = m.dim := rfl
  rw [hdim, hrows]
  rfl

/-- with a pre-trust vector the invariance is unconditional. -/
theorem canonLT_scale_invariant_some (s : Nat → K) (hs : ∀ i, s i ≠ 0) (m : CSM K) (q : Vec K) :
    canonicalizeLocalTrust (scaleRows s m) (some q) = canonicalizeLocalTrust m (some q) :=
  canonLT_scale_invariant s hs m (some q) (fun h => by cases h)

/-- with non-negative values (the situation after `ExtractDistrust`) it is unconditional, too. -/
theorem canonLT_scale_invariant_nonneg [IsStrictOrderedRing K] (s : Nat → K) (hs : ∀ i, s i ≠ 0)
    (m : CSM K) (p : Option (Vec K)) (hn : ∀ r ∈ m.rows, ∀ e ∈ r, 0 ≤ e.val) :
    canonicalizeLocalTrust (scaleRows s m) p = canonicalizeLocalTrust m p :=
  canonLT_scale_invariant s hs m p
    (fun _ r hr h0 => all_zero_of_nonneg_of_vsum_zero r (hn r hr) h0)

/-- scaling the whole pre-trust / initial-trust vector does not change its canonical form. -/
theorem canonTV_scale_invariant (c : K) (hc : c ≠ 0) (v : Vec K) :
    canonicalizeTrustVector (scaleVecBy c v) = canonicalizeTrustVector v := by
  unfold canonicalizeTrustVector scaleVecBy
  simp only [Canon.canonicalize_scale v.entries hc]

/-- The front-end pipeline `ExtractDistrust; CanonicalizeLocalTrust(c, p);
    CanonicalizeLocalTrust(discounts, nil)` on a local trust whose rows are multiplied by positive
    factors: it succeeds exactly when it does on the original, and hands *identical* matrices to
    `Compute` and `DiscountTrustVector`.  (Hence identical scores; no hypothesis on signs of the
    entries of `L`.) -/
theorem pipeline_scale_invariant [IsStrictOrderedRing K] (s : Nat → K) (hs : ∀ i, 0 < s i)
    (L P D : CSM K) (p : Option (Vec K)) (h : extractDistrust L = .ok (P, D)) :
    ∃ P' D', extractDistrust (scaleRows s L) = .ok (P', D') ∧
      canonicalizeLocalTrust P' p = canonicalizeLocalTrust P p ∧
      canonicalizeLocalTrust D' none = canonicalizeLocalTrust D none := by
  have hs' : ∀ i, s i ≠ 0 := fun i => (hs i).ne'
  obtain ⟨hP, hD⟩ := Distrust.extractDistrust_signs h
  exact ⟨scaleRows s P, scaleRows s D, by rw [extractDistrust_scaleRows s hs, h]; rfl,
    canonLT_scale_invariant_nonneg s hs' P p hP,
    canonLT_scale_invariant_nonneg s hs' D none fun r hr e he => (hD r hr e he).le⟩

/-! ### the bit-level clause, for any `Scalar` instance -/

/-- If `σ` commutes with `add`, `sub`, preserves the magnitude comparison used by the compensated
    summer, fixes zero, preserves the zero test and cancels in quotients (all of which hold for
    multiplication by a power of two on IEEE doubles in the absence of overflow/underflow), then
    `Canonicalize` returns the very same entries — or the very same error — on the `σ`-image of
    its input. -/
theorem canonicalize_pow2_equivariant {α : Type} [Scalar α] (σ : α → α)
    (hadd : ∀ x y, σ (Scalar.add x y) = Scalar.add (σ x) (σ y))
    (hsub : ∀ x y, σ (Scalar.sub x y) = Scalar.sub (σ x) (σ y))
    (hlt : ∀ x y, Scalar.lt (Scalar.abs (σ x)) (Scalar.abs (σ y))
      = Scalar.lt (Scalar.abs x) (Scalar.abs y))
    (hzero : σ (Scalar.zero : α) = Scalar.zero)
    (hisZero : ∀ x, Scalar.isZero (σ x) = Scalar.isZero x)
    (hdiv : ∀ x s, Scalar.isZero s = false → Scalar.div (σ x) (σ s) = Scalar.div x s)
    (es : List (Entry α)) :
    canonicalize (es.map fun e => ⟨e.idx, σ e.val⟩) = canonicalize es := by
  unfold canonicalize
  have hmap : (es.map fun e => (⟨e.idx, σ e.val⟩ : Entry α)).map (·.val)
      = (es.map (·.val)).map σ := by
    simp [List.map_map, Function.comp_def]
  simp only [hmap, kbnSum_equivariant σ hadd hsub hlt hzero, hisZero]
  cases hz : Scalar.isZero (kbnSum (es.map (·.val)))
  · simp only [Bool.false_eq_true, if_false, List.map_map]
    congr 1
    apply List.map_congr_left
    intro e _
    simp only [Function.comp_apply, hdiv _ _ hz]
  · rfl

/-! ### non-vacuity at `K := ℚ` -/

section examples

-- `ℚ` carries two `Scalar` instances (`ratScalar` for the driver, `fieldScalar` for proofs);
-- the examples use the proof instance.
attribute [local instance 10000] fieldScalar

private def exRow : List (Entry ℚ) := [⟨0, 1⟩, ⟨2, 3⟩]

example : ∃ es', canonicalize exRow = .ok es' ∧ (es'.map (·.val)).sum = 1 ∧
    es'.map (·.idx) = exRow.map (·.idx) :=
  canonicalize_sum_one exRow (by decide +kernel)
example : canonicalize exRow = .ok [⟨0, 1/4⟩, ⟨2, 3/4⟩] := by
  with_unfolding_all rfl
example : canonicalize ([⟨0, 1⟩, ⟨1, -1⟩] : List (Entry ℚ)) = .error .zeroSum :=
  canonicalize_zero_sum _ (by decide +kernel)
example : canonicalize (exRow.map fun e => ⟨e.idx, 7 * e.val⟩) = canonicalize exRow :=
  canonicalize_scale exRow 7 (by norm_num)

/-- rows: non-zero sum, zero sum, and a *last* row with non-zero sum -/
private def exM : CSM ℚ := ⟨3, 3, [[⟨0, 1⟩, ⟨2, 3⟩], [], [⟨1, 2⟩]], []⟩
private def exPre : Vec ℚ := ⟨3, [⟨0, 1/2⟩, ⟨1, 1/2⟩]⟩

private theorem exM_canon : canonicalizeLocalTrust exM (some exPre)
    = .ok ⟨3, 3, [[⟨0, 1/4⟩, ⟨2, 3/4⟩], [⟨0, 1/2⟩, ⟨1, 1/2⟩], [⟨1, 1⟩]], []⟩ := by
  with_unfolding_all rfl
-- the three cases at the *last* row position (index 2), and the sum-one consequence
example := canonLT_rows exM_canon 2 (by decide)
example := canonLT_row_sum_one exM_canon 2 (by decide) (by decide +kernel)
example := canonLT_dims exM_canon
example := canonicalize_ratio exRow [⟨0, 1/4⟩, ⟨2, 3/4⟩] (by with_unfolding_all rfl)
example (i : Nat) := canonicalize_den exRow [⟨0, 1/4⟩, ⟨2, 3/4⟩] (by with_unfolding_all rfl) i
example : canonicalizeLocalTrust exM none
    = .ok ⟨3, 3, [[⟨0, 1/4⟩, ⟨2, 3/4⟩], [], [⟨1, 1⟩]], []⟩ := by
  with_unfolding_all rfl
example : canonicalizeLocalTrust (⟨2, 3, [[], []], []⟩ : CSM ℚ) none = .error .dimMismatch :=
  canonLT_error_nonsquare _ _ (by simp)
example : canonicalizeLocalTrust exM (some ⟨2, []⟩) = .error .dimMismatch :=
  canonLT_error_pdim _ _ rfl (by decide)
example : canonicalizeLocalTrust (scaleRows (fun i => (i : ℚ) + 2) exM) (some exPre)
    = canonicalizeLocalTrust exM (some exPre) :=
  canonLT_scale_invariant_some _ (fun i => by positivity) exM exPre

example : canonicalizeLocalTrust (scaleRows (fun i => (i : ℚ) + 2) exM) none
    = canonicalizeLocalTrust exM none :=
  canonLT_scale_invariant_nonneg _ (fun i => by positivity) exM none (by decide +kernel)

/-- a local trust with negative entries, row-scaled by positive factors: the canonicalised inputs of
    `Compute` and `DiscountTrustVector` are identical -/
private def exL : CSM ℚ := ⟨2, 2, [[⟨0, 1⟩, ⟨1, -2⟩], [⟨0, -1⟩]], []⟩
example := pipeline_scale_invariant (fun i => (i : ℚ) + 2) (fun i => by positivity) exL
  ⟨2, 2, [[⟨0, 1⟩], []], []⟩ ⟨2, 2, [[⟨1, 2⟩], [⟨0, 1⟩]], []⟩ (some ⟨2, [⟨0, 1⟩]⟩)
  (by rfl)

example := canonTV_nonzero exPre (by decide +kernel)
example := canonTV_sum_one exPre (by decide)
example := canonTV_wf exPre (by decide)
example : canonicalizeTrustVector (⟨3, []⟩ : Vec ℚ) = ⟨3, uniformEntries 3⟩ :=
  canonTV_uniform _ (by simp)
example : ((uniformEntries 3 : List (Entry ℚ)).map (·.val)).sum = 1 := uniform_sum_one 3 (by omega)
example : canonicalizeTrustVector (scaleVecBy 5 exPre) = canonicalizeTrustVector exPre :=
  canonTV_scale_invariant 5 (by norm_num) exPre

/-- the side condition of `canonLT_scale_invariant` for `p = none` cannot be dropped: a row with
    sum zero but non-zero entries is left untouched, so its scaled copy stays scaled. -/
example : canonicalizeLocalTrust
      (scaleRows (fun _ => 2) (⟨2, 2, [[⟨0, 1⟩, ⟨1, -1⟩], []], []⟩ : CSM ℚ)) none
    ≠ canonicalizeLocalTrust (⟨2, 2, [[⟨0, 1⟩, ⟨1, -1⟩], []], []⟩ : CSM ℚ) none := by
  intro h
  simp [canonicalizeLocalTrust, CSM.dim, scaleRows, canonRow, canonicalize_eq, vsum,
    List.zipIdx] at h

/-- the hypotheses of `canonicalize_pow2_equivariant` are satisfiable by `σ = id` -/
example (es : List (Entry ℚ)) : canonicalize (es.map fun e => ⟨e.idx, id e.val⟩) = canonicalize es :=
  canonicalize_pow2_equivariant (α := ℚ) id (fun _ _ => rfl) (fun _ _ => rfl) (fun _ _ => rfl) rfl
    (fun _ => rfl) (fun _ _ _ => rfl) es

/-- the hypotheses of `canonicalize_pow2_equivariant` are satisfiable by `σ = (2 * ·)`, which is
    not the identity -/
example (es : List (Entry ℚ)) :
    canonicalize (es.map fun e => ⟨e.idx, 2 * e.val⟩) = canonicalize es :=
  canonicalize_pow2_equivariant (α := ℚ) (fun x => 2 * x)
    (fun x y => mul_add 2 x y)
    (fun x y => mul_sub 2 x y)
    (fun x y => decide_eq_decide.mpr (by
      show |2 * x| < |2 * y| ↔ |x| < |y|
      rw [abs_mul, abs_mul, mul_lt_mul_iff_right₀ (abs_pos.mpr two_ne_zero)]))
    (mul_zero 2)
    (fun x => decide_eq_decide.mpr (by
      show 2 * x = 0 ↔ x = 0
      rw [mul_eq_zero, or_iff_right two_ne_zero]))
    (fun x s _ => mul_div_mul_left x s two_ne_zero)
    es

private theorem ratAbs_two (x : ℚ) : ratAbs (2 * x) = 2 * ratAbs x := by
  unfold ratAbs
  simp only [← not_le, mul_nonneg_iff_of_pos_left (two_pos : (0 : ℚ) < 2), mul_ite, mul_neg]

/-- `σ = (2 * ·)` satisfies them also at the driver's exact-tier instance `ratScalar` -/
example (es : List (Entry ℚ)) :
    @canonicalize ℚ ratScalar (es.map fun e => ⟨e.idx, 2 * e.val⟩) = @canonicalize ℚ ratScalar es :=
  @canonicalize_pow2_equivariant ℚ ratScalar (fun x => 2 * x)
    (fun x y => mul_add 2 x y)
    (fun x y => mul_sub 2 x y)
    (fun x y => decide_eq_decide.mpr (by
      show ratAbs (2 * x) < ratAbs (2 * y) ↔ ratAbs x < ratAbs y
      rw [ratAbs_two, ratAbs_two, mul_lt_mul_iff_right₀ two_pos]))
    (mul_zero 2)
    (fun x => decide_eq_decide.mpr (by
      show 2 * x = 0 ↔ x = 0
      rw [mul_eq_zero, or_iff_right two_ne_zero]))
    (fun x s _ => mul_div_mul_left x s two_ne_zero)
    es

end examples

end EtVerif.C04
