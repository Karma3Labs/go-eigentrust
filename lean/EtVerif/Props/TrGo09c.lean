/-
  TrGo09c — C09, SEQUENCES of calls of the translated Go code (Gen/Translated.lean, regenerated from the
  current source on every run): the algebraic laws that "sparse vector algebra equals dense arithmetic"
  implies, stated about what the Go functions leave in their receivers when one call's output is the next
  call's operand.  Each theorem asserts that every call in the sequence returns `.ok` with a nil error (no
  panic, termination within the stated fuel) for EVERY pair of operands of equal dimension (sorted or not),
  every receiver and every capacity behaviour, and that the final receiver denotes the dense expression.
  Compositions of `TrGo09.go_addVec_den`, `go_subVec_den`, `go_scaleVec_den`; property theorems only.
-/
import EtVerif.Props.TrGo09

namespace EtVerif.TrGo09c
open EtVerif EtVerif.GoSem EtVerif.Gen EtVerif.Tr Scalar EtVerif.TrGo09

set_option linter.unusedSectionVars false

variable {K : Type} [Field K] [LinearOrder K]

/-- `AddVec` commutes: `w.AddVec(v1, v2)` and `w'.AddVec(v2, v1)` both succeed and leave vectors of the same
    dimension denoting the same dense vector. -/
theorem go_addVec_comm (capO capO' : Nat → Int) (fuel : Nat) (w w' : GVector K) (v1 v2 : Vec K)
    (hd : v1.dim = v2.dim) (hf : v1.entries.length + v2.entries.length ≤ fuel) :
    ∃ st st' a b, Vector_AddVec capO fuel w (toGV v1) (toGV v2) = .ok (st, none) ∧ st.v = toGV a ∧
      Vector_AddVec capO' fuel w' (toGV v2) (toGV v1) = .ok (st', none) ∧ st'.v = toGV b ∧
      a.dim = b.dim ∧ ∀ i, denE a.entries i = denE b.entries i := by
  obtain ⟨st, a, hr, hv, hda, ha⟩ := go_addVec_den capO fuel w v1 v2 hd hf
  obtain ⟨st', b, hr', hv', hdb, hb⟩ := go_addVec_den capO' fuel w' v2 v1 hd.symm (Nat.add_comm _ _ ▸ hf)
  refine ⟨st, st', a, b, hr, hv, hr', hv', hda.trans (hd.trans hdb.symm), fun i => ?_⟩
  rw [ha, hb, add_comm]

/-- `v.SubVec(v1, v1)` denotes the zero vector of `v1`'s dimension. -/
theorem go_subVec_self (capO : Nat → Int) (fuel : Nat) (w : GVector K) (v1 : Vec K)
    (hf : v1.entries.length + v1.entries.length ≤ fuel) :
    ∃ st out, Vector_SubVec capO fuel w (toGV v1) (toGV v1) = .ok (st, none) ∧ st.v = toGV out ∧
      out.dim = v1.dim ∧ ∀ i, denE out.entries i = 0 := by
  obtain ⟨st, out, hr, hv, hdo, ho⟩ := go_subVec_den capO fuel w v1 v1 rfl hf
  exact ⟨st, out, hr, hv, hdo, fun i => by rw [ho, sub_self]⟩

/-- Two calls: `s.AddVec(v1, v2)` and then `d.SubVec(s, v2)` both succeed (given fuel for the second call's
    operands), and `d` denotes `v1` again, cell by cell. -/
theorem go_add_then_sub (capO capO' : Nat → Int) (fuel fuel' : Nat) (w w' : GVector K) (v1 v2 : Vec K)
    (hd : v1.dim = v2.dim) (hf : v1.entries.length + v2.entries.length ≤ fuel) :
    ∃ st s, Vector_AddVec capO fuel w (toGV v1) (toGV v2) = .ok (st, none) ∧ st.v = toGV s ∧
      (s.entries.length + v2.entries.length ≤ fuel' →
        ∃ st' d, Vector_SubVec capO' fuel' w' st.v (toGV v2) = .ok (st', none) ∧ st'.v = toGV d ∧
          d.dim = v1.dim ∧ ∀ i, denE d.entries i = denE v1.entries i) := by
  obtain ⟨st, s, hr, hv, hds, hs⟩ := go_addVec_den capO fuel w v1 v2 hd hf
  refine ⟨st, s, hr, hv, fun hfu => ?_⟩
  obtain ⟨st', d, hr', hv', hdd, hdn⟩ := go_subVec_den capO' fuel' w' s v2 (hds.trans hd) hfu
  refine ⟨st', d, by rw [hv]; exact hr', hv', hdd.trans hds, fun i => ?_⟩
  rw [hdn, hs, add_sub_cancel_right]

/-- Two calls: `s.SubVec(v1, v2)` and then `d.AddVec(s, v2)` give back `v1`, cell by cell. -/
theorem go_sub_then_add (capO capO' : Nat → Int) (fuel fuel' : Nat) (w w' : GVector K) (v1 v2 : Vec K)
    (hd : v1.dim = v2.dim) (hf : v1.entries.length + v2.entries.length ≤ fuel) :
    ∃ st s, Vector_SubVec capO fuel w (toGV v1) (toGV v2) = .ok (st, none) ∧ st.v = toGV s ∧
      (s.entries.length + v2.entries.length ≤ fuel' →
        ∃ st' d, Vector_AddVec capO' fuel' w' st.v (toGV v2) = .ok (st', none) ∧ st'.v = toGV d ∧
          d.dim = v1.dim ∧ ∀ i, denE d.entries i = denE v1.entries i) := by
  obtain ⟨st, s, hr, hv, hds, hs⟩ := go_subVec_den capO fuel w v1 v2 hd hf
  refine ⟨st, s, hr, hv, fun hfu => ?_⟩
  obtain ⟨st', d, hr', hv', hdd, hdn⟩ := go_addVec_den capO' fuel' w' s v2 (hds.trans hd) hfu
  refine ⟨st', d, by rw [hv]; exact hr', hv', hdd.trans hds, fun i => ?_⟩
  rw [hdn, hs, sub_add_cancel]

/-- Two calls: `s.ScaleVec(a, v1)` and then `d.ScaleVec(b, s)` denote the dense multiple `(b·a)·v1` (in
    particular scaling by `a ≠ 0` and then by `a⁻¹` gives `v1` back); `al`, `al'` are the pointer comparisons
    at the two call sites. -/
theorem go_scale_then_scale (w w' : GVector K) (a b : K) (v1 : Vec K) (al al' : Bool)
    (hal : al = true → w = toGV v1) :
    ∃ st s, Gen.Vector_ScaleVec w a (toGV v1) al = .ok (st, ()) ∧ st.v = toGV s ∧
      ((al' = true → w' = st.v) →
        ∃ st' d, Gen.Vector_ScaleVec w' b st.v al' = .ok (st', ()) ∧ st'.v = toGV d ∧
          d.dim = v1.dim ∧ ∀ i, denE d.entries i = (b * a) * denE v1.entries i) := by
  obtain ⟨st, s, hr, hv, hds, hs⟩ := go_scaleVec_den w a v1 al hal
  refine ⟨st, s, hr, hv, fun hal' => ?_⟩
  obtain ⟨st', d, hr', hv', hdd, hdn⟩ := go_scaleVec_den w' b s al' (fun h => by rw [hal' h, hv])
  refine ⟨st', d, by rw [hv]; exact hr', hv', hdd.trans hds, fun i => ?_⟩
  rw [hdn, hs, mul_assoc]

/-- Scaling distributes over addition, two calls: `s.AddVec(v1, v2)` and then `p.ScaleVec(a, s)` (distinct
    pointers, `al = false`); `p` denotes `a·v1_i + a·v2_i`. -/
theorem go_scale_of_add (capO : Nat → Int) (fuel : Nat) (w w' : GVector K) (a : K) (v1 v2 : Vec K)
    (hd : v1.dim = v2.dim) (hf : v1.entries.length + v2.entries.length ≤ fuel) :
    ∃ st s st' p, Vector_AddVec capO fuel w (toGV v1) (toGV v2) = .ok (st, none) ∧ st.v = toGV s ∧
      Gen.Vector_ScaleVec w' a st.v false = .ok (st', ()) ∧ st'.v = toGV p ∧ p.dim = v1.dim ∧
      ∀ i, denE p.entries i = a * denE v1.entries i + a * denE v2.entries i := by
  obtain ⟨st, s, hr, hv, hds, hs⟩ := go_addVec_den capO fuel w v1 v2 hd hf
  obtain ⟨st', p, hr', hv', hdp, hp⟩ := go_scaleVec_den w' a s false (fun h => by cases h)
  refine ⟨st, s, st', p, hr, hv, by rw [hv]; exact hr', hv', hdp.trans hds, fun i => ?_⟩
  rw [hp, hs, mul_add]

/-- `go_add_then_sub` with the fuel of the SECOND call bounded from the original operands alone: the merge
    behind `AddVec` stores at most `|v1| + |v2|` entries, so `|v1| + 2·|v2|` steps suffice for
    `d.SubVec(s, v2)`; the whole two-call sequence succeeds and `d` denotes `v1`. -/
theorem go_add_then_sub_fuel (capO capO' : Nat → Int) (fuel fuel' : Nat) (w w' : GVector K) (v1 v2 : Vec K)
    (hd : v1.dim = v2.dim) (hf : v1.entries.length + v2.entries.length ≤ fuel)
    (hf' : v1.entries.length + 2 * v2.entries.length ≤ fuel') :
    ∃ st st' d, Vector_AddVec capO fuel w (toGV v1) (toGV v2) = .ok (st, none) ∧
      Vector_SubVec capO' fuel' w' st.v (toGV v2) = .ok (st', none) ∧ st'.v = toGV d ∧
      d.dim = v1.dim ∧ ∀ i, denE d.entries i = denE v1.entries i := by
  obtain ⟨st, hr, hv⟩ := go_addVec_ok capO fuel w v1 v2 hd hf
  have hlen := Tr.addEntries_length_le v1.entries v2.entries
  have hs : ∀ i, denE (addEntries v1.entries v2.entries) i = denE v1.entries i + denE v2.entries i :=
    fun i => C09.den_add v1 v2 _ (C09.add_ok v1 v2 hd) i
  obtain ⟨st', d, hr', hv', hdd, hdn⟩ :=
    go_subVec_den capO' fuel' w' ⟨v1.dim, addEntries v1.entries v2.entries⟩ v2 hd
      (Nat.le_trans (Nat.add_le_add_right hlen _) (by rw [Nat.add_assoc, ← Nat.two_mul]; exact hf'))
  refine ⟨st, st', d, hr, by rw [hv]; exact hr', hv', hdd, fun i => ?_⟩
  rw [hdn]; simp only; rw [hs, add_sub_cancel_right]

/-- `go_sub_then_add` with the second call's fuel bounded from the original operands (`|v1| + 2·|v2|`). -/
theorem go_sub_then_add_fuel (capO capO' : Nat → Int) (fuel fuel' : Nat) (w w' : GVector K) (v1 v2 : Vec K)
    (hd : v1.dim = v2.dim) (hf : v1.entries.length + v2.entries.length ≤ fuel)
    (hf' : v1.entries.length + 2 * v2.entries.length ≤ fuel') :
    ∃ st st' d, Vector_SubVec capO fuel w (toGV v1) (toGV v2) = .ok (st, none) ∧
      Vector_AddVec capO' fuel' w' st.v (toGV v2) = .ok (st', none) ∧ st'.v = toGV d ∧
      d.dim = v1.dim ∧ ∀ i, denE d.entries i = denE v1.entries i := by
  obtain ⟨st, hr, hv⟩ := go_subVec_ok capO fuel w v1 v2 hd hf
  have hlen := Tr.subEntries_length_le v1.entries v2.entries
  have hs : ∀ i, denE (subEntries v1.entries v2.entries) i = denE v1.entries i - denE v2.entries i :=
    fun i => C09.den_sub v1 v2 _ (C09.sub_ok v1 v2 hd) i
  obtain ⟨st', d, hr', hv', hdd, hdn⟩ :=
    go_addVec_den capO' fuel' w' ⟨v1.dim, subEntries v1.entries v2.entries⟩ v2 hd
      (Nat.le_trans (Nat.add_le_add_right hlen _) (by rw [Nat.add_assoc, ← Nat.two_mul]; exact hf'))
  refine ⟨st, st', d, hr, by rw [hv]; exact hr', hv', hdd, fun i => ?_⟩
  rw [hdn]; simp only; rw [hs, sub_add_cancel]

/-! ## `Vector.Sum` is linear over the results of `AddVec` / `ScaleVec` -/

/-- `s.AddVec(v1, v2)` and then `s.Sum()`: on well-formed operands of equal dimension the sum the Go code returns
    for the result equals the sum of the two sums it returns for the operands (exact in a field). -/
theorem go_sum_of_add (capO : Nat → Int) (fuel : Nat) (w : GVector K) (v1 v2 : Vec K)
    (h1 : WF v1.dim v1.entries) (h2 : WF v2.dim v2.entries)
    (hd : v1.dim = v2.dim) (hf : v1.entries.length + v2.entries.length ≤ fuel) :
    ∃ st sa sb sc x y z, Vector_AddVec capO fuel w (toGV v1) (toGV v2) = .ok (st, none) ∧
      Vector_Sum st.v = .ok (sa, x) ∧ Vector_Sum (toGV v1) = .ok (sb, y) ∧
      Vector_Sum (toGV v2) = .ok (sc, z) ∧ x = y + z := by
  obtain ⟨st, out, hr, hv, hdo, hwf, hden⟩ := go_addVec_wf capO fuel w v1 v2 h1 h2 hd hf
  obtain ⟨sa, ha⟩ := go_vector_sum_eq out hwf
  obtain ⟨sb, hb⟩ := go_vector_sum_eq v1 h1
  obtain ⟨sc, hc⟩ := go_vector_sum_eq v2 h2
  refine ⟨st, sa, sb, sc, _, _, _, hr, by rw [hv]; exact ha, hb, hc, ?_⟩
  rw [hdo, ← hd, ← Finset.sum_add_distrib]
  exact Finset.sum_congr rfl (fun i _ => hden i)

/-- `s.ScaleVec(a, v1)` and then `s.Sum()`: the sum of the scaled vector is `a` times the sum of the operand,
    for every factor (zero included) and every well-formed operand. -/
theorem go_sum_of_scale (w : GVector K) (a : K) (v1 : Vec K) (al : Bool) (hal : al = true → w = toGV v1)
    (h : WF v1.dim v1.entries) :
    ∃ st sa sb x y, Gen.Vector_ScaleVec w a (toGV v1) al = .ok (st, ()) ∧
      Vector_Sum st.v = .ok (sa, x) ∧ Vector_Sum (toGV v1) = .ok (sb, y) ∧ x = a * y := by
  obtain ⟨st, out, hr, hv, hdo, hwf, hden⟩ := go_scaleVec_wf w a v1 al hal h
  obtain ⟨sa, ha⟩ := go_vector_sum_eq out hwf
  obtain ⟨sb, hb⟩ := go_vector_sum_eq v1 h
  refine ⟨st, sa, sb, _, _, hr, by rw [hv]; exact ha, hb, ?_⟩
  rw [hdo, Finset.mul_sum]
  exact Finset.sum_congr rfl (fun i _ => hden i)

/-- Non-vacuity: operands of equal dimension with enough fuel exist (unsorted on purpose). -/
example : (⟨4, [⟨2, 1⟩, ⟨0, 3⟩]⟩ : Vec ℚ).dim = (⟨4, [⟨1, 5⟩]⟩ : Vec ℚ).dim ∧
    ([⟨2, 1⟩, ⟨0, 3⟩] : List (Entry ℚ)).length + ([⟨1, 5⟩] : List (Entry ℚ)).length ≤ 3 := by
  constructor <;> decide

end EtVerif.TrGo09c
