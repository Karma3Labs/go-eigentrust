/-
  TrChk — the CURRENT SOURCE of the convergence checker (`NewConvergenceChecker`, `ConvergenceChecker.Update`,
  `Converged`, `Delta` of pkg/basic/eigentrust.go) and of `Vector.Norm2` (pkg/sparse/vector.go), translated by
  tools/go2lean on every run into the `_src` functions of Gen/Translated.lean with `math.Sqrt`, `math.IsNaN`,
  `math.IsInf` as uninterpreted parameters `sqrtO`, `nanO`, `infO`, SIMULATES the checker that the translated
  `basic.Compute` calls (the hand-written extern of tools/go2lean/externs.lean, which carries the squared delta
  because `Scalar` has no square root).  With Props/TrC01 (Compute refines the model given that extern), what is
  left assumed about the checker are the two oracle hypotheses spelled out in the statements:
     (nanO (sqrtO x) || infO (sqrtO x)) = nonFinite x        (the Go finiteness test sees what the model sees)
     le (sqrtO x) e = sqrtLe x e                              (comparing the root = the model's comparison)
  each asked only at the value met, the model's squared delta `x`, a compensated sum of squares.  (Quantified over
  every scalar the first is false of the real float functions: `math.Sqrt(-1)` is NaN although `-1` is finite; see
  `EtVerif.Tr.OracleOK` in Proofs/TrChecker.lean.)  They are facts about IEEE sqrt, checked at the bit tier by the
  correspondence runs.  Property theorems only.
-/
import EtVerif.Proofs.TrChecker

namespace EtVerif.TrChk
open EtVerif EtVerif.GoSem EtVerif.Gen EtVerif.Tr Scalar

variable {α : Type} [Scalar α]

set_option linter.unusedSectionVars false

/-- Go `Vector.Norm2` = square root of the model's compensated sum of squares. -/
theorem norm2_refines (sqrtO : α → α) (v : Vec α) :
    (Gen.Vector_Norm2_src sqrtO (toGV v)).map (fun r => r.2) = .ok (sqrtO v.sumSq) :=
  Vector_Norm2_src_refines sqrtO v

/-- `NewConvergenceChecker`: previous vector = t0, epsilon = e, iteration counter 0, sentinel delta 2·e. -/
theorem newChecker_refines (t0 : Vec α) (e : α) :
    (Gen.NewConvergenceChecker_src (toGV t0) e).map (fun r => r.2) =
      .ok { iter := 0, t := toGV t0, d := Scalar.mul (Scalar.ofNat 2) e, e := e } :=
  NewConvergenceChecker_src_refines t0 e

/-- The source constructor and the extern constructor start in the simulation relation `CCRel`. -/
theorem newChecker_related (sqrtO : α → α) (t0 : Vec α) (e : α) :
    ∃ st g stm m, Gen.NewConvergenceChecker_src (toGV t0) e = .ok (st, g) ∧
      Gen.NewConvergenceChecker (toGV t0) e = .ok (stm, m) ∧ CCRel sqrtO g m t0.dim :=
  NewConvergenceChecker_src_rel sqrtO t0 e

/-- One `Update` of the source checker does what the extern does (`hnf`: the oracle fact at the model's new squared
    delta): same error decision; on success `CCRel` holds again, the iteration counter advances and the stored
    delta is the root of the model's squared delta; on a non-finite delta both leave their checker unchanged. -/
theorem update_simulates (capO : Nat → Int) (fuel : Nat) (sqrtO : α → α) (nanO infO : α → Bool)
    (g : GConvergenceCheckerSrc α) (m : GConvergenceChecker α) (n : Nat) (t : Vec α)
    (hnf : (nanO (sqrtO (m.c.update t.entries).dsq) || infO (sqrtO (m.c.update t.entries).dsq)) =
      nonFinite (m.c.update t.entries).dsq)
    (hrel : CCRel sqrtO g m n) (hdim : t.dim = n) (hf : t.entries.length + m.c.t.length ≤ fuel) :
    ∃ st g' stm m' err,
      Gen.ConvergenceChecker_Update_src capO fuel sqrtO nanO infO g (toGV t) = .ok (st, err) ∧ st.c = g' ∧
      Gen.ConvergenceChecker_Update m (toGV t) = .ok (stm, err) ∧ stm.c = m' ∧
      CCRel sqrtO g' m' n ∧
      (err = none → g'.d = sqrtO m'.c.dsq ∧ g'.iter = g.iter + 1) ∧
      (err ≠ none → g' = g ∧ m' = m) :=
  ConvergenceChecker_Update_src_simulates capO fuel sqrtO nanO infO g m n t hnf hrel hdim hf

/-- `Converged`: the two verdicts coincide (`hsq`: the oracle fact at the squared delta and epsilon held). -/
theorem converged_agrees (sqrtO : α → α) (g : GConvergenceCheckerSrc α) (m : GConvergenceChecker α)
    (he : g.e = m.e) (hd : g.d = sqrtO m.c.dsq)
    (hsq : Scalar.le (sqrtO m.c.dsq) m.e = Scalar.sqrtLe m.c.dsq m.e) :
    (Gen.ConvergenceChecker_Converged_src g).map (fun r => r.2) =
      (Gen.ConvergenceChecker_Converged m).map (fun r => r.2) :=
  ConvergenceChecker_Converged_src_agrees sqrtO g m he hd hsq

/-- `Delta`: the source returns the norm, the extern its square. -/
theorem delta_agrees (sqrtO : α → α) (g : GConvergenceCheckerSrc α) (m : GConvergenceChecker α)
    (hd : g.d = sqrtO m.c.dsq) :
    (Gen.ConvergenceChecker_Delta_src g).map (fun r => r.2) = .ok (sqrtO m.c.dsq) ∧
    (Gen.ConvergenceChecker_Delta m).map (fun r => r.2) = .ok m.c.dsq :=
  ConvergenceChecker_Delta_src_agrees sqrtO g m hd

end EtVerif.TrChk
