/-
  C18 — Flat-tail termination and statistics.

  `obs : List (List Nat × α)` is the sequence of `(ranking, squared delta)` pairs fed to
  `FlatTailStats.update`, oldest first; `ftFold obs` the resulting statistics;
  `runs obs : List (List Nat × α × Nat)` the decomposition of `obs` into maximal runs of equal
  consecutive rankings, each as `(ranking, delta at the head of the run, size)`
  (Proofs/FlatTail.lean).  "Run length" in the property text is `size − 1`.

  Vocabulary from Proofs/Loop.lean: `initState`, `iterate`, `obsAt … k =
  (rankOf (iterate … k t0) nl, dsqAt … k)`, `convergedAt`, `nonFiniteAt`, `flatAt`, `maxHit`.
-/
import EtVerif.Proofs.Loop

namespace EtVerif.C18
open EtVerif Scalar

section stats
variable {α : Type} [Scalar α]

omit [Scalar α] in
/-- `runs obs` expands to the observed rankings, consecutive runs differ (maximality), every run
    is non-empty, and the delta recorded for a run is the delta observed at its first element
    (the run preceded by `pre` starts at position `Σ sizes of pre`). -/
theorem runs_spec (obs : List (List Nat × α)) :
    (runs obs).flatMap (fun x => List.replicate x.2.2 x.1) = obs.map (·.1) ∧
    (runs obs).IsChain (fun a b => a.1 ≠ b.1) ∧
    (∀ x ∈ runs obs, 1 ≤ x.2.2) ∧
    (∀ pre run post, runs obs = pre ++ run :: post →
      obs[(pre.map (·.2.2)).sum]? = some (run.1, run.2.1)) ∧
    (runs obs = [] ↔ obs = []) :=
  ⟨runs_flatten obs, runs_isChain obs, runs_pos obs, runs_head_delta obs, runs_eq_nil_iff⟩

/-! ### the statistics as functions of the observation sequence -/

/-- no check performed: the statistics are the initial ones (`ranking = nil`) -/
theorem ft_empty : ftFold ([] : List (List Nat × α)) = FlatTailStats.init := rfl

/-- `length` is the size of the final run of identical rankings minus one -/
theorem ft_length (obs : List (List Nat × α)) (h : obs ≠ []) :
    (ftFold obs).length + 1 = ((runs obs).getLast (runs_ne_nil h)).2.2 := by
  rw [ftFold_eq_finish, finish_eq _ (runs_ne_nil h)]
  exact Nat.sub_add_cancel (runs_pos obs _ (List.getLast_mem (runs_ne_nil h)))

/-- `ranking` is the ranking of the final run, i.e. the last observed ranking -/
theorem ft_ranking (obs : List (List Nat × α)) (h : obs ≠ []) :
    (ftFold obs).ranking = some ((runs obs).getLast (runs_ne_nil h)).1 ∧
    (ftFold obs).ranking = some (obs.getLast h).1 := by
  constructor
  · rw [ftFold_eq_finish, finish_eq _ (runs_ne_nil h)]
  · rw [ftFold_ranking_last, List.getLast?_eq_some_getLast h]
    rfl

/-- `deltaNorm` (kept squared) is the delta at the head of the final run -/
theorem ft_delta (obs : List (List Nat × α)) (h : obs ≠ []) :
    (ftFold obs).deltaSq = ((runs obs).getLast (runs_ne_nil h)).2.1 := by
  rw [ftFold_eq_finish, finish_eq _ (runs_ne_nil h)]

/-- `threshold` is `max 1 (max over all earlier runs of their size)`; since a run of size `r`
    has "length" `r − 1`, this is one more than the longest earlier (broken) run, at least 1.
    The second part spells the maximum out. -/
theorem ft_threshold (obs : List (List Nat × α)) :
    (ftFold obs).threshold = ((runs obs).dropLast.map (·.2.2)).foldl max 1 ∧
    1 ≤ (ftFold obs).threshold ∧
    (∀ x ∈ (runs obs).dropLast, x.2.2 ≤ (ftFold obs).threshold) ∧
    ((ftFold obs).threshold = 1 ∨ ∃ x ∈ (runs obs).dropLast, x.2.2 = (ftFold obs).threshold) := by
  have h : (ftFold obs).threshold = ((runs obs).dropLast.map (·.2.2)).foldl max 1 := by
    cases obs with
    | nil => rfl
    | cons o rest => rw [ftFold_eq_finish, finish_eq _ (runs_ne_nil (List.cons_ne_nil o rest))]
  obtain ⟨h1, h2, h3⟩ := foldl_max_spec ((runs obs).dropLast.map (·.2.2)) 1
  rw [← h] at h1 h2 h3
  refine ⟨h, h1, fun x hx => h2 _ (List.mem_map.mpr ⟨x, hx, rfl⟩), ?_⟩
  rcases h3 with h3 | h3
  · exact Or.inl h3
  · obtain ⟨x, hx, hxe⟩ := List.mem_map.mp h3
    exact Or.inr ⟨x, hx, hxe⟩

/-- `Reached()` (`length ≥ L`) holds iff the last `L+1` observed rankings are identical -/
theorem ft_reached_iff (obs : List (List Nat × α)) (h : obs ≠ []) (L : Nat) :
    L ≤ (ftFold obs).length ↔
      L + 1 ≤ obs.length ∧ ∃ r, ∀ o ∈ obs.drop (obs.length - (L + 1)), o.1 = r := by
  rw [← le_trailing_iff, ← ftFold_length_trailing obs h]
  omega

/-! ### the stop rule of `computeLoop` with a flat tail -/

section loop
variable (ct : List (Row α)) (ap : List (Entry α)) (q e : α) (minI freq : Nat)
  (maxI : Option Nat) (flatTail nl : Nat)

/-- The statistics returned by the loop are the fold over the checks performed (oldest first)
    of the observations `(rankOf t_k numLeaders, dsq_k)`, `t_k` the `k`-th iterate. -/
theorem ft_stats (fuel : Nat) (t0 : List (Entry α)) (s : LoopState α) (by_ : EndedBy)
    (h : computeLoop ct ap q e minI freq maxI flatTail nl fuel (initState t0) = (s, by_)) :
    s.stats = ftFold (s.checks.reverse.map (obsAt ct ap q minI freq nl t0)) ∧
    ∀ k, obsAt ct ap q minI freq nl t0 k =
      (rankOf (iterate ct ap q k t0) nl, dsqAt ct ap q minI freq t0 k) :=
  ⟨loop_stats_eq h, fun _ => rfl⟩

/-- the reported ranking is the ranking of the last checked iterate (`nil` with no check) -/
theorem ft_ranking_last_check (fuel : Nat) (t0 : List (Entry α)) (s : LoopState α)
    (by_ : EndedBy)
    (h : computeLoop ct ap q e minI freq maxI flatTail nl fuel (initState t0) = (s, by_)) :
    s.stats.ranking = s.checks.head?.map (fun k => rankOf (iterate ct ap q k t0) nl) := by
  rw [(ft_stats ct ap q e minI freq maxI flatTail nl fuel t0 s by_ h).1, ftFold_ranking_last]
  cases s.checks with
  | nil => rfl
  | cons k tl => simp [obsAt]

/-- the flat-tail verdict of a scheduled check at iteration `k`: the rankings of the last
    `flatTail + 1` checks up to and including `k` are identical -/
theorem flatAt_iff (t0 : List (Entry α)) (k : Nat) (hk : isCheck minI freq k = true) :
    flatAt ct ap q minI freq flatTail nl t0 k = true ↔
      (let obs := (sched minI freq (k + 1)).reverse.map (obsAt ct ap q minI freq nl t0)
       flatTail + 1 ≤ obs.length ∧
        ∃ r, ∀ o ∈ obs.drop (obs.length - (flatTail + 1)), o.1 = r) := by
  unfold flatAt statsBefore
  rw [decide_eq_true_iff]
  apply ft_reached_iff
  rw [sched_succ, if_pos hk]
  simp

/-- The same verdict spelled out on the schedule: at the `i`-th scheduled check
    `k = minI + i·freq` the flat tail is reached iff at least `flatTail` checks precede it and
    the rankings at the `flatTail + 1` consecutive checks `k − flatTail·freq, …, k − freq, k`
    are identical. -/
theorem flatAt_iff_consecutive (hf : 1 ≤ freq) (t0 : List (Entry α)) (i : Nat) :
    flatAt ct ap q minI freq flatTail nl t0 (minI + i * freq) = true ↔
      flatTail ≤ i ∧ ∀ j, j ≤ flatTail →
        rankOf (iterate ct ap q (minI + (i - j) * freq) t0) nl
          = rankOf (iterate ct ap q (minI + i * freq) t0) nl := by
  unfold flatAt
  rw [decide_eq_true_iff]
  exact flat_length_iff ct ap q minI freq nl hf t0 flatTail i

/-- A run ended by the criteria stopped at a scheduled check (before the iteration limit) at
    which convergence holds and the flat tail is reached — `stats.length ≥ flatTail`, i.e. the
    last `flatTail + 1` checked rankings are identical — and at no earlier scheduled check both
    held (nor was a delta non-finite). -/
theorem ft_stop (fuel : Nat) (t0 : List (Entry α)) (s : LoopState α)
    (h : computeLoop ct ap q e minI freq maxI flatTail nl fuel (initState t0) = (s, .criteria)) :
    isCheck minI freq s.iter = true ∧ (∀ m, maxI = some m → s.iter < m) ∧
    convergedAt ct ap q e minI freq t0 s.iter = true ∧
    flatTail ≤ s.stats.length ∧
    (let obs := s.checks.reverse.map (obsAt ct ap q minI freq nl t0)
     flatTail + 1 ≤ obs.length ∧ ∃ r, ∀ o ∈ obs.drop (obs.length - (flatTail + 1)), o.1 = r) ∧
    (∀ k, k < s.iter → isCheck minI freq k = true →
      nonFiniteAt ct ap q minI freq t0 k = false ∧
      ¬ (convergedAt ct ap q e minI freq t0 k = true ∧
          flatAt ct ap q minI freq flatTail nl t0 k = true)) := by
  have hbef := loop_no_stop_before h
  have hst := loop_stats_eq h
  obtain ⟨_, c1, c2, _, c4, c5, c6⟩ := loop_ended_criteria h
  have hlen : flatTail ≤ s.stats.length := by
    have : s.stats = statsBefore ct ap q minI freq nl t0 (s.iter + 1) := by
      rw [hst, c6]; rfl
    rw [this]
    simpa [flatAt] using c5
  have hne : s.checks.reverse.map (obsAt ct ap q minI freq nl t0) ≠ [] := by
    rw [c6, sched_succ, if_pos c2]; simp
  refine ⟨c2, fun m hm => lt_of_maxHit_false c1 hm, c4, hlen, ?_, ?_⟩
  · rw [hst] at hlen
    exact (ft_reached_iff _ hne flatTail).mp hlen
  · intro k hk hck
    exact (stopAt_eq_false_iff ..).mp (hbef k hk).2 hck

/-- Conversely the loop stops at the **first** such check: if `K` is a scheduled check before
    the iteration limit with a finite delta at which convergence holds and the flat tail is
    reached, and at no earlier scheduled check the delta was non-finite or both held, then (for
    any fuel `> K`) the loop ends by the criteria after exactly `K` iterations. -/
theorem ft_stop_first (fuel : Nat) (t0 : List (Entry α)) (K : Nat) (hK : K < fuel)
    (hmax : ∀ m, maxI = some m → K < m)
    (hcheck : isCheck minI freq K = true)
    (hfin : nonFiniteAt ct ap q minI freq t0 K = false)
    (hconv : convergedAt ct ap q e minI freq t0 K = true)
    (hflat : flatAt ct ap q minI freq flatTail nl t0 K = true)
    (hbefore : ∀ k, k < K → isCheck minI freq k = true →
      nonFiniteAt ct ap q minI freq t0 k = false ∧
      ¬ (convergedAt ct ap q e minI freq t0 k = true ∧
          flatAt ct ap q minI freq flatTail nl t0 k = true))
    (s : LoopState α) (by_ : EndedBy)
    (h : computeLoop ct ap q e minI freq maxI flatTail nl fuel (initState t0) = (s, by_)) :
    s.iter = K ∧ by_ = .criteria := by
  have hmaxF : ∀ k, k ≤ K → maxHit maxI k = false := by
    intro k hk
    cases hm : maxI with
    | none => rfl
    | some m => exact decide_eq_false (Nat.not_le.mpr (Nat.lt_of_le_of_lt hk (hmax m hm)))
  exact loop_first_criteria fuel t0 K hK
    (fun k hk => ⟨hmaxF k hk.le, (stopAt_eq_false_iff ..).mpr (hbefore k hk)⟩)
    (hmaxF K (le_refl K)) hfin ((stopAt_eq_true_iff ..).mpr ⟨hcheck, Or.inr ⟨hconv, hflat⟩⟩) s by_ h

/-- a run ended by the criteria reports the ranking of the *returned* vector -/
theorem ft_ranking_returned (fuel : Nat) (t0 : List (Entry α)) (s : LoopState α)
    (h : computeLoop ct ap q e minI freq maxI flatTail nl fuel (initState t0) = (s, .criteria)) :
    s.stats.ranking = some (rankOf s.t1 nl) := by
  have ht := loop_t1_eq h
  obtain ⟨_, _, c2, _, _, _, c6⟩ := loop_ended_criteria h
  rw [ft_ranking_last_check ct ap q e minI freq maxI flatTail nl fuel t0 s _ h, c6, sched_succ,
    if_pos c2, ht]
  rfl

end loop

/-- At the level of `compute`: the reported statistics are the fold over the performed checks
    (`r.checks`, oldest first) of `(ranking of the k-th iterate, delta at check k)`, with
    `numLeaders = 0` standing for all `n` peers; a run ended by the criteria reports the ranking
    of the returned vector and `length ≥ flatTail`. -/
theorem compute_stats (fuel : Nat) (c : CSM α) (p : Vec α) (a e : α) (o : ComputeOpts α)
    (r : ComputeResult α) (h : compute fuel c p a e o = .ok r) :
    r.stats = ftFold (r.checks.map (obsAt c.transpose.rows (Vec.scale a p).entries (sub one a)
        (o.minIterations.getD (o.checkFreq.getD 1)).toNat (o.checkFreq.getD 1).toNat
        (if o.numLeaders = 0 then c.major else o.numLeaders) (o.t0.getD p).entries)) ∧
    (r.endedBy = .criteria →
      r.stats.ranking
        = some (rankOf r.t.entries (if o.numLeaders = 0 then c.major else o.numLeaders)) ∧
      o.flatTail ≤ r.stats.length) := by
  obtain ⟨_, _, s, hl, hr⟩ := compute_ok_inv fuel c p a e o r h
  unfold loopOf at hl
  have h1 := (ft_stats _ _ _ _ _ _ _ _ _ fuel _ s r.endedBy hl).1
  have e1 : r.stats = s.stats := by rw [hr]
  have e2 : r.checks = s.checks.reverse := by rw [hr]
  have e3 : r.t.entries = s.t1 := by rw [hr]
  refine ⟨by rw [e1, e2, h1], ?_⟩
  intro hby
  rw [hby] at hl
  rw [e1, e3]
  exact ⟨ft_ranking_returned _ _ _ _ _ _ _ _ _ fuel _ s hl,
    (ft_stop _ _ _ _ _ _ _ _ _ fuel _ s hl).2.2.2.1⟩

end stats

/-! ### the ranking lists the top-scored peers in score order -/

section ranking
variable {K : Type} [Field K] [LinearOrder K]

/-- For an entry list with pairwise distinct values: `rankOf t nl` has `min nl nnz` elements;
    the entries split (as a permutation) into `rest ++ top` such that the ranking is the list of
    indices of `top`, `top` is strictly increasing in value, and every entry of `rest` scores
    strictly below every entry of `top`. -/
theorem ft_ranking_top (t : List (Entry K)) (nl : Nat)
    (hval : t.Pairwise (fun a b => a.val ≠ b.val)) :
    (rankOf t nl).length = min nl t.length ∧
    ∃ rest top : List (Entry K),
      (rest ++ top).Perm t ∧ top.length = min nl t.length ∧
      rankOf t nl = top.map (·.idx) ∧
      top.Pairwise (fun a b => a.val < b.val) ∧
      ∀ a ∈ rest, ∀ b ∈ top, a.val < b.val := by
  refine ⟨rankOf_length t nl, (sortByVal t).take (t.length - nl), (sortByVal t).drop (t.length - nl), ?_, ?_,
    rankOf_eq t nl, ?_, ?_⟩
  · rw [List.take_append_drop]; exact sortByVal_perm t
  · rw [List.length_drop, sortByVal_length, Nat.sub_sub_eq_min, Nat.min_comm]
  · have h := sortByVal_strict t hval
    rw [← List.take_append_drop (t.length - nl) (sortByVal t)] at h
    exact (List.pairwise_append.mp h).2.1
  · have h := sortByVal_strict t hval
    rw [← List.take_append_drop (t.length - nl) (sortByVal t)] at h
    exact (List.pairwise_append.mp h).2.2

/-- Index form (distinct indices, distinct values): a listed peer scores strictly higher than
    every unlisted peer. -/
theorem ft_ranking_dominates (t : List (Entry K)) (nl : Nat)
    (hval : t.Pairwise (fun a b => a.val ≠ b.val)) (hidx : (t.map (·.idx)).Nodup)
    (x y : Entry K) (hx : x ∈ t) (hy : y ∈ t)
    (hyr : y.idx ∈ rankOf t nl) (hxr : x.idx ∉ rankOf t nl) : x.val < y.val := by
  obtain ⟨_, rest, top, hperm, _, hr, _, hdom⟩ := ft_ranking_top t nl hval
  rw [hr] at hyr hxr
  obtain ⟨z, hz, hzy⟩ := List.mem_map.mp hyr
  have hzt : z ∈ t := hperm.mem_iff.mp (List.mem_append_right _ hz)
  have hzy' : z = y := List.inj_on_of_nodup_map hidx hzt hy hzy
  subst hzy'
  have hxm : x ∈ rest ++ top := hperm.mem_iff.mpr hx
  rcases List.mem_append.mp hxm with hxrest | hxtop
  · exact hdom x hxrest z hz
  · exact absurd (List.mem_map.mpr ⟨x, hxtop, rfl⟩) hxr

/-- `numLeaders = 0` is replaced by `n` in `compute`; with `numLeaders ≥ nnz` every peer is
    listed, in ascending score order. -/
theorem ft_ranking_all (t : List (Entry K)) (nl : Nat) (h : t.length ≤ nl) :
    rankOf t nl = (sortByVal t).map (·.idx) ∧ (sortByVal t).Perm t ∧
      (sortByVal t).Pairwise (fun a b => a.val ≤ b.val) :=
  ⟨rankOf_all t nl h, sortByVal_perm t, sortByVal_sorted t⟩

end ranking

/-! ### non-vacuity -/

section examples

/-- rankings `A … F` as one-element lists, deltas `1/(position+1)` -/
private def mkObs (l : List Nat) : List (List Nat × Rat) :=
  l.zipIdx.map fun (r, i) => ([r], 1 / ((i : Rat) + 1))

/-- the ranking pattern `ABCDDEEEEFFFFFFFFFF` of the OpenAPI description -/
private def pat : List (List Nat × Rat) :=
  mkObs [0, 1, 2, 3, 3, 4, 4, 4, 4, 5, 5, 5, 5, 5, 5, 5, 5, 5, 5]

example : (runs pat).map (fun x => (x.1, x.2.2)) =
    [([0], 1), ([1], 1), ([2], 1), ([3], 2), ([4], 4), ([5], 10)] := by decide +kernel

/-- threshold 4 (the broken `EEEE` run), length 9 (`F` ×10), delta at the head of the `F` run
    (the 10th observation), ranking `F` -/
example : (ftFold pat).threshold = 4 ∧ (ftFold pat).length = 9 ∧
    (ftFold pat).deltaSq = 1 / 10 ∧ (ftFold pat).ranking = some [5] := by decide +kernel

/-- a two-peer run with `flatTail = 2`: checks at 1, 2, 3, 4; the flat tail (3 identical
    rankings) is reached at the 3rd check but convergence only at the 4th -/
private def c2 : CSM Rat := ⟨2, 2, [[⟨1, 1⟩], [⟨0, 1⟩]], []⟩
private def p2 : Vec Rat := ⟨2, [⟨0, 1⟩]⟩

private def view (r : Except SErr (ComputeResult Rat)) : Option (Nat × List Nat × EndedBy) :=
  match r with
  | .ok r => some (r.iters, r.checks, r.endedBy)
  | .error _ => none
private def viewStats (r : Except SErr (ComputeResult Rat)) :
    Option (Nat × Nat × Option (List Nat)) :=
  match r with
  | .ok r => some (r.stats.length, r.stats.threshold, r.stats.ranking)
  | .error _ => none

example : view (compute 100 c2 p2 (1/2) (1/10) { flatTail := 2 })
    = some (4, [1, 2, 3, 4], .criteria) := by
  decide +kernel

example : viewStats (compute 100 c2 p2 (1/2) (1/10) { flatTail := 2 })
    = some (3, 1, some [1, 0]) := by
  decide +kernel

/-- with `flatTail = 5` the same input stops only at the 6th check: convergence holds from the
    4th check on, six identical rankings are needed -/
example : view (compute 100 c2 p2 (1/2) (1/10) { flatTail := 5 })
    = some (6, [1, 2, 3, 4, 5, 6], .criteria) := by
  decide +kernel

/-- hypotheses of `ft_stop_first` for the `flatTail = 2` run (`K = 4`, two leaders) -/
example :
    isCheck 1 1 4 = true ∧
    nonFiniteAt c2.transpose.rows (Vec.scale (1/2) p2).entries (1/2 : Rat) 1 1 p2.entries 4 = false ∧
    convergedAt c2.transpose.rows (Vec.scale (1/2) p2).entries (1/2 : Rat) (1/10) 1 1 p2.entries 4 = true ∧
    flatAt c2.transpose.rows (Vec.scale (1/2) p2).entries (1/2 : Rat) 1 1 2 2 p2.entries 4 = true ∧
    (∀ k, k < 4 → isCheck 1 1 k = true →
      nonFiniteAt c2.transpose.rows (Vec.scale (1/2) p2).entries (1/2 : Rat) 1 1 p2.entries k = false ∧
      ¬ (convergedAt c2.transpose.rows (Vec.scale (1/2) p2).entries (1/2 : Rat) (1/10) 1 1 p2.entries k = true ∧
          flatAt c2.transpose.rows (Vec.scale (1/2) p2).entries (1/2 : Rat) 1 1 2 2 p2.entries k = true)) := by
  decide +kernel

/-- `ft_ranking_top` at `K := ℚ`: scores `0.40, 0.17, 0.43`, one leader: peer 2 (the highest) -/
example : @rankOf ℚ fieldScalar [⟨0, 2/5⟩, ⟨1, 17/100⟩, ⟨2, 43/100⟩] 1 = [2] := by
  decide +kernel

example : ([⟨0, 2/5⟩, ⟨1, 17/100⟩, ⟨2, 43/100⟩] : List (Entry ℚ)).Pairwise
    (fun a b => a.val ≠ b.val) ∧
    (([⟨0, 2/5⟩, ⟨1, 17/100⟩, ⟨2, 43/100⟩] : List (Entry ℚ)).map (·.idx)).Nodup := by
  decide +kernel

end examples

end EtVerif.C18
