/-
  Tie theorem for C15: the inventory of partiality sites (index / slice / deref / make / panic
  expressions per function of the front-end and core packages) that tools/gofacts regenerates from
  /repo's source on every run (Gen/Facts.lean `partialitySites`) equals the audited inventory
  written out here.  The `rfl` FAILS (and the check reports it) as soon as the two differ: the
  tables are compared literal by literal, which costs nothing, where deciding the equality through
  `DecidableEq String` is slow.
-/
import EtVerif.Gen.Facts

namespace EtVerif.Ties
open EtVerif

/-- the audited inventory: file, function, kind of expression, number of occurrences -/
def auditedSites : List Site :=
  [⟨"cmd/eigentrust/cmd/basiccompute.go", "getPeerId", "index", 1⟩,
   ⟨"cmd/eigentrust/cmd/basiccompute.go", "getPeerIndex", "index", 2⟩,
   ⟨"cmd/eigentrust/cmd/basiccompute.go", "loadInlineTrustMatrixCsv", "index", 6⟩,
   ⟨"cmd/eigentrust/cmd/basiccompute.go", "loadInlineTrustVectorCsv", "index", 4⟩,
   ⟨"cmd/eigentrust/cmd/basiccompute.go", "runBasicCompute", "deref", 1⟩,
   ⟨"internal/playground/engine.go", "ByScore.Less", "index", 2⟩,
   ⟨"internal/playground/engine.go", "ByScore.Swap", "index", 4⟩,
   ⟨"internal/playground/engine.go", "calculate", "deref", 2⟩,
   ⟨"internal/playground/engine.go", "calculate", "index", 4⟩,
   ⟨"internal/playground/engine.go", "calculate", "make", 1⟩,
   ⟨"internal/playground/engine.go", "handle", "deref", 1⟩,
   ⟨"pkg/basic/eigentrust.go", "Canonicalize", "index", 1⟩,
   ⟨"pkg/basic/eigentrust.go", "Compute", "deref", 3⟩,
   ⟨"pkg/basic/eigentrust.go", "DiscountTrustVector", "index", 4⟩,
   ⟨"pkg/basic/eigentrust.go", "FlatTailChecker.Update", "slice", 2⟩,
   ⟨"pkg/basic/localtrust.go", "ExtractDistrust", "index", 5⟩,
   ⟨"pkg/basic/localtrust.go", "ExtractDistrust", "slice", 1⟩,
   ⟨"pkg/basic/localtrust.go", "ReadLocalTrustFromCsv", "index", 6⟩,
   ⟨"pkg/basic/peernames.go", "ParsePeerId", "index", 1⟩,
   ⟨"pkg/basic/peernames.go", "ReadPeerNamesFromCsv", "index", 3⟩,
   ⟨"pkg/basic/server/grpc/biguintqwords.go", "BigUint2Qwords", "index", 1⟩,
   ⟨"pkg/basic/server/grpc/biguintqwords.go", "BigUint2Qwords", "make", 1⟩,
   ⟨"pkg/basic/server/grpc/compute.go", "ComputeServer.BasicCompute", "deref", 26⟩,
   ⟨"pkg/basic/server/grpc/trustmatrix.go", "TrustMatrixServer.Flush", "deref", 2⟩,
   ⟨"pkg/basic/server/grpc/trustmatrix.go", "TrustMatrixServer.Get", "deref", 2⟩,
   ⟨"pkg/basic/server/grpc/trustmatrix.go", "TrustMatrixServer.Update", "deref", 2⟩,
   ⟨"pkg/basic/server/grpc/trustvector.go", "TrustVectorServer.Flush", "deref", 2⟩,
   ⟨"pkg/basic/server/grpc/trustvector.go", "TrustVectorServer.Get", "deref", 2⟩,
   ⟨"pkg/basic/server/grpc/trustvector.go", "TrustVectorServer.Update", "deref", 3⟩,
   ⟨"pkg/basic/server/namedtrust.go", "NamedTrustMatrices.Merge", "deref", 2⟩,
   ⟨"pkg/basic/server/namedtrust.go", "NamedTrustVectors.Merge", "deref", 2⟩,
   ⟨"pkg/basic/server/oapi/openapi.go", "StrictServerImpl.GetLocalTrust", "deref", 1⟩,
   ⟨"pkg/basic/server/oapi/openapi.go", "StrictServerImpl.UpdateLocalTrust", "deref", 5⟩,
   ⟨"pkg/basic/server/oapi/openapi.go", "StrictServerImpl.compute", "deref", 20⟩,
   ⟨"pkg/basic/server/oapi/openapi.go", "StrictServerImpl.getLocalTrust", "deref", 2⟩,
   ⟨"pkg/basic/server/oapi/openapi.go", "StrictServerImpl.loadCsvTrustMatrix", "index", 6⟩,
   ⟨"pkg/basic/server/oapi/openapi.go", "StrictServerImpl.loadCsvTrustVector", "index", 4⟩,
   ⟨"pkg/basic/server/oapi/openapi.go", "StrictServerImpl.loadStoredTrustMatrix", "deref", 3⟩,
   ⟨"pkg/basic/trustvector.go", "CanonicalizeTrustVector", "index", 2⟩,
   ⟨"pkg/basic/trustvector.go", "CanonicalizeTrustVector", "make", 1⟩,
   ⟨"pkg/basic/trustvector.go", "ReadTrustVectorFromCsv", "index", 4⟩,
   ⟨"pkg/sparse/matrix.go", "CSCMatrix.ColumnVector", "index", 1⟩,
   ⟨"pkg/sparse/matrix.go", "CSCMatrix.Transpose", "deref", 1⟩,
   ⟨"pkg/sparse/matrix.go", "CSMatrix.Merge", "index", 3⟩,
   ⟨"pkg/sparse/matrix.go", "CSMatrix.Mmap", "deref", 1⟩,
   ⟨"pkg/sparse/matrix.go", "CSMatrix.Mmap", "index", 5⟩,
   ⟨"pkg/sparse/matrix.go", "CSMatrix.Mmap", "make", 1⟩,
   ⟨"pkg/sparse/matrix.go", "CSMatrix.Mmap", "panic", 1⟩,
   ⟨"pkg/sparse/matrix.go", "CSMatrix.Mmap", "slice", 1⟩,
   ⟨"pkg/sparse/matrix.go", "CSMatrix.Munmap", "slice", 1⟩,
   ⟨"pkg/sparse/matrix.go", "CSMatrix.Reset", "panic", 1⟩,
   ⟨"pkg/sparse/matrix.go", "CSMatrix.SetMajorDim", "slice", 2⟩,
   ⟨"pkg/sparse/matrix.go", "CSMatrix.SetMinorDim", "index", 2⟩,
   ⟨"pkg/sparse/matrix.go", "CSMatrix.SetMinorDim", "slice", 1⟩,
   ⟨"pkg/sparse/matrix.go", "CSMatrix.Transpose", "deref", 1⟩,
   ⟨"pkg/sparse/matrix.go", "CSMatrix.Transpose", "index", 4⟩,
   ⟨"pkg/sparse/matrix.go", "CSMatrix.Transpose", "make", 2⟩,
   ⟨"pkg/sparse/matrix.go", "CSRMatrix.RowVector", "index", 1⟩,
   ⟨"pkg/sparse/matrix.go", "CSRMatrix.SetRowVector", "index", 1⟩,
   ⟨"pkg/sparse/matrix.go", "CSRMatrix.Transpose", "deref", 1⟩,
   ⟨"pkg/sparse/matrix.go", "NewCSRMatrix", "deref", 1⟩,
   ⟨"pkg/sparse/matrix.go", "NewCSRMatrix", "index", 2⟩,
   ⟨"pkg/sparse/matrix.go", "NewCSRMatrix", "make", 1⟩,
   ⟨"pkg/sparse/matrix.go", "mergeSpan", "index", 9⟩,
   ⟨"pkg/sparse/matrix.go", "mergeSpan", "slice", 1⟩,
   ⟨"pkg/sparse/vector.go", "NewVector", "slice", 1⟩,
   ⟨"pkg/sparse/vector.go", "VecDot", "index", 2⟩,
   ⟨"pkg/sparse/vector.go", "Vector.AddVec", "index", 11⟩,
   ⟨"pkg/sparse/vector.go", "Vector.AddVec", "slice", 6⟩,
   ⟨"pkg/sparse/vector.go", "Vector.Assign", "slice", 1⟩,
   ⟨"pkg/sparse/vector.go", "Vector.Clone", "slice", 1⟩,
   ⟨"pkg/sparse/vector.go", "Vector.MulVec", "make", 2⟩,
   ⟨"pkg/sparse/vector.go", "Vector.Norm2", "index", 1⟩,
   ⟨"pkg/sparse/vector.go", "Vector.SetDim", "index", 1⟩,
   ⟨"pkg/sparse/vector.go", "Vector.SetDim", "slice", 1⟩,
   ⟨"pkg/sparse/vector.go", "Vector.SubVec", "index", 13⟩,
   ⟨"pkg/sparse/vector.go", "Vector.SubVec", "slice", 6⟩,
   ⟨"pkg/sparse/vector.go", "Vector.scaleInPlace", "index", 4⟩,
   ⟨"pkg/sparse/vector.go", "Vector.scaleInPlace", "slice", 1⟩]

/-- C15: every site of the source is an audited one and vice versa.  Each site listed is covered
    by a guard theorem of Props/C15.lean or lies behind a validated value; a site that appears,
    disappears or moves makes this `rfl` fail and sends the check to its runtime search. -/
theorem source_sites_audited : Facts.partialitySites = auditedSites := rfl

end EtVerif.Ties
