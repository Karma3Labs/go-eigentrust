/-
  C15 — No crash, well-formed answers (model-level part).

  "every front-end … answers with a well-formed success or error: no panic … Requests that
   violate the documented constraints … are refused with the documented client-error status …
   and refusal leaves server state unchanged."

  The models are total functions, so "no panic" is stated as: AT EVERY CALL the front-end models
  make of an operation whose Go original can panic, the panic precondition is excluded:
  * `NewCSRMatrix(rows, cols, entries, …)` indexes `entries2[e.Row]` — needs `e.Row < rows`
    (first section below; the column bound is needed later by `Transpose`);
  * `CSMatrix.Transpose` indexes `nnzs[e.Index]` — needs every stored column `< MinorDim`
    (`CSM.colsInRange`, second section), for every matrix handed to `basic.Compute`;
  * the playground's `preTrusted[e.Index]` — Props/C20 `flags_exact`.
  Everything is stated for an arbitrary `Scalar α` (so also for `Float`).

  Vocabulary (Proofs/FrontendLemmas.lean, namespace `FeL`):
  * `ColsIn n rows`   — all stored column indices of the row table are `< n`;
  * `Guarded m`       — `ColsIn m.minor m.rows` and the hidden part of the row table is all nil
                        (so the guard survives `SetMajorDim`);
  * `VecIn v`         — every stored index of `v` is `< v.dim`;
  * `OStoreInv s`     — every matrix in the OpenAPI store is `Guarded`;
  * `GInv s`          — every matrix in the gRPC state is `Guarded`, every vector `VecIn`;
  * `cooOfI`, `tmBatch`/`gDim`, `cooDim` — the coordinate lists / dimensions the front-ends pass
                        to `NewCSRMatrix`;
  * `bcPrep`, `bcOpts`, `bcWrite` — the staged form of `Grpc.basicCompute` (`basicCompute_eq`).
-/
import EtVerif.Proofs.FrontendLemmas
import EtVerif.Proofs.Matrix
import EtVerif.Props.C05
import EtVerif.Props.C19
import EtVerif.Props.C20

namespace EtVerif.C15
open EtVerif EtVerif.Fe EtVerif.FeL Scalar

variable {α : Type} [Scalar α]

set_option linter.unusedSectionVars false

/-! ### `NewCSRMatrix` is only called with in-range coordinates -/

theorem cooRowsInRange_of_lt {n : Nat} {coos : List (Coo α)} (h : ∀ e ∈ coos, e.row < n)
    (includeZero : Bool) : cooRowsInRange n coos includeZero = true := by
  unfold cooRowsInRange
  rw [List.all_eq_true]
  intro e he
  rw [decide_eq_true (h e he), Bool.or_true]

/-- OpenAPI inline matrix: the loader calls `NewCSRMatrix(size, size, coos, false)` and every
    coordinate it passes has `row < size` and `col < size`. -/
theorem newCSR_guard_oapi_inline {m : Oapi.IMatrix α} {c : CSM α}
    (h : Oapi.loadInlineMatrix m = some c) :
    c = CSM.newCSR m.size.toNat m.size.toNat (cooOfI m) false ∧
      (∀ e ∈ cooOfI m, e.row < m.size.toNat ∧ e.col < m.size.toNat) ∧
      cooRowsInRange m.size.toNat (cooOfI m) false = true := by
  obtain ⟨_, h1, h2⟩ := loadInlineMatrix_some h
  exact ⟨h1, h2, cooRowsInRange_of_lt (fun e he => (h2 e he).1) false⟩

/-- gRPC `TrustMatrix.Update`: on success the batch is
    `NewCSRMatrix(n, n, coos, true)` with `n` above every row and column index. -/
theorem newCSR_guard_grpc_update {s : Grpc.GState α} {id : String} {ts : Nat}
    {entries : List (Grpc.MEntry α)} {tm : Grpc.TM α} {coos : List (Coo α)}
    (hl : Grpc.lookup s.mats id = some tm) (hp : Grpc.parseMEntries entries = .ok coos) :
    Grpc.tmUpdate s id ts entries =
        ({ s with mats := Grpc.store s.mats id ⟨(tm.m.merge (tmBatch coos)).1, max tm.ts ts⟩ }, .ok) ∧
      tmBatch coos = CSM.newCSR (gDim coos) (gDim coos) coos true ∧
      (∀ e ∈ coos, e.row < gDim coos ∧ e.col < gDim coos) ∧
      cooRowsInRange (gDim coos) coos true = true := by
  exact ⟨tmUpdate_ok hl hp, rfl, fun e he => lt_gDim he,
    cooRowsInRange_of_lt (fun e he => (lt_gDim he).1) true⟩

/-- library reader `ReadLocalTrustFromCsv` (used by the playground): the matrix is
    `NewCSRMatrix(dim, dim, coos, false)` with `dim` = highest index + 1. -/
theorem newCSR_guard_readLocalTrust {names : Option (List String)} {recs : List (Record α)}
    {m : CSM α} (h : readLocalTrust names recs = some m) :
    ∃ coos, m = CSM.newCSR (cooDim coos) (cooDim coos) coos false ∧
      (∀ e ∈ coos, e.row < cooDim coos ∧ e.col < cooDim coos) ∧
      cooRowsInRange (cooDim coos) coos false = true := by
  obtain ⟨coos, _, rfl⟩ := readLocalTrust_some h
  exact ⟨coos, rfl, fun e he => lt_cooDim he,
    cooRowsInRange_of_lt (fun e he => (lt_cooDim he).1) false⟩

/-- OpenAPI object-storage / `file:` CSV matrix: as repaired, negative indices are refused, so
    the `NewCSRMatrix(size, size, coos, false)` call is in range. -/
theorem newCSR_guard_oapiCsv {recs : List (Record α)} {m : CSM α}
    (h : oapiCsvMatrix recs = some m) :
    ∃ coos, m = CSM.newCSR (cooDim coos) (cooDim coos) coos false ∧
      (∀ e ∈ coos, e.row < cooDim coos ∧ e.col < cooDim coos) ∧
      cooRowsInRange (cooDim coos) coos false = true := by
  obtain ⟨_, _, coos, _, _, _, rfl⟩ := oapiCsvMatrix_some h
  exact ⟨coos, rfl, fun e he => lt_cooDim he,
    cooRowsInRange_of_lt (fun e he => (lt_cooDim he).1) false⟩

/-- … and a record with a negative index (or a non-integer one, a non-float value, or a field
    count other than 3) is refused instead of reaching `NewCSRMatrix`. -/
theorem oapiCsv_negative_refused {hdr : Record α} {body : List (Record α)}
    (h : ∃ r ∈ body, r.length ≠ 3 ∨ ∃ f0 f1 f2, r = [f0, f1, f2] ∧
      ((∀ i, f0.atoi = some i → i < 0) ∨ (∀ j, f1.atoi = some j → j < 0) ∨ f2.float = none)) :
    oapiCsvMatrix (hdr :: body) = none :=
  oapiCsvMatrix_bad h

/-! ### `Transpose` is only called on matrices whose columns are in range -/

/-- the store invariants hold initially … -/
theorem store_inv_init : OStoreInv ([] : Oapi.Store α) ∧ GInv ({} : Grpc.GState α) :=
  ⟨fun _ h => (by cases h), ginv_init⟩

/-- … every `/local-trust` request of the OpenAPI front-end keeps its invariant … -/
theorem oapi_store_inv {s : Oapi.Store α} (hs : OStoreInv s) (req : Oapi.StoreReq α) :
    OStoreInv (Oapi.handleStore s req).1 :=
  handleStore_inv hs req

/-- the requests of the gRPC front-end -/
inductive GReq (α : Type) where
  | tmCreateNamed (id : String)
  | tmCreateFresh (fresh : String)
  | tmUpdate (id : String) (ts : Nat) (entries : List (Grpc.MEntry α))
  | tmFlush (id : String)
  | tmDelete (id : String)
  | tvCreateNamed (id : String)
  | tvUpdate (id : String) (ts : Nat) (entries : List (Grpc.VEntry α))
  | tvFlush (id : String)
  | tvDelete (id : String)
  | compute (fuel : Nat) (k : Grpc.Consts α) (params : Option (Grpc.Params α))

/-- one state-changing gRPC request -/
def gStep (s : Grpc.GState α) : GReq α → Grpc.GState α × Grpc.Code
  | .tmCreateNamed id => Grpc.tmCreateNamed s id
  | .tmCreateFresh id => Grpc.tmCreateFresh s id
  | .tmUpdate id ts es => Grpc.tmUpdate s id ts es
  | .tmFlush id => Grpc.tmFlush s id
  | .tmDelete id => Grpc.tmDelete s id
  | .tvCreateNamed id => Grpc.tvCreateNamed s id
  | .tvUpdate id ts es => Grpc.tvUpdate s id ts es
  | .tvFlush id => Grpc.tvFlush s id
  | .tvDelete id => Grpc.tvDelete s id
  | .compute fuel k params => Grpc.basicCompute fuel k s params

/-- … and every gRPC request keeps the gRPC invariant (in particular `TrustMatrix.Update`, and
    `BasicCompute`, which stores its results). -/
theorem tm_store_inv {s : Grpc.GState α} (hs : GInv s) (req : GReq α) : GInv (gStep s req).1 := by
  cases req with
  | tmCreateNamed id => exact tmCreateNamed_inv hs id
  | tmCreateFresh id => exact tmCreateFresh_inv hs id
  | tmUpdate id ts es => exact tmUpdate_inv hs id ts es
  | tmFlush id => exact tmFlush_inv hs id
  | tmDelete id => exact tmDelete_inv hs id
  | tvCreateNamed id => exact tvCreateNamed_inv hs id
  | tvUpdate id ts es => exact tvUpdate_inv hs id ts es
  | tvFlush id => exact tvFlush_inv hs id
  | tvDelete id => exact tvDelete_inv hs id
  | compute fuel k params => exact basicCompute_inv hs fuel k params

theorem foldl_invariant {σ ρ : Type} {P : σ → Prop} {f : σ → ρ → σ}
    (hf : ∀ s r, P s → P (f s r)) (l : List ρ) {s : σ} (hs : P s) : P (l.foldl f s) := by
  induction l generalizing s with
  | nil => exact hs
  | cons r l ih => exact ih (hf s r hs)

/-- hence the invariants hold in every reachable state -/
theorem grpc_reachable_inv (reqs : List (GReq α)) :
    GInv (reqs.foldl (fun s r => (gStep s r).1) ({} : Grpc.GState α)) :=
  foldl_invariant (P := GInv) (fun _ r hs => tm_store_inv hs r) reqs ginv_init

theorem oapi_reachable_inv (reqs : List (Oapi.StoreReq α)) :
    OStoreInv (reqs.foldl (fun s r => (Oapi.handleStore s r).1) ([] : Oapi.Store α)) :=
  foldl_invariant (P := OStoreInv) (fun _ r hs => handleStore_inv hs r) reqs store_inv_init.1

/-- OpenAPI: the matrix handed to `basic.Compute` (`eff.c`, which `Compute` transposes) and the
    discounts have all columns in range; the vectors have their indices below their dimension. -/
theorem transpose_guard_oapi {k : Oapi.Consts α} {s : Oapi.Store α} (hs : OStoreInv s)
    {r : Oapi.ComputeReq α} {eff : Oapi.Effective α} (h : Oapi.prepare k s r = some eff) :
    eff.c.colsInRange = true ∧ eff.discounts.colsInRange = true ∧ VecIn eff.p ∧
      ∀ t, eff.t0 = some t → VecIn t := by
  obtain ⟨a, b, c, d, _⟩ := prepare_guard hs h
  exact ⟨a.colsInRange, b.colsInRange, c, d⟩

/-- gRPC: `BasicCompute` runs `compute fuel E.c4 E.p3 E.a E.e (bcOpts q E)` exactly when its
    preparation `bcPrep` succeeds with `E`, and then `E.c4` (and the discounts `E.d4`) have all
    columns in range. -/
theorem transpose_guard_grpc {k : Grpc.Consts α} {s : Grpc.GState α} (hs : GInv s)
    {q : Grpc.Params α} (fuel : Nat) :
    (Grpc.basicCompute fuel k s (some q) =
      match bcPrep k s q with
      | .error c => (s, c)
      | .ok E =>
        match compute fuel E.c4 E.p3 E.a E.e (bcOpts q E) with
        | .error _ => (s, .unavailable)
        | .ok res => (bcWrite s q E res, .ok)) ∧
    ∀ E, bcPrep k s q = .ok E →
      E.c4.colsInRange = true ∧ E.d4.colsInRange = true ∧ VecIn E.p3 ∧ VecIn E.t3 := by
  refine ⟨basicCompute_eq fuel k s q, ?_⟩
  intro E hE
  obtain ⟨a, b, c, d, _⟩ := bcPrep_guard hs hE
  exact ⟨a.colsInRange, b.colsInRange, c, d⟩

/-- The guards along the playground's pipeline, from the two uploads to the canonicalised trust
    and distrust matrices: both are guarded and the distrust columns fit the score vector. -/
theorem playground_pipeline_guard {names : Option (List String)} {ltRecs ptRecs : List (Record α)}
    {lt0 lt1 c d c' d' : CSM α} {pt0 pt1 : Vec α}
    (h5 : readLocalTrust names ltRecs = some lt0) (h6 : readTrustVector names ptRecs = some pt0)
    (h7 : alignDims names lt0 pt0 = some (lt1, pt1)) (h8 : extractDistrust lt1 = .ok (c, d))
    (h9 : canonicalizeLocalTrust c (some (canonicalizeTrustVector pt1)) = .ok c')
    (h10 : canonicalizeLocalTrust d none = .ok d') :
    Guarded c' ∧ Guarded d' ∧ VecIn pt1 ∧ d'.minor = c'.major := by
  obtain ⟨g1, v1⟩ := alignDims_guard h7 (guarded_readLocalTrust h5).1 (vecIn_readTrustVector h6)
  obtain ⟨gc', gd', _, hdm⟩ := guarded_pipeline g1 v1 h8 h9 h10
  exact ⟨gc', gd', v1, hdm⟩

/-- Playground: the matrix `c'` handed to `basic.Compute` has all columns in range. -/
theorem transpose_guard_playground {fuel : Nat} {hundred eps : α} {u : Upload α}
    {rows : List (Fe.Row α)} (h : calculate fuel hundred eps u = some rows) :
    ∃ (hp : Int) (names : Option (List String)) (lt0 : CSM α) (pt0 : Vec α) (lt1 : CSM α)
        (pt1 : Vec α) (c d c' d' : CSM α) (res : ComputeResult α),
      readLocalTrust names u.localTrust = some lt0 ∧ readTrustVector names u.preTrust = some pt0 ∧
      alignDims names lt0 pt0 = some (lt1, pt1) ∧ extractDistrust lt1 = .ok (c, d) ∧
      canonicalizeLocalTrust c (some (canonicalizeTrustVector pt1)) = .ok c' ∧
      canonicalizeLocalTrust d none = .ok d' ∧
      compute fuel c' (canonicalizeTrustVector pt1) (div (ofNat hp.toNat) hundred) eps (pgOpts (div (ofNat hp.toNat) hundred) eps) = .ok res ∧
      c'.colsInRange = true ∧ d'.colsInRange = true ∧ VecIn (canonicalizeTrustVector pt1) := by
  obtain ⟨hp, names, lt0, pt0, lt1, pt1, c, d, c', d', res, _, _, _, _, h5, h6, h7, h8, h9, h10,
    h11, _⟩ := calculate_some h
  obtain ⟨gc, gd, v1, _⟩ := playground_pipeline_guard h5 h6 h7 h8 h9 h10
  exact ⟨hp, names, lt0, pt0, lt1, pt1, c, d, c', d', res, h5, h6, h7, h8, h9, h10, h11,
    gc.colsInRange, gd.colsInRange, vecIn_canonTV v1⟩

/-- Playground: the result loop `entries[e.Index].Score = e.Value` and the flag loop
    `preTrusted[e.Index] = true` stay inside their tables of length `dim`: every stored index of
    the discounted score vector and of the aligned pre-trust is below `dim`. -/
theorem playground_result_guard {fuel : Nat} {hundred eps : α} {u : Upload α}
    {rows : List (Fe.Row α)} (h : calculate fuel hundred eps u = some rows) :
    ∃ (names : Option (List String)) (pt1 t : Vec α),
      rows = sortByScoreDesc (rowsOf names pt1 t) ∧ rows.length = pt1.dim ∧
      VecIn t ∧ t.dim = pt1.dim ∧ VecIn pt1 := by
  obtain ⟨hp, names, lt0, pt0, lt1, pt1, c, d, c', d', res, _, _, _, _, h5, h6, h7, h8, h9, h10,
    h11, hrows⟩ := calculate_some h
  obtain ⟨_, gd, v1, hdm⟩ := playground_pipeline_guard h5 h6 h7 h8 h9 h10
  obtain ⟨hr, hrd⟩ := compute_vecIn h11 (vecIn_canonTV v1) (fun _ h => by cases h)
  -- `basic.Compute` has checked that the pre-trust has the dimension of the matrix
  have hpd : pt1.dim = c'.major :=
    (canonTV_dim pt1).symm.trans (compute_ok_inv _ _ _ _ _ _ _ h11).1.2.2.1
  obtain ⟨dv, dd⟩ := discount_vecIn (t := res.t) (d := d') hr (by rw [hrd, ← hdm]; exact gd.1)
  refine ⟨names, pt1, discountTrustVector res.t d', hrows, ?_, dv, by rw [dd, hrd, hpd], v1⟩
  rw [hrows, (sortByScoreDesc_perm _).length_eq]
  simp [rowsOf]

/-- the guard is implied by the well-formedness used in the algebraic properties (`WFM`, C10) -/
theorem guarded_of_wfm {K : Type} [_root_.Field K] [LinearOrder K] {M : CSM K} (hw : WFM M)
    (hc : HiddenClean M) : Guarded M ∧ M.colsInRange = true := by
  have : Guarded M := ⟨fun r hr e he => (hw.2 r hr).2 e he, hc⟩
  exact ⟨this, this.colsInRange⟩

/-! ### well-formed successes: the answers have their indices in range -/

/-- OpenAPI: a `200` carries a score vector of the effective dimension with all indices in
    range. -/
theorem oapi_scores_in_range {fuel : Nat} {k : Oapi.Consts α} {s : Oapi.Store α}
    (hs : OStoreInv s) {r : Oapi.ComputeReq α} {out : Oapi.ComputeOut α}
    (h : Oapi.computeCore fuel k s r = .ok out) : VecIn out.scores := by
  obtain ⟨eff, res, he, hres, rfl⟩ := OapiL.computeCore_ok h
  obtain ⟨gc, gd, vp, vt, hdm, hot, _⟩ := prepare_guard hs he
  obtain ⟨hr, hrd⟩ := compute_vecIn hres vp (fun t0 ht0 => vt t0 (by rw [← hot]; exact ht0))
  refine (discount_vecIn hr ?_).1
  rw [hrd, ← hdm]
  exact gd.1

/-! ### invalid requests are client errors and leave the state unchanged -/

section oapi
open EtVerif.Oapi

/-- what makes a matrix reference unloadable: an inline matrix with a non-positive size or an
    out-of-range index, an unknown stored id, object storage (not modelled: always an error) or
    an unknown scheme -/
theorem oapi_loadMatrix_invalid (s : Store α) (ref : MatrixRef α)
    (h : (∃ m, ref = .inline m ∧ (m.size ≤ 0 ∨
          ∃ e ∈ m.entries, e.1 < 0 ∨ m.size ≤ e.1 ∨ e.2.1 < 0 ∨ m.size ≤ e.2.1)) ∨
      (∃ id, ref = .stored id ∧ s.get? id = none) ∨
      (∃ u, ref = .objectStorage u) ∨ (∃ sc, ref = .unknown sc)) :
    loadMatrix s ref = none := by
  rcases h with ⟨m, rfl, hm⟩ | ⟨id, rfl, hid⟩ | ⟨u, rfl⟩ | ⟨sc, rfl⟩
  · exact loadInlineMatrix_none hm
  · exact hid
  · rfl
  · rfl

/-- an inline vector with a non-positive size, an out-of-range index or a non-positive value,
    object storage, or an unknown scheme -/
theorem oapi_loadVector_invalid (ref : VectorRef α)
    (h : (∃ v, ref = .inline v ∧ (v.size ≤ 0 ∨
          ∃ e ∈ v.entries, e.1 < 0 ∨ v.size ≤ e.1 ∨ le e.2 zero = true)) ∨
      (∃ u, ref = .objectStorage u) ∨ (∃ sc, ref = .unknown sc)) :
    loadVector ref = none := by
  rcases h with ⟨v, rfl, hv⟩ | ⟨u, rfl⟩ | ⟨sc, rfl⟩
  · exact loadInlineVector_none hv
  · rfl
  · rfl

/-- Every violated constraint of a compute request — an unloadable local trust, pre-trust or
    initial trust, `alpha ∉ [0,1]`, `epsilon ∉ (0,1]`, `flatTail`/`numLeaders`/`maxIterations < 0`,
    `minIterations`/`checkFreq < 1` — stops the request before `basic.Compute` … -/
theorem oapi_prepare_invalid (k : Consts α) (s : Store α) (r : ComputeReq α)
    (h : loadMatrix s r.localTrust = none ∨
      (∃ ref, r.preTrust = some ref ∧ loadVector ref = none) ∨
      (∃ ref, r.initialTrust = some ref ∧ loadVector ref = none) ∨
      (∃ a, r.alpha = some a ∧ (lt a zero = true ∨ lt one a = true)) ∨
      (∃ e, r.epsilon = some e ∧ (le e zero = true ∨ lt one e = true)) ∨
      (∃ x, r.flatTail = some x ∧ x < 0) ∨ (∃ x, r.numLeaders = some x ∧ x < 0) ∨
      (∃ x, r.maxIterations = some x ∧ x < 0) ∨ (∃ x, r.minIterations = some x ∧ x < 1) ∨
      (∃ x, r.checkFreq = some x ∧ x < 1)) :
    prepare k s r = none := by
  apply OapiL.prepare_eq_none_of
  rcases h with h | ⟨ref, hr, hl⟩ | ⟨ref, hr, hl⟩ | ⟨a, hr, hbad⟩ | ⟨e, hr, hbad⟩ | h
  · exact .inl h
  · exact .inr (.inl (OapiL.loadOptVec_eq_none_iff.mpr ⟨ref, hr, hl⟩))
  · exact .inr (.inr (.inl (OapiL.loadOptVec_eq_none_iff.mpr ⟨ref, hr, hl⟩)))
  · exact .inr (.inr (.inr (.inl (OapiL.guardA_of_bad (.inl ⟨a, hr, hbad⟩)))))
  · exact .inr (.inr (.inr (.inl (OapiL.guardA_of_bad (.inr ⟨e, hr, hbad⟩)))))
  · exact .inr (.inr (.inr (.inr (OapiL.guardB_of_bad h))))

/-- … and both compute endpoints answer 400. -/
theorem oapi_invalid_is_400 (fuel : Nat) (k : Consts α) (s : Store α) (r : ComputeReq α)
    (h : prepare k s r = none) :
    handleCompute fuel k s r = .badRequest ∧ handleComputeWithStats fuel k s r = .badRequest :=
  OapiL.badRequest_of_prepare_none fuel h

/-- `PUT /local-trust/{id}` with an unloadable body: 400, store unchanged. -/
theorem oapi_store_invalid (s : Store α) (id : String) (merge : Bool) (body : MatrixRef α)
    (h : loadMatrix s body = none) : handleStore s (.put id merge body) = (s, .badRequest) := by
  simp only [handleStore, h]

/-- `GET` / `HEAD` / `DELETE` of an unknown id: 404, store unchanged. -/
theorem oapi_store_unknown_id (s : Store α) (id : String) (h : s.get? id = none) :
    handleStore s (.get id) = (s, .notFound) ∧ handleStore s (.head id) = (s, .notFound) ∧
      handleStore s (.delete id) = (s, .notFound) := by
  simp only [handleStore, h, Option.isSome_none, Bool.false_eq_true, if_false, and_self]

/-- the compute endpoints never change the store (they do not return one) and every store
    request that is answered 400/404 leaves the store unchanged -/
theorem oapi_refusal_unchanged (s : Store α) (req : StoreReq α)
    (h : (handleStore s req).2 = .badRequest ∨ (handleStore s req).2 = .notFound) :
    (handleStore s req).1 = s := by
  cases req with
  | put id merge body =>
    cases hl : loadMatrix s body with
    | none => rw [oapi_store_invalid s id merge body hl]
    | some c =>
      exfalso
      simp only [handleStore, hl] at h
      cases hg : s.get? id with
      | none => rw [hg] at h; rcases h with h | h <;> cases h
      | some old => rw [hg] at h; cases merge <;> rcases h with h | h <;> cases h
  | get id =>
    simp only [handleStore]
    cases s.get? id <;> rfl
  | head id => rfl
  | delete id =>
    by_cases hs : (s.get? id).isSome = true
    · exfalso
      simp only [handleStore, if_pos hs] at h
      rcases h with h | h <;> cases h
    · simp only [handleStore, if_neg hs]

end oapi

section grpc
open EtVerif.Grpc

/-- `TrustMatrix.Update` with a negative index (all indices being integer literals):
    `InvalidArgument`, state unchanged. -/
theorem grpc_tmUpdate_negative {s : GState α} {id : String} (ts : Nat)
    {entries : List (MEntry α)} {tm : TM α} (hl : lookup s.mats id = some tm)
    (hint : ∀ e ∈ entries, e.truster ≠ none ∧ e.trustee ≠ none)
    (hneg : ∃ e ∈ entries, (∃ i, e.truster = some i ∧ i < 0) ∨ ∃ j, e.trustee = some j ∧ j < 0) :
    tmUpdate s id ts entries = (s, .invalidArgument) :=
  tmUpdate_error hl (parseMEntries_negative hint hneg)

/-- unknown matrix id: `NotFound`, state unchanged -/
theorem grpc_tmUpdate_unknown_id {s : GState α} {id : String} (ts : Nat)
    (entries : List (MEntry α)) (hl : lookup s.mats id = none) :
    tmUpdate s id ts entries = (s, .notFound) ∧ tmFlush s id = (s, .notFound) ∧
      tmDelete s id = (s, .notFound) ∧ tmGet s id = none := by
  refine ⟨tmUpdate_notFound ts entries hl, ?_, ?_, ?_⟩
  · unfold tmFlush; rw [hl]
  · unfold tmDelete; rw [hl]; rfl
  · unfold tmGet; rw [hl]; rfl

/-- whatever `Update` refuses, it leaves the state unchanged -/
theorem grpc_tmUpdate_refusal_unchanged (s : GState α) (id : String) (ts : Nat)
    (entries : List (MEntry α)) (h : (tmUpdate s id ts entries).2 ≠ .ok) :
    (tmUpdate s id ts entries).1 = s := by
  cases hl : lookup s.mats id with
  | none => rw [tmUpdate_notFound ts entries hl]
  | some tm =>
    cases hp : parseMEntries entries with
    | error c => rw [tmUpdate_error hl hp]
    | ok coos => rw [tmUpdate_ok hl hp] at h; exact absurd rfl h

theorem grpc_tvUpdate_negative {s : GState α} {id : String} (ts : Nat)
    {entries : List (VEntry α)} {tv : TV α} (hl : lookup s.vecs id = some tv)
    (hint : ∀ e ∈ entries, e.trustee ≠ none)
    (hneg : ∃ e ∈ entries, ∃ i, e.trustee = some i ∧ i < 0) :
    tvUpdate s id ts entries = (s, .invalidArgument) :=
  tvUpdate_error hl (parseVEntries_negative hint hneg)

theorem grpc_tvUpdate_unknown_id {s : GState α} {id : String} (ts : Nat)
    (entries : List (VEntry α)) (hl : lookup s.vecs id = none) :
    tvUpdate s id ts entries = (s, .notFound) ∧ tvFlush s id = (s, .notFound) ∧
      tvDelete s id = (s, .notFound) ∧ tvGet s id = none := by
  refine ⟨tvUpdate_notFound ts entries hl, ?_, ?_, ?_⟩
  · unfold tvFlush; rw [hl]
  · unfold tvDelete; rw [hl]; rfl
  · unfold tvGet; rw [hl]; rfl

theorem grpc_tvUpdate_refusal_unchanged (s : GState α) (id : String) (ts : Nat)
    (entries : List (VEntry α)) (h : (tvUpdate s id ts entries).2 ≠ .ok) :
    (tvUpdate s id ts entries).1 = s := by
  cases hl : lookup s.vecs id with
  | none => rw [tvUpdate_notFound ts entries hl]
  | some tv =>
    cases hp : parseVEntries entries with
    | error c => rw [tvUpdate_error hl hp]
    | ok es => rw [tvUpdate_ok hl hp] at h; exact absurd rfl h

/-- `BasicCompute` without a `params` message: `InvalidArgument`, state unchanged. -/
theorem grpc_compute_no_params (fuel : Nat) (k : Grpc.Consts α) (s : GState α) :
    basicCompute fuel k s none = (s, .invalidArgument) := rfl

/-- `BasicCompute` with `alpha ∉ [0,1]` or `epsilon ∉ (0,1]` (all referenced objects exist):
    `InvalidArgument`, state unchanged. -/
theorem grpc_compute_bad_params (fuel : Nat) (k : Grpc.Consts α) (s : GState α) (q : Params α)
    {ltm : TM α} {gt : TV α} (h1 : lookup s.mats q.localTrustId = some ltm)
    (hsq : ltm.m.major = ltm.m.minor)
    (h2 : q.preTrustId = "" ∨ ∃ pt, lookup s.vecs q.preTrustId = some pt)
    (h3 : lookup s.vecs q.globalTrustId = some gt)
    (hbad : (∃ a, q.alpha = some a ∧ (lt a zero = true ∨ lt one a = true)) ∨
      ∃ e, q.epsilon = some e ∧ (le e zero = true ∨ lt one e = true)) :
    basicCompute fuel k s (some q) = (s, .invalidArgument) := by
  have hok : bcParamsOK q = false := OapiL.paramsOK_false hbad
  obtain ⟨pre, hpre⟩ : ∃ pre, bcLoadPre s q = some pre := by
    cases hp : bcLoadPre s q with
    | some pre => exact ⟨pre, rfl⟩
    | none =>
      obtain ⟨hne, hl⟩ := bcLoadPre_eq_none_iff.mp hp
      obtain ⟨pt, h2⟩ := h2.resolve_left hne
      rw [h2] at hl; cases hl
  rw [basicCompute_eq, bcPrep_of_loaded k h1 hsq hpre h3, hok]
  rfl

/-- `BasicCompute` naming an unknown local trust / pre-trust / global trust: `NotFound`, state
    unchanged. -/
theorem grpc_compute_unknown_id (fuel : Nat) (k : Grpc.Consts α) (s : GState α) (q : Params α)
    (h : lookup s.mats q.localTrustId = none ∨
      (∃ ltm, lookup s.mats q.localTrustId = some ltm ∧ ltm.m.major = ltm.m.minor ∧
        ((q.preTrustId ≠ "" ∧ lookup s.vecs q.preTrustId = none) ∨
          lookup s.vecs q.globalTrustId = none))) :
    basicCompute fuel k s (some q) = (s, .notFound) := by
  rw [basicCompute_eq, bcPrep_notFound k (h.imp_right fun ⟨ltm, h1, hsq, h⟩ =>
    ⟨ltm, h1, hsq, h.imp_left bcLoadPre_eq_none_iff.mpr⟩)]

/-- whatever `BasicCompute` refuses (or fails at), it leaves the state unchanged -/
theorem grpc_compute_refusal_unchanged (fuel : Nat) (k : Grpc.Consts α) (s : GState α)
    (params : Option (Params α)) (h : (basicCompute fuel k s params).2 ≠ .ok) :
    (basicCompute fuel k s params).1 = s :=
  basicCompute_unchanged fuel k s params h

end grpc

/-- CSV front-ends: the refusals are C19 `cli_malformed`, `reader_malformed_localTrust`,
    `reader_malformed_trustVector`, `readPeerNames_malformed` and C20 `unusable_is_400`; they are
    pure functions (no state).  Collected here for the CLI and the playground: -/
theorem fe_invalid_is_client_error (raw hasHeader : Bool) (lt : List (Record α))
    (pt it : Option (List (Record α))) (fuel : Nat) (hundred eps : α) (u : Upload α) :
    ((C19.BadMatrixFile raw hasHeader lt ∨
        (∃ recs, pt = some recs ∧ C19.BadVectorFile raw hasHeader recs) ∨
        (∃ recs, it = some recs ∧ C19.BadVectorFile raw hasHeader recs)) →
      cliBuildRequest raw hasHeader lt pt it = none) ∧
    ((u.hunchPercent = none ∨ (∃ hp, u.hunchPercent = some hp ∧ (hp < 0 ∨ 100 < hp)) ∨
        (∃ recs, u.names = some recs ∧ readPeerNames recs [] = none) ∨
        (∃ names, loadNames u = some names ∧
          (readLocalTrust names u.localTrust = none ∨ readTrustVector names u.preTrust = none ∨
            ∃ ns lt0 pt0, names = some ns ∧ readLocalTrust names u.localTrust = some lt0 ∧
              readTrustVector names u.preTrust = some pt0 ∧
              (ns.length < lt0.major ∨ ns.length < pt0.dim)))) →
      calculate fuel hundred eps u = none) :=
  ⟨C19.cli_malformed raw hasHeader lt pt it, C20.unusable_is_400 fuel hundred eps u⟩

/-! ### bounded computation -/

/-- OpenAPI: the `basic.Compute` run behind either endpoint performs at most `fuel` iterations
    and, when a positive `maxIterations` is requested, at most that many. -/
theorem bounded_computation_oapi {fuel : Nat} {k : Oapi.Consts α} {s : Oapi.Store α}
    {r : Oapi.ComputeReq α} {out : Oapi.ComputeOut α} (h : Oapi.computeCore fuel k s r = .ok out) :
    out.iters ≤ fuel ∧ ∀ m : Int, r.maxIterations = some m → 0 < m → (out.iters : Int) ≤ m := by
  obtain ⟨eff, res, he, hres, rfl⟩ := OapiL.computeCore_ok h
  obtain ⟨_, _, hmax, hfuel, _⟩ := C05.compute_spec _ _ _ _ _ _ _ hres
  refine ⟨hfuel, ?_⟩
  intro m hm hpos
  obtain ⟨_, _, _, _, _, _, _, _, hf⟩ := prepare_some he
  obtain ⟨_, _, _, _, _, _, _, _, hmx, _⟩ := OapiL.finish_some hf
  rw [hmx, hm] at hmax
  exact hmax (Int.ne_of_gt hpos)

/-- gRPC: likewise for the `compute` run by `BasicCompute` (`max_iterations = 0` = unlimited,
    i.e. bounded by the fuel only). -/
theorem bounded_computation_grpc {fuel : Nat} {k : Grpc.Consts α} {s : Grpc.GState α}
    {q : Grpc.Params α} {E : BcEff α} {res : ComputeResult α} (_hE : bcPrep k s q = .ok E)
    (h : compute fuel E.c4 E.p3 E.a E.e (bcOpts q E) = .ok res) :
    res.iters ≤ fuel ∧ (q.maxIterations ≠ 0 → res.iters ≤ q.maxIterations) := by
  obtain ⟨_, _, hmax, hfuel, _⟩ := C05.compute_spec _ _ _ _ _ _ _ h
  refine ⟨hfuel, ?_⟩
  intro hne
  simp only [bcOpts, hne, if_false, Option.getD_some] at hmax
  have := hmax (by omega)
  omega

/-- `iterationBound` never exceeds its own cap … -/
theorem pgIterBoundAux_le (om e : α) : ∀ (f : Nat) (x : α) (n : Nat), n ≤ 65536 →
    pgIterBoundAux om e f x n ≤ 65536 := by
  intro f
  induction f with
  | zero => intro x n h; simpa [pgIterBoundAux] using h
  | succ f ih =>
    intro x n h
    unfold pgIterBoundAux
    split
    · rename_i hc
      have hn : n < 65536 := by
        have := (Bool.and_eq_true _ _).mp hc
        exact of_decide_eq_true this.2
      exact ih _ _ (by omega)
    · exact h

/-- … and never falls below its start value. -/
theorem pgIterBoundAux_ge (om e : α) : ∀ (f : Nat) (x : α) (n : Nat), n ≤ pgIterBoundAux om e f x n := by
  intro f
  induction f with
  | zero => intro x n; simp [pgIterBoundAux]
  | succ f ih =>
    intro x n
    unfold pgIterBoundAux
    split
    · exact Nat.le_trans (Nat.le_succ n) (ih _ _)
    · exact Nat.le_refl n

theorem pgIterBound_le (a e : α) : pgIterBound a e ≤ 65536 :=
  pgIterBoundAux_le _ _ _ _ _ (by decide)

theorem pgIterBound_ge (a e : α) : 2 ≤ pgIterBound a e :=
  pgIterBoundAux_ge _ _ _ _ _

/-- Playground (as repaired): the `compute` run by `calculate` carries `WithMaxIterations(iterationBound(a, e))`
    and therefore performs at most `iterationBound(a, e) ≤ 65536` iterations — whatever the inputs, whatever the
    rounding noise does to the delta, and independently of the model's fuel. -/
theorem bounded_computation_playground {fuel : Nat} {c : CSM α} {p : Vec α} {a e : α}
    {res : ComputeResult α} (h : compute fuel c p a e (pgOpts a e) = .ok res) :
    res.iters ≤ pgIterBound a e ∧ res.iters ≤ 65536 := by
  have hm := (C05.compute_spec _ _ _ _ _ _ _ h).2.2.1
  have h2 := pgIterBound_ge a e
  have hle := pgIterBound_le a e
  simp only [pgOpts, Option.getD_some] at hm
  have := hm (by omega)
  omega

/-! ### non-vacuity: concrete requests at `α := Rat` (executable instance `ratScalar`) -/

section examples
attribute [local instance 10000] ratScalar

private def exLT : Oapi.IMatrix Rat := ⟨3, [(0, 1, 1), (0, 2, 1), (1, 2, 100), (2, 0, -1)]⟩
private def exPT : Oapi.IVector Rat := ⟨4, [(0, 1/2), (3, 1)]⟩
private def exK : Oapi.Consts Rat := ⟨1/2, 1/1000000⟩
private def exReq : Oapi.ComputeReq Rat :=
  { localTrust := .inline exLT, preTrust := some (.inline exPT), epsilon := some (1/100),
    maxIterations := some 5 }

/-- OpenAPI: a valid request is prepared, the matrix handed to `Compute` passes the executable
    guard, and the run is answered 200 within the iteration bound -/
example : (Oapi.prepare exK [] exReq).map (fun eff => (eff.c.colsInRange, eff.c.major, eff.c.minor)) =
    some (true, 4, 4) := by decide +kernel
example : (match Oapi.computeCore 100 exK [] exReq with
    | .ok out => some (decide (out.iters ≤ 5), out.scores.dim) | _ => none) = some (true, 4) := by
  decide +kernel

/-- OpenAPI: invalid requests — negative index, index ≥ size, size 0, alpha > 1,
    minIterations 0 — are answered 400 by both endpoints -/
example : Oapi.loadInlineMatrix (⟨3, [(0, -1, 1)]⟩ : Oapi.IMatrix Rat) = none := by decide +kernel
example : Oapi.prepare exK [] { exReq with localTrust := .inline ⟨3, [(0, 3, 1)]⟩ } = none :=
  oapi_prepare_invalid _ _ _ (.inl (oapi_loadMatrix_invalid _ _
    (.inl ⟨_, rfl, .inr ⟨(0, 3, 1), by simp, by decide⟩⟩)))
example : Oapi.prepare exK [] { exReq with localTrust := .inline ⟨0, []⟩ } = none :=
  oapi_prepare_invalid _ _ _ (.inl (oapi_loadMatrix_invalid _ _ (.inl ⟨_, rfl, .inl (by decide)⟩)))
example : Oapi.prepare exK [] { exReq with alpha := some 2 } = none :=
  oapi_prepare_invalid _ _ _ (.inr (.inr (.inr (.inl ⟨2, rfl, .inr (by decide +kernel)⟩))))
example : (match Oapi.handleCompute 100 exK [] { exReq with minIterations := some 0 } with
    | .badRequest => true | _ => false) = true := by decide +kernel
/-- PUT with a bad body: 400, store unchanged -/
example : (Oapi.handleStore ([] : Oapi.Store Rat) (.put "m" false (.stored "nope"))).1 = [] :=
  by rw [oapi_store_invalid _ _ _ _ rfl]

/-- gRPC: create, update, compute; the invariant holds along the way (`grpc_reachable_inv`) -/
private def gReqs : List (GReq Rat) :=
  [.tmCreateNamed "lt", .tvCreateNamed "gt",
   .tmUpdate "lt" 1 [⟨some 0, some 1, 1⟩, ⟨some 1, some 0, 1⟩, ⟨some 1, some 2, -1⟩],
   .tvUpdate "gt" 1 [⟨some 0, 1⟩],
   .compute 100 ⟨1/2, 1/1000⟩ (some ⟨"lt", "", none, some (1/100), "gt", 0, ""⟩)]

private def codes (s : Grpc.GState Rat) : List (GReq Rat) → List Grpc.Code
  | [] => []
  | r :: rs => (gStep s r).2 :: codes (gStep s r).1 rs

example : codes {} gReqs = [.ok, .ok, .ok, .ok, .ok] := by decide +kernel

/-- gRPC refusals: negative index, unknown id, no params, alpha out of range -/
example : (gStep ((gReqs.take 2).foldl (fun s r => (gStep s r).1) {})
    (.tmUpdate "lt" 2 [⟨some 0, some (-1), (1 : Rat)⟩])).2 = .invalidArgument := by decide +kernel
example : (gStep ({} : Grpc.GState Rat) (.tmUpdate "nope" 2 [])).2 = .notFound := by decide +kernel
example : (gStep ({} : Grpc.GState Rat) (.compute 10 ⟨1/2, 1/1000⟩ none)).2 = .invalidArgument := by
  decide +kernel
example : (gStep ((gReqs.take 4).foldl (fun s r => (gStep s r).1) {})
    (.compute 100 ⟨1/2, 1/1000⟩ (some ⟨"lt", "", some 2, none, "gt", 0, ""⟩))).2
    = .invalidArgument := by decide +kernel

/-- object-storage CSV with a negative index is refused -/
example : oapiCsvMatrix ([[⟨"i", none, none, none⟩, ⟨"j", none, none, none⟩, ⟨"v", none, none, none⟩],
    [⟨"-1", some (-1), some (-1), none⟩, ⟨"0", some 0, some 0, none⟩, ⟨"1", some 1, some 1, some 1⟩]] :
      List (Record Rat)) = none := by decide +kernel

end examples

end EtVerif.C15
