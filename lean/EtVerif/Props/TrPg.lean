/-
  TrPg — the CURRENT SOURCE of the playground's `iterationBound` (internal/playground/engine.go, the float loop of
  repair e85c9dc; translated by tools/go2lean on every run) computes exactly the model's `pgIterBound`, the count
  `Props/C15.bounded_computation_playground` and `Props/C20` rest on — for every `Scalar` (so whatever the floats
  do: NaN, alpha 0 or 1, negative epsilon) and every fuel ≥ 65536, hence the Go loop terminates.
  Property theorems only.
-/
import EtVerif.Proofs.TrPlayground

namespace EtVerif.TrPg
open EtVerif EtVerif.GoSem EtVerif.Gen EtVerif.Tr Scalar

variable {α : Type} [Scalar α]

set_option linter.unusedSectionVars false

/-- Go `iterationBound(a, e)` = the model's `pgIterBound a e`. -/
theorem iterationBound_refines (fuel : Nat) (a e : α) (hf : 65536 ≤ fuel) :
    (Gen.iterationBound fuel a e).map (fun r => r.2) = .ok ((Fe.pgIterBound a e : Nat) : Int) :=
  Tr.iterationBound_refines fuel a e (Nat.le_trans (by decide) hf)

/-- … and the count it hands to `WithMaxIterations` lies between 2 and 65536, for all inputs. -/
theorem iterationBound_range (fuel : Nat) (a e : α) (hf : 65536 ≤ fuel) :
    ∃ st n, Gen.iterationBound fuel a e = .ok (st, n) ∧ 2 ≤ n ∧ n ≤ 65536 :=
  Tr.iterationBound_range fuel a e (Nat.le_trans (by decide) hf)

end EtVerif.TrPg
