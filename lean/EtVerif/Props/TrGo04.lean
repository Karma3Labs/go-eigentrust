/-
  TrGo04 — C04 (canonicalisation) stated about the translated Go code: the laws Props/C04 proves about the
  model's `canonicalize` / `canonicalizeTrustVector` / `canonicalizeLocalTrust`, restated about the values the
  CURRENT SOURCE of `basic.Canonicalize`, `basic.CanonicalizeTrustVector`, `basic.CanonicalizeLocalTrust`
  (Gen/Translated.lean, regenerated by tools/go2lean on every run) returns — compositions of the refinements
  of Props/TrC04 (and Props/TrC08 for the front-end pipeline) with the theorems of Props/C04.
  Property theorems only.
-/
import EtVerif.Props.TrC04
import EtVerif.Props.TrC08
import EtVerif.Props.C04
import EtVerif.Props.C08

namespace EtVerif.TrGo04
open EtVerif EtVerif.GoSem EtVerif.Gen EtVerif.Tr EtVerif.Canon Scalar

set_option linter.unusedSectionVars false

/-! ### transport lemmas (any `Scalar` instance) -/

section generic
variable {α : Type} [Scalar α]

/-- Whenever the model accepts the entries, the Go `Canonicalize` returns (no panic) a `nil` error and has
    overwritten the slice it was given with the model's result. -/
theorem go_canonicalize_of_ok (es es' : List (Entry α)) (h : canonicalize es = .ok es') :
    ∃ st, Gen.Canonicalize (toGs es) = .ok (st, none) ∧ st.entries = toGs es' := by
  have hr := TrC04.canonicalize_refines es
  rw [h] at hr
  exact map_pair_eq_ok hr

/-- Whenever the model rejects the entries, the Go `Canonicalize` returns (no panic) `ErrZeroSum` and the slice
    it was given is untouched. -/
theorem go_canonicalize_of_error (es : List (Entry α)) (e : SErr) (h : canonicalize es = .error e) :
    ∃ st, Gen.Canonicalize (toGs es) = .ok (st, (some ⟨"ErrZeroSum"⟩ : Option GoError)) ∧
      st.entries = toGs es := by
  have hr := TrC04.canonicalize_refines es
  rw [h] at hr
  exact map_pair_eq_ok hr

/-- Two inputs on which the model agrees: the Go `Canonicalize` returns the same error value on both, and
    when that is `nil` it leaves the same entries in both slices. -/
theorem go_canonicalize_congr (es1 es2 : List (Entry α)) (h : canonicalize es1 = canonicalize es2) :
    ∃ st1 st2 err, Gen.Canonicalize (toGs es1) = .ok (st1, err) ∧
      Gen.Canonicalize (toGs es2) = .ok (st2, err) ∧ (err = none → st1.entries = st2.entries) := by
  cases h2 : canonicalize es2 with
  | ok es' =>
    rw [h2] at h
    obtain ⟨st1, ha, hb⟩ := go_canonicalize_of_ok es1 es' h
    obtain ⟨st2, hc, hd⟩ := go_canonicalize_of_ok es2 es' h2
    exact ⟨st1, st2, none, ha, hc, fun _ => by rw [hb, hd]⟩
  | error e =>
    rw [h2] at h
    obtain ⟨st1, ha, _⟩ := go_canonicalize_of_error es1 e h
    obtain ⟨st2, hc, _⟩ := go_canonicalize_of_error es2 e h2
    exact ⟨st1, st2, _, ha, hc, fun hn => by cases hn⟩

/-- (C04.canonicalize_pow2_equivariant: the bit-level clause, any scalar type — in particular IEEE doubles.)
    If `σ` commutes with `add`, `sub`, preserves the magnitude comparison of the compensated summer, fixes zero,
    preserves the zero test and cancels in quotients (multiplication by a power of two without
    overflow/underflow), then the Go `Canonicalize` returns on the `σ`-image of a slice the very same error
    value as on the slice itself, and — when that is `nil` — leaves the very same entries. -/
theorem go_canonicalize_pow2_equivariant (σ : α → α)
    (hadd : ∀ x y, σ (Scalar.add x y) = Scalar.add (σ x) (σ y))
    (hsub : ∀ x y, σ (Scalar.sub x y) = Scalar.sub (σ x) (σ y))
    (hlt : ∀ x y, Scalar.lt (Scalar.abs (σ x)) (Scalar.abs (σ y))
      = Scalar.lt (Scalar.abs x) (Scalar.abs y))
    (hzero : σ (Scalar.zero : α) = Scalar.zero)
    (hisZero : ∀ x, Scalar.isZero (σ x) = Scalar.isZero x)
    (hdiv : ∀ x s, Scalar.isZero s = false → Scalar.div (σ x) (σ s) = Scalar.div x s)
    (es : List (Entry α)) :
    ∃ st1 st2 err, Gen.Canonicalize (toGs (es.map fun e => ⟨e.idx, σ e.val⟩)) = .ok (st1, err) ∧
      Gen.Canonicalize (toGs es) = .ok (st2, err) ∧ (err = none → st1.entries = st2.entries) :=
  go_canonicalize_congr _ _ (C04.canonicalize_pow2_equivariant σ hadd hsub hlt hzero hisZero hdiv es)

/-- The Go `CanonicalizeTrustVector` returns (no panic; it has no error result) and has overwritten the vector
    it was given with the model's `canonicalizeTrustVector`. -/
theorem go_canonTV (v : Vec α) :
    ∃ st, Gen.CanonicalizeTrustVector (toGV v) = .ok (st, ()) ∧
      st.v = toGV (canonicalizeTrustVector v) := by
  obtain ⟨r, hx, hout⟩ := map_eq_ok (TrC04.canonicalizeTrustVector_refines v)
  exact ⟨r.1, by rw [hx], hout⟩

/-- Whenever the model accepts the matrix, the Go `CanonicalizeLocalTrust` returns (no panic, within the fuel)
    a `nil` error and has overwritten the matrix it was given with the model's result. -/
theorem go_canonLT_of_ok (fuel : Nat) (m m' : CSM α) (p : Option (Vec α))
    (hrows : m.rows.length = m.major) (hf : m.major ≤ fuel)
    (h : canonicalizeLocalTrust m p = .ok m') :
    ∃ st, Gen.CanonicalizeLocalTrust fuel (toGM m) (p.map toGV) = .ok (st, none) ∧
      st.localTrust = toGM m' := by
  have hr := TrC04.canonicalizeLocalTrust_refines fuel m p hrows hf
  rw [h] at hr
  exact map_pair_eq_ok hr

/-- Whenever the model rejects the matrix, the Go `CanonicalizeLocalTrust` returns (no panic, within the fuel)
    `ErrDimensionMismatch` and the matrix it was given is untouched. -/
theorem go_canonLT_of_error (fuel : Nat) (m : CSM α) (p : Option (Vec α)) (e : SErr)
    (hrows : m.rows.length = m.major) (hf : m.major ≤ fuel)
    (h : canonicalizeLocalTrust m p = .error e) :
    ∃ st, Gen.CanonicalizeLocalTrust fuel (toGM m) (p.map toGV) =
        .ok (st, (some ⟨"ErrDimensionMismatch"⟩ : Option GoError)) ∧
      st.localTrust = toGM m := by
  have hr := TrC04.canonicalizeLocalTrust_refines fuel m p hrows hf
  rw [h] at hr
  exact map_pair_eq_ok hr

/-- Two matrices on which the model agrees: the Go `CanonicalizeLocalTrust` returns the same error value on
    both, and when that is `nil` it leaves the same matrix in both. -/
theorem go_canonLT_congr (fuel : Nat) (m1 m2 : CSM α) (p : Option (Vec α))
    (hrows1 : m1.rows.length = m1.major) (hf1 : m1.major ≤ fuel)
    (hrows2 : m2.rows.length = m2.major) (hf2 : m2.major ≤ fuel)
    (h : canonicalizeLocalTrust m1 p = canonicalizeLocalTrust m2 p) :
    ∃ st1 st2 err, Gen.CanonicalizeLocalTrust fuel (toGM m1) (p.map toGV) = .ok (st1, err) ∧
      Gen.CanonicalizeLocalTrust fuel (toGM m2) (p.map toGV) = .ok (st2, err) ∧
      (err = none → st1.localTrust = st2.localTrust) := by
  cases h2 : canonicalizeLocalTrust m2 p with
  | ok m' =>
    rw [h2] at h
    obtain ⟨st1, ha, hb⟩ := go_canonLT_of_ok fuel m1 m' p hrows1 hf1 h
    obtain ⟨st2, hc, hd⟩ := go_canonLT_of_ok fuel m2 m' p hrows2 hf2 h2
    exact ⟨st1, st2, none, ha, hc, fun _ => by rw [hb, hd]⟩
  | error e =>
    rw [h2] at h
    obtain ⟨st1, ha, _⟩ := go_canonLT_of_error fuel m1 p e hrows1 hf1 h
    obtain ⟨st2, hc, _⟩ := go_canonLT_of_error fuel m2 p e hrows2 hf2 h2
    exact ⟨st1, st2, _, ha, hc, fun hn => by cases hn⟩

/-- (used for the pipeline only; the C08 statements about `ExtractDistrust` are in Props/TrGo08.) -/
private theorem go_extract_of_ok (fuel : Nat) (L P D : CSM α) (hrows : L.rows.length = L.major)
    (hf : L.major ≤ fuel) (h : extractDistrust L = .ok (P, D)) :
    ∃ st, Gen.ExtractDistrust fuel (toGM L) = .ok (st, (toGM D, none)) ∧ st.localTrust = toGM P := by
  have hr := TrC08.extractDistrust_refines fuel L hrows hf
  rw [h] at hr
  exact map_pair_eq_ok hr

end generic

/-! ### the C04 laws, over an ordered field -/

variable {K : Type} [Field K] [LinearOrder K]

/-! #### Canonicalize -/

/-- (C04.canonicalize_sum_one / canonicalize_ok_iff) On a slice whose values do not sum to zero the Go
    `Canonicalize` returns (no panic) a `nil` error and leaves in the slice entries with the same index
    sequence, each value divided by the sum, summing to exactly one. -/
theorem go_canonicalize_sum_one (es : List (Entry K)) (h : (es.map (·.val)).sum ≠ 0) :
    ∃ st es', Gen.Canonicalize (toGs es) = .ok (st, none) ∧ st.entries = toGs es' ∧
      es' = (es.map fun e => ⟨e.idx, e.val / (es.map (·.val)).sum⟩) ∧
      (es'.map (·.val)).sum = 1 ∧ es'.map (·.idx) = es.map (·.idx) := by
  obtain ⟨es', h1, h2, h3⟩ := C04.canonicalize_sum_one es h
  obtain ⟨st, ha, hb⟩ := go_canonicalize_of_ok es es' h1
  exact ⟨st, es', ha, hb, ((C04.canonicalize_ok_iff es es').mp h1).2, h2, h3⟩

/-- (C04.canonicalize_ratio, canonicalize_den) …and the ratios between the entries are those of the input:
    `v'_a * v_b = v'_b * v_a` for all positions `a`, `b`; in dense form every coordinate is the input's divided
    by the sum. -/
theorem go_canonicalize_ratio (es : List (Entry K)) (h : (es.map (·.val)).sum ≠ 0) :
    ∃ st es', Gen.Canonicalize (toGs es) = .ok (st, none) ∧ st.entries = toGs es' ∧
      (∃ hl : es'.length = es.length, ∀ (a b : Nat) (ha : a < es.length) (hb : b < es.length),
        (es'[a]'(hl ▸ ha)).val * es[b].val = (es'[b]'(hl ▸ hb)).val * es[a].val) ∧
      ∀ i, denE es' i = denE es i / (es.map (·.val)).sum := by
  obtain ⟨es', h1, _, _⟩ := C04.canonicalize_sum_one es h
  obtain ⟨st, ha, hb⟩ := go_canonicalize_of_ok es es' h1
  exact ⟨st, es', ha, hb, C04.canonicalize_ratio es es' h1, fun i => C04.canonicalize_den es es' h1 i⟩

/-- (C04.canonicalize_zero_sum) On a slice whose values sum to zero (in particular the empty slice) the Go
    `Canonicalize` returns (no panic) `ErrZeroSum` and the slice is untouched. -/
theorem go_canonicalize_zero_sum (es : List (Entry K)) (h : (es.map (·.val)).sum = 0) :
    ∃ st, Gen.Canonicalize (toGs es) = .ok (st, (some ⟨"ErrZeroSum"⟩ : Option GoError)) ∧
      st.entries = toGs es :=
  go_canonicalize_of_error es _ (C04.canonicalize_zero_sum es h)

/-- (C04.canonicalize_ok_iff, both directions) The Go `Canonicalize` always returns; its error is `nil`
    exactly when the sum is non-zero (then every value has been divided by the sum) and `ErrZeroSum`
    exactly when the sum is zero (then the slice is untouched). -/
theorem go_canonicalize_total (es : List (Entry K)) :
    ∃ st err, Gen.Canonicalize (toGs es) = .ok (st, err) ∧
      (((es.map (·.val)).sum ≠ 0 ∧ err = none ∧
          st.entries = toGs (es.map fun e => ⟨e.idx, e.val / (es.map (·.val)).sum⟩)) ∨
       ((es.map (·.val)).sum = 0 ∧ err = (some ⟨"ErrZeroSum"⟩ : Option GoError) ∧
          st.entries = toGs es)) := by
  by_cases h : (es.map (·.val)).sum = 0
  · obtain ⟨st, ha, hb⟩ := go_canonicalize_zero_sum es h
    exact ⟨st, _, ha, Or.inr ⟨h, rfl, hb⟩⟩
  · obtain ⟨st, es', ha, hb, hc, _⟩ := go_canonicalize_sum_one es h
    exact ⟨st, _, ha, Or.inl ⟨h, rfl, hc ▸ hb⟩⟩

/-- (C04.canonicalize_scale) Multiplying all values by a non-zero constant changes neither the error value the
    Go `Canonicalize` returns nor — when that is `nil` — the entries it leaves in the slice. -/
theorem go_canonicalize_scale (es : List (Entry K)) (c : K) (hc : c ≠ 0) :
    ∃ st1 st2 err, Gen.Canonicalize (toGs (es.map fun e => ⟨e.idx, c * e.val⟩)) = .ok (st1, err) ∧
      Gen.Canonicalize (toGs es) = .ok (st2, err) ∧ (err = none → st1.entries = st2.entries) :=
  go_canonicalize_congr _ _ (C04.canonicalize_scale es c hc)

/-! #### CanonicalizeTrustVector -/

/-- (C04.canonTV_uniform, uniform_entries, uniform_sum_one) On a vector whose values sum to zero the Go
    `CanonicalizeTrustVector` returns (no panic) and has replaced the vector by the uniform one of the same
    dimension: indices `0, …, dim-1`, every value `1/dim`, summing to one when `dim > 0`. -/
theorem go_canonTV_uniform [IsStrictOrderedRing K] (v : Vec K)
    (h : (v.entries.map (·.val)).sum = 0) :
    ∃ st, Gen.CanonicalizeTrustVector (toGV v) = .ok (st, ()) ∧
      st.v = toGV (⟨v.dim, uniformEntries v.dim⟩ : Vec K) ∧
      (uniformEntries v.dim : List (Entry K)).map (·.idx) = List.range v.dim ∧
      (∀ e ∈ (uniformEntries v.dim : List (Entry K)), e.val = 1 / (v.dim : K)) ∧
      (0 < v.dim → ((uniformEntries v.dim : List (Entry K)).map (·.val)).sum = 1) := by
  obtain ⟨st, ha, hb⟩ := go_canonTV v
  rw [C04.canonTV_uniform v h] at hb
  exact ⟨st, ha, hb, (C04.uniform_entries v.dim).1, (C04.uniform_entries v.dim).2,
    fun hd => C04.uniform_sum_one v.dim hd⟩

/-- (C04.canonTV_nonzero) On a vector whose values do not sum to zero the Go `CanonicalizeTrustVector` returns
    (no panic) and has replaced the entries by the canonicalised ones: same dimension, same indices, every
    value divided by the sum, summing to one. -/
theorem go_canonTV_nonzero (v : Vec K) (h : (v.entries.map (·.val)).sum ≠ 0) :
    ∃ st es', Gen.CanonicalizeTrustVector (toGV v) = .ok (st, ()) ∧
      st.v = toGV (⟨v.dim, es'⟩ : Vec K) ∧
      es' = (v.entries.map fun e => ⟨e.idx, e.val / (v.entries.map (·.val)).sum⟩) ∧
      (es'.map (·.val)).sum = 1 ∧ es'.map (·.idx) = v.entries.map (·.idx) := by
  obtain ⟨es', h1, h2, h3, h4⟩ := C04.canonTV_nonzero v h
  obtain ⟨st, ha, hb⟩ := go_canonTV v
  rw [h2] at hb
  exact ⟨st, es', ha, hb, ((C04.canonicalize_ok_iff _ _).mp h1).2, h3, h4⟩

/-- (C04.canonTV_dim, canonTV_sum_one, canonTV_wf) In every case the vector the Go `CanonicalizeTrustVector`
    leaves has the dimension of the input, sums to one when that dimension is positive, and is well-formed
    (indices strictly increasing and below the dimension) when the input was. -/
theorem go_canonTV_sum_one [IsStrictOrderedRing K] (v : Vec K) :
    ∃ st out, Gen.CanonicalizeTrustVector (toGV v) = .ok (st, ()) ∧ st.v = toGV out ∧
      out.dim = v.dim ∧ (0 < v.dim → (out.entries.map (·.val)).sum = 1) ∧
      (WF v.dim v.entries → WF out.dim out.entries) := by
  obtain ⟨st, ha, hb⟩ := go_canonTV v
  exact ⟨st, canonicalizeTrustVector v, ha, hb, C04.canonTV_dim v,
    fun hd => C04.canonTV_sum_one v hd, fun hw => C04.canonTV_wf v hw⟩

/-- (C04.canonTV_scale_invariant) Multiplying the whole pre-trust / initial-trust vector by a non-zero
    constant does not change the vector the Go `CanonicalizeTrustVector` leaves. -/
theorem go_canonTV_scale_invariant (c : K) (hc : c ≠ 0) (v : Vec K) :
    ∃ st1 st2, Gen.CanonicalizeTrustVector (toGV (scaleVecBy c v)) = .ok (st1, ()) ∧
      Gen.CanonicalizeTrustVector (toGV v) = .ok (st2, ()) ∧ st1.v = st2.v := by
  obtain ⟨st1, ha, hb⟩ := go_canonTV (scaleVecBy c v)
  obtain ⟨st2, hc', hd⟩ := go_canonTV v
  exact ⟨st1, st2, ha, hc', by rw [hb, hd, C04.canonTV_scale_invariant c hc v]⟩

/-! #### CanonicalizeLocalTrust -/

/-- (C04.canonLT_ok, canonLT_dims, canonLT_rows, canonLT_row_sum_one) On a square matrix whose row table has
    `major` rows, with no pre-trust or one of the matrix's dimension, fuel ≥ the number of rows: the Go
    `CanonicalizeLocalTrust` returns (no panic, within the fuel) a `nil` error and leaves a matrix of the same
    shape in which EVERY row position `i` — the last one included — is treated by the three cases of the
    specification: a row with non-zero sum is its `Canonicalize`d form (sum one, same column indices); a
    zero-sum row is replaced by the pre-trust's entries when a pre-trust is given, and is untouched
    otherwise. -/
theorem go_canonLT_rows (fuel : Nat) (m : CSM K) (p : Option (Vec K))
    (hrows : m.rows.length = m.major) (hf : m.major ≤ fuel)
    (hsq : m.major = m.minor) (hp : ∀ q, p = some q → q.dim = m.major) :
    ∃ st m', Gen.CanonicalizeLocalTrust fuel (toGM m) (p.map toGV) = .ok (st, none) ∧
      st.localTrust = toGM m' ∧
      m'.major = m.major ∧ m'.minor = m.minor ∧ m'.rows.length = m.rows.length ∧
      ∀ i, i < m.rows.length →
        (((m.rows.getD i []).map (·.val)).sum ≠ 0 →
          canonicalize (m.rows.getD i []) = .ok (m'.rows.getD i []) ∧
          ((m'.rows.getD i []).map (·.val)).sum = 1 ∧
          (m'.rows.getD i []).map (·.idx) = (m.rows.getD i []).map (·.idx)) ∧
        (((m.rows.getD i []).map (·.val)).sum = 0 →
          ∀ q, p = some q → m'.rows.getD i [] = q.entries) ∧
        (((m.rows.getD i []).map (·.val)).sum = 0 →
          p = none → m'.rows.getD i [] = m.rows.getD i []) := by
  obtain ⟨m', h⟩ := C04.canonLT_ok m p hsq hp
  obtain ⟨st, ha, hb⟩ := go_canonLT_of_ok fuel m m' p hrows hf h
  obtain ⟨d1, d2, d3, _⟩ := C04.canonLT_dims h
  refine ⟨st, m', ha, hb, d1, d2, d3, fun i hi => ?_⟩
  obtain ⟨r1, r2, r3⟩ := C04.canonLT_rows h i hi
  refine ⟨fun hs => ?_, r2, r3⟩
  obtain ⟨s1, s2⟩ := C04.canonLT_row_sum_one h i hi hs
  exact ⟨r1 hs, s1, s2⟩

/-- (C04.canonLT_ok_iff, closed form) …and the matrix left is exactly the input with every row replaced by
    `canonRow p row`. -/
theorem go_canonLT_closed (fuel : Nat) (m : CSM K) (p : Option (Vec K))
    (hrows : m.rows.length = m.major) (hf : m.major ≤ fuel)
    (hsq : m.major = m.minor) (hp : ∀ q, p = some q → q.dim = m.major) :
    ∃ st, Gen.CanonicalizeLocalTrust fuel (toGM m) (p.map toGV) = .ok (st, none) ∧
      st.localTrust = toGM { m with rows := m.rows.map (canonRow p) } :=
  go_canonLT_of_ok fuel m _ p hrows hf ((C04.canonLT_ok_iff m _ p).mpr ⟨hsq, hp, rfl⟩)

/-- (C04.canonLT_error_nonsquare) A non-square matrix: the Go `CanonicalizeLocalTrust` returns (no panic)
    `ErrDimensionMismatch` and the matrix is untouched. -/
theorem go_canonLT_error_nonsquare (fuel : Nat) (m : CSM K) (p : Option (Vec K))
    (hrows : m.rows.length = m.major) (hf : m.major ≤ fuel) (h : m.major ≠ m.minor) :
    ∃ st, Gen.CanonicalizeLocalTrust fuel (toGM m) (p.map toGV) =
        .ok (st, (some ⟨"ErrDimensionMismatch"⟩ : Option GoError)) ∧
      st.localTrust = toGM m :=
  go_canonLT_of_error fuel m p _ hrows hf (C04.canonLT_error_nonsquare m p h)

/-- (C04.canonLT_error_pdim) A pre-trust vector of another dimension: the Go `CanonicalizeLocalTrust` returns
    (no panic) `ErrDimensionMismatch` and the matrix is untouched. -/
theorem go_canonLT_error_pdim (fuel : Nat) (m : CSM K) (q : Vec K)
    (hrows : m.rows.length = m.major) (hf : m.major ≤ fuel) (h : m.major = m.minor)
    (hq : q.dim ≠ m.major) :
    ∃ st, Gen.CanonicalizeLocalTrust fuel (toGM m) (some (toGV q)) =
        .ok (st, (some ⟨"ErrDimensionMismatch"⟩ : Option GoError)) ∧
      st.localTrust = toGM m :=
  go_canonLT_of_error fuel m (some q) _ hrows hf (C04.canonLT_error_pdim m q h hq)

/-! #### scale invariance of the canonicalisation pipeline -/

private theorem scaleRows_length (s : Nat → K) (m : CSM K) :
    (scaleRows s m).rows.length = m.rows.length := by
  simp [scaleRows]

/-- (C04.canonLT_scale_invariant) Multiplying row `i` by a non-zero factor `s i`, for every `i`, changes
    neither the error value the Go `CanonicalizeLocalTrust` returns nor — when that is `nil` — the matrix it
    leaves; provided that, when no pre-trust is given, every zero-sum row is all-zero (such a row is left
    untouched by the code, so the hypothesis cannot be dropped: counter-example in Props/C04). -/
theorem go_canonLT_scale_invariant (s : Nat → K) (hs : ∀ i, s i ≠ 0) (fuel : Nat) (m : CSM K)
    (p : Option (Vec K)) (hrows : m.rows.length = m.major) (hf : m.major ≤ fuel)
    (hz : p = none → ∀ r ∈ m.rows, (r.map (·.val)).sum = 0 → ∀ e ∈ r, e.val = 0) :
    ∃ st1 st2 err,
      Gen.CanonicalizeLocalTrust fuel (toGM (scaleRows s m)) (p.map toGV) = .ok (st1, err) ∧
      Gen.CanonicalizeLocalTrust fuel (toGM m) (p.map toGV) = .ok (st2, err) ∧
      (err = none → st1.localTrust = st2.localTrust) :=
  go_canonLT_congr fuel (scaleRows s m) m p ((scaleRows_length s m).trans hrows) hf hrows hf
    (C04.canonLT_scale_invariant s hs m p hz)

/-- (C04.canonLT_scale_invariant_some) With a pre-trust vector the invariance is unconditional. -/
theorem go_canonLT_scale_invariant_some (s : Nat → K) (hs : ∀ i, s i ≠ 0) (fuel : Nat) (m : CSM K)
    (q : Vec K) (hrows : m.rows.length = m.major) (hf : m.major ≤ fuel) :
    ∃ st1 st2 err,
      Gen.CanonicalizeLocalTrust fuel (toGM (scaleRows s m)) (some (toGV q)) = .ok (st1, err) ∧
      Gen.CanonicalizeLocalTrust fuel (toGM m) (some (toGV q)) = .ok (st2, err) ∧
      (err = none → st1.localTrust = st2.localTrust) :=
  go_canonLT_scale_invariant s hs fuel m (some q) hrows hf (fun h => by cases h)

/-- (C04.canonLT_scale_invariant_nonneg) With non-negative stored values (the situation after
    `ExtractDistrust`) it is unconditional, too. -/
theorem go_canonLT_scale_invariant_nonneg [IsStrictOrderedRing K] (s : Nat → K) (hs : ∀ i, s i ≠ 0)
    (fuel : Nat) (m : CSM K) (p : Option (Vec K)) (hrows : m.rows.length = m.major)
    (hf : m.major ≤ fuel) (hn : ∀ r ∈ m.rows, ∀ e ∈ r, 0 ≤ e.val) :
    ∃ st1 st2 err,
      Gen.CanonicalizeLocalTrust fuel (toGM (scaleRows s m)) (p.map toGV) = .ok (st1, err) ∧
      Gen.CanonicalizeLocalTrust fuel (toGM m) (p.map toGV) = .ok (st2, err) ∧
      (err = none → st1.localTrust = st2.localTrust) :=
  go_canonLT_congr fuel (scaleRows s m) m p ((scaleRows_length s m).trans hrows) hf hrows hf
    (C04.canonLT_scale_invariant_nonneg s hs m p hn)

/-- `P` and `D` meet the side conditions of `go_canonLT_congr` whenever `L` does. -/
private theorem extract_shape {L P D : CSM K} {fuel : Nat} (h : extractDistrust L = .ok (P, D))
    (hrows : L.rows.length = L.major) (hf : L.major ≤ fuel) :
    P.rows.length = P.major ∧ P.major ≤ fuel ∧ D.rows.length = D.major ∧ D.major ≤ fuel := by
  obtain ⟨_, e1, _, e3, _, e5, _, e7, _⟩ := C08.extract_dims h
  exact ⟨e3.trans (hrows.trans e1.symm), e1 ▸ hf, e7.trans (hrows.trans e5.symm), e5 ▸ hf⟩

/-- (C04.pipeline_scale_invariant) The front-end pipeline `ExtractDistrust; CanonicalizeLocalTrust(c, p);
    CanonicalizeLocalTrust(discounts, nil)` of the translated Go code, on a local trust `L` (row table of `major`
    rows, fuel ≥ `major`) on which `ExtractDistrust` succeeds, and on `L` with its rows multiplied by positive
    factors: `ExtractDistrust` succeeds on the scaled matrix as well, and the two `CanonicalizeLocalTrust` calls
    return the same error values and — when `nil` — leave IDENTICAL matrices for `Compute` and
    `DiscountTrustVector` (no hypothesis on the signs of the entries of `L`). -/
theorem go_pipeline_scale_invariant [IsStrictOrderedRing K] (s : Nat → K) (hs : ∀ i, 0 < s i)
    (fuel : Nat) (L P D : CSM K) (p : Option (Vec K))
    (hrows : L.rows.length = L.major) (hf : L.major ≤ fuel)
    (h : extractDistrust L = .ok (P, D)) :
    ∃ st0 st0' P' D',
      Gen.ExtractDistrust fuel (toGM L) = .ok (st0, (toGM D, none)) ∧ st0.localTrust = toGM P ∧
      Gen.ExtractDistrust fuel (toGM (scaleRows s L)) = .ok (st0', (toGM D', none)) ∧
      st0'.localTrust = toGM P' ∧
      (∃ st1' st1 err,
        Gen.CanonicalizeLocalTrust fuel (toGM P') (p.map toGV) = .ok (st1', err) ∧
        Gen.CanonicalizeLocalTrust fuel (toGM P) (p.map toGV) = .ok (st1, err) ∧
        (err = none → st1'.localTrust = st1.localTrust)) ∧
      (∃ st2' st2 err,
        Gen.CanonicalizeLocalTrust fuel (toGM D') none = .ok (st2', err) ∧
        Gen.CanonicalizeLocalTrust fuel (toGM D) none = .ok (st2, err) ∧
        (err = none → st2'.localTrust = st2.localTrust)) := by
  obtain ⟨P', D', h', hP, hD⟩ := C04.pipeline_scale_invariant s hs L P D p h
  obtain ⟨st0, ha, hb⟩ := go_extract_of_ok fuel L P D hrows hf h
  obtain ⟨st0', ha', hb'⟩ := go_extract_of_ok fuel (scaleRows s L) P' D'
    ((scaleRows_length s L).trans hrows) hf h'
  obtain ⟨hP1, hP2, hD1, hD2⟩ := extract_shape h hrows hf
  obtain ⟨hP1', hP2', hD1', hD2'⟩ := extract_shape h' ((scaleRows_length s L).trans hrows) hf
  exact ⟨st0, st0', P', D', ha, hb, ha', hb',
    go_canonLT_congr fuel P' P p hP1' hP2' hP1 hP2 hP, go_canonLT_congr fuel D' D none hD1' hD2' hD1 hD2 hD⟩

end EtVerif.TrGo04
