/-
  C05 (analysis part) — "Every ... library call on canonical inputs, with a>=0.001 and e>=1e-9
  finishes within ceil(ln(e/4)/ln(1-a))+2 iterations under the default schedule."

  Default schedule (`Compute` in pkg/basic/eigentrust.go: `checkFreq = 1`, `minIters = checkFreq`):
  after every iteration `K ≥ 1` the check compares `t_K` with `t_{K-1}` (at `K = 1`: with `t0`)
  and stops iff `‖t_K − t_{K-1}‖₂ ≤ e`.

  Dense real-analysis statement on `Fin n → ℝ`.  Property theorems only; helpers live in
  Proofs/Dense.lean and Proofs/DenseTerm.lean.
-/
import EtVerif.Proofs.DenseTerm
import EtVerif.Proofs.NatFirst

namespace EtVerif.C05a
open EtVerif.Dense

variable {n : ℕ}

theorem iterate_distribution_dense (C : Fin n → Fin n → ℝ) (p : Fin n → ℝ) (a : ℝ)
    (hC0 : ∀ i j, 0 ≤ C i j) (hC1 : ∀ i, ∑ j, C i j = 1)
    (hp0 : ∀ i, 0 ≤ p i) (hp1 : ∑ i, p i = 1) (ha0 : 0 ≤ a) (ha1 : a ≤ 1)
    (t0 : Fin n → ℝ) (ht0 : ∀ i, 0 ≤ t0 i) (ht1 : ∑ i, t0 i = 1) (k : ℕ) :
    (∀ i, 0 ≤ (F C p a)^[k] t0 i) ∧ ∑ i, (F C p a)^[k] t0 i = 1 :=
  iterate_distribution C p a hC0 hC1 hp0 hp1 ha0 ha1 t0 ht0 ht1 k

example : (∀ i, 0 ≤ (F exC exP (1 / 2))^[3] exT0 i) ∧ ∑ i, (F exC exP (1 / 2))^[3] exT0 i = 1 :=
  iterate_distribution_dense exC exP (1 / 2) exC_nonneg exC_rowsum exP_nonneg exP_sum
    (by norm_num) (by norm_num) exT0 exT0_nonneg exT0_sum 3

theorem l2_le_l1 (x : Fin n → ℝ) : l2 x ≤ l1 x := Dense.l2_le_l1 x

/-- contraction by `1-a` per step, and `‖t_1 − t_0‖₁ ≤ 2` for two distributions. -/
theorem delta_geometric_l1 (C : Fin n → Fin n → ℝ) (p : Fin n → ℝ) (a : ℝ)
    (hC0 : ∀ i j, 0 ≤ C i j) (hC1 : ∀ i, ∑ j, C i j = 1)
    (hp0 : ∀ i, 0 ≤ p i) (hp1 : ∑ i, p i = 1) (ha0 : 0 ≤ a) (ha1 : a ≤ 1)
    (t0 : Fin n → ℝ) (ht0 : ∀ i, 0 ≤ t0 i) (ht1 : ∑ i, t0 i = 1) (k : ℕ) :
    l1 ((F C p a)^[k + 1] t0 - (F C p a)^[k] t0) ≤ 2 * (1 - a) ^ k := by
  rw [Function.iterate_succ_apply, mul_comm]
  exact (contract_iterate (F_contract_sub C p a hC0 (fun i => (hC1 i).le) ha1)
      (sub_nonneg.2 ha1) (F C p a t0) t0 k).trans
    (mul_le_mul_of_nonneg_left (l1_F_sub_le_two C p a hC0 hC1 hp0 hp1 ha0 ha1 t0 ht0 ht1)
      (pow_nonneg (sub_nonneg.2 ha1) k))

theorem delta_geometric (C : Fin n → Fin n → ℝ) (p : Fin n → ℝ) (a : ℝ)
    (hC0 : ∀ i j, 0 ≤ C i j) (hC1 : ∀ i, ∑ j, C i j = 1)
    (hp0 : ∀ i, 0 ≤ p i) (hp1 : ∑ i, p i = 1) (ha0 : 0 ≤ a) (ha1 : a ≤ 1)
    (t0 : Fin n → ℝ) (ht0 : ∀ i, 0 ≤ t0 i) (ht1 : ∑ i, t0 i = 1) (k : ℕ) :
    l2 ((F C p a)^[k + 1] t0 - (F C p a)^[k] t0) ≤ 2 * (1 - a) ^ k :=
  (Dense.l2_le_l1 _).trans (delta_geometric_l1 C p a hC0 hC1 hp0 hp1 ha0 ha1 t0 ht0 ht1 k)

example : l2 ((F exC exP (1 / 2))^[3 + 1] exT0 - (F exC exP (1 / 2))^[3] exT0)
    ≤ 2 * (1 - 1 / 2) ^ 3 :=
  delta_geometric exC exP (1 / 2) exC_nonneg exC_rowsum exP_nonneg exP_sum
    (by norm_num) (by norm_num) exT0 exT0_nonneg exT0_sum 3

/-- where the constant `4` in `N = ⌈ln(e/4)/ln(1-a)⌉` comes from: `2(1-a)^N ≤ 2·(e/4)`. -/
theorem two_mul_pow_ceil_le (a e : ℝ) (ha0 : 0 < a) (ha1 : a < 1) (he : 0 < e) :
    2 * (1 - a) ^ (⌈Real.log (e / 4) / Real.log (1 - a)⌉₊) ≤ e / 2 :=
  calc _ ≤ 2 * (e / 4) := mul_le_mul_of_nonneg_left
        (pow_ceil_log_le (sub_pos.2 ha1) (sub_lt_self 1 ha0) (div_pos he four_pos)) zero_le_two
    _ = e / 2 := by ring

/-- Sharp form: the check after iteration `N + 1` succeeds (`N = ⌈ln(e/4)/ln(1-a)⌉`). -/
theorem terminates_default_at (C : Fin n → Fin n → ℝ) (p : Fin n → ℝ) (a e : ℝ)
    (hC0 : ∀ i j, 0 ≤ C i j) (hC1 : ∀ i, ∑ j, C i j = 1)
    (hp0 : ∀ i, 0 ≤ p i) (hp1 : ∑ i, p i = 1) (ha0 : 0 < a) (ha1 : a < 1) (he : 0 < e)
    (t0 : Fin n → ℝ) (ht0 : ∀ i, 0 ≤ t0 i) (ht1 : ∑ i, t0 i = 1) :
    l2 ((F C p a)^[⌈Real.log (e / 4) / Real.log (1 - a)⌉₊ + 1] t0
        - (F C p a)^[⌈Real.log (e / 4) / Real.log (1 - a)⌉₊] t0) ≤ e / 2 :=
  (delta_geometric C p a hC0 hC1 hp0 hp1 ha0.le ha1.le t0 ht0 ht1 _).trans
    (two_mul_pow_ceil_le a e ha0 ha1 he)

/-- **Termination under the default schedule, `0 < a < 1`.**  Some check at an iteration count
`K` with `1 ≤ K ≤ ⌈ln(e/4)/ln(1-a)⌉ + 2` succeeds (hence the first successful one is no later). -/
theorem terminates_default (C : Fin n → Fin n → ℝ) (p : Fin n → ℝ) (a e : ℝ)
    (hC0 : ∀ i j, 0 ≤ C i j) (hC1 : ∀ i, ∑ j, C i j = 1)
    (hp0 : ∀ i, 0 ≤ p i) (hp1 : ∑ i, p i = 1) (ha0 : 0 < a) (ha1 : a < 1) (he : 0 < e)
    (t0 : Fin n → ℝ) (ht0 : ∀ i, 0 ≤ t0 i) (ht1 : ∑ i, t0 i = 1) :
    ∃ K, 1 ≤ K ∧ K ≤ ⌈Real.log (e / 4) / Real.log (1 - a)⌉₊ + 2 ∧
      l2 ((F C p a)^[K] t0 - (F C p a)^[K - 1] t0) ≤ e := by
  refine ⟨⌈Real.log (e / 4) / Real.log (1 - a)⌉₊ + 1, Nat.le_add_left 1 _, Nat.le_succ _, ?_⟩
  rw [Nat.add_sub_cancel]
  exact (terminates_default_at C p a e hC0 hC1 hp0 hp1 ha0 ha1 he t0 ht0 ht1).trans
    (half_le_self he.le)

example : ∃ K, 1 ≤ K ∧ K ≤ ⌈Real.log ((1 / 1000 : ℝ) / 4) / Real.log (1 - 1 / 2)⌉₊ + 2 ∧
    l2 ((F exC exP (1 / 2))^[K] exT0 - (F exC exP (1 / 2))^[K - 1] exT0) ≤ 1 / 1000 :=
  terminates_default exC exP (1 / 2) (1 / 1000) exC_nonneg exC_rowsum exP_nonneg exP_sum
    (by norm_num) (by norm_num) (by norm_num) exT0 exT0_nonneg exT0_sum

/-- The same statement about the *first* successful check: the least `K ≥ 1` whose check
succeeds exists and is at most `⌈ln(e/4)/ln(1-a)⌉ + 2`. -/
theorem first_success_le (C : Fin n → Fin n → ℝ) (p : Fin n → ℝ) (a e : ℝ)
    (hC0 : ∀ i j, 0 ≤ C i j) (hC1 : ∀ i, ∑ j, C i j = 1)
    (hp0 : ∀ i, 0 ≤ p i) (hp1 : ∑ i, p i = 1) (ha0 : 0 < a) (ha1 : a < 1) (he : 0 < e)
    (t0 : Fin n → ℝ) (ht0 : ∀ i, 0 ≤ t0 i) (ht1 : ∑ i, t0 i = 1) :
    ∃ K, 1 ≤ K ∧ K ≤ ⌈Real.log (e / 4) / Real.log (1 - a)⌉₊ + 2 ∧
      l2 ((F C p a)^[K] t0 - (F C p a)^[K - 1] t0) ≤ e ∧
      ∀ K', 1 ≤ K' → K' < K → ¬ l2 ((F C p a)^[K'] t0 - (F C p a)^[K' - 1] t0) ≤ e :=
  first_of_exists _ _ (terminates_default C p a e hC0 hC1 hp0 hp1 ha0 ha1 he t0 ht0 ht1)

theorem iterate_alpha_one_eq (C : Fin n → Fin n → ℝ) (p : Fin n → ℝ) (t0 : Fin n → ℝ) (k : ℕ)
    (hk : 1 ≤ k) : (F C p 1)^[k] t0 = p := by
  obtain ⟨m, rfl⟩ := Nat.exists_eq_add_of_le' hk
  rw [Function.iterate_succ_apply', F_alpha_one]

/-- **Termination for `a = 1`.**  Every iterate from the first on equals `p`, so the check at
iteration 2 sees delta 0 (for any threshold `e ≥ 0`; no assumption on `C`, `p`, `t0`). -/
theorem terminates_alpha_one (C : Fin n → Fin n → ℝ) (p : Fin n → ℝ) (e : ℝ) (he : 0 ≤ e)
    (t0 : Fin n → ℝ) :
    ∃ K, 1 ≤ K ∧ K ≤ 2 ∧ l2 ((F C p 1)^[K] t0 - (F C p 1)^[K - 1] t0) ≤ e := by
  refine ⟨2, one_le_two, le_rfl, ?_⟩
  rw [iterate_alpha_one_eq C p t0 2 one_le_two, iterate_alpha_one_eq C p t0 (2 - 1) le_rfl,
    sub_self, l2_zero]
  exact he

example : ∃ K, 1 ≤ K ∧ K ≤ 2 ∧
    l2 ((F exC exP 1)^[K] exT0 - (F exC exP 1)^[K - 1] exT0) ≤ 1 / 1000 :=
  terminates_alpha_one exC exP (1 / 1000) (by norm_num) exT0

end EtVerif.C05a
