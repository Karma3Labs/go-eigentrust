/-
  C07 — If the caller's context is cancelled at any moment, compute, matrix-vector multiply and
  transpose either complete with the same result as an undisturbed run or return the context's
  error with no result.  They never report success with an incomplete or different vector, and
  leave no goroutine running afterwards.

  Property theorems only.  The goroutine transition system of `MulVec` and the loop models of
  `Compute` / `Transpose` live in Proofs/MulVecConc.lean (see the reading guide in Props/C06.lean).
-/
import EtVerif.Proofs.MulVecConc
import EtVerif.Gen.Facts

namespace EtVerif.C07
open EtVerif EtVerif.MulVecConc EtVerif.CancelAtomic

variable {β : Type}

/-! ### `MulVec` is cancellation safe -/

/-- For a `safe`, `deterministicCollect` shape: in EVERY reachable state — `ctx` may be cancelled
    at any moment, every `select` may or may not notice — the collector either has not returned
    (receiver untouched), or returned `ctx.Err()` (only if `ctx` really was cancelled; receiver
    untouched), or returned `nil` with the receiver holding exactly the sequential product. -/
theorem mulVec_cancel_safe (shape : MulVecShape) (dim w : Nat) (prod : Nat → β)
    (isZ : β → Bool) (sortFn : List (Nat × β) → List (Nat × β))
    (hsafe : shape.safe = true) (hdet : shape.deterministicCollect = true)
    (hs : IsSortFn sortFn) (hw : 1 ≤ w)
    (s : St β) (hr : Reach ⟨shape, dim, w, prod, isZ, sortFn⟩ s) :
    (s.result = none ∧ s.out = none) ∨
    (s.result = some (.error ()) ∧ s.out = none ∧ s.cancelled = true) ∨
    (s.result = some (.ok (((List.range dim).map (fun r => (r, prod r))).filter
        (fun x => !isZ x.2))) ∧
      s.out = some (((List.range dim).map (fun r => (r, prod r))).filter (fun x => !isZ x.2))) :=
  (good_of_reach (detHyp_of hdet dim w prod isZ hs hw) hr).rinv.outcome
    (publishes_of_det hdet) (rechecks_of_safe hsafe)

/-- Sharper form, needing only determinism: a wrong success is possible ONLY when the collector
    does not re-check `ctx` after its loop and `ctx` was cancelled. -/
theorem mulVec_wrong_only_without_recheck (shape : MulVecShape) (dim w : Nat) (prod : Nat → β)
    (isZ : β → Bool) (sortFn : List (Nat × β) → List (Nat × β))
    (hdet : shape.deterministicCollect = true) (hs : IsSortFn sortFn) (hw : 1 ≤ w)
    (s : St β) (hr : Reach ⟨shape, dim, w, prod, isZ, sortFn⟩ s) (l : List (Nat × β))
    (hres : s.result = some (.ok l)) :
    l = ((List.range dim).map (fun r => (r, prod r))).filter (fun x => !isZ x.2) ∨
      (shape.collectorRechecksCtx = false ∧ s.cancelled = true) :=
  (good_of_reach (detHyp_of hdet dim w prod isZ hs hw) hr).rinv.ok_seq l hres

/-! ### what the re-check protects -/

/-- For the shape that is safe except for `collectorRechecksCtx := false`, with one row whose
    product is non-zero and one worker: a reachable state in which `MulVec` reported success and
    stored the EMPTY vector, although the sequential product is `[(0, prod 0)]`.  Trace: cancel →
    producer exits on cancel → worker exits on cancel → closer closes → collector takes the
    closed branch. -/
theorem mulVec_cancel_unsafe_witness (prod : Nat → β) (isZ : β → Bool)
    (sortFn : List (Nat × β) → List (Nat × β)) (hs : IsSortFn sortFn)
    (hnz : isZ (prod 0) = false) :
    ∃ s, Reach ⟨noRecheckShape, 1, 1, prod, isZ, sortFn⟩ s ∧ s.cancelled = true ∧
      s.result = some (.ok []) ∧ s.out = some [] ∧
      ((List.range 1).map (fun r => (r, prod r))).filter (fun x => !isZ x.2) = [(0, prod 0)] := by
  obtain ⟨s, h1, h2, h3, h4⟩ := unsafe_trace ⟨noRecheckShape, 1, 1, prod, isZ, sortFn⟩ rfl rfl rfl
    Nat.zero_lt_one hs.nil
  exact ⟨s, h1, h2, h3, h4, by simp [List.range_succ, hnz]⟩

/-- The same defect for every shape without the re-check, every `dim ≥ 1` and every worker count. -/
theorem mulVec_cancel_unsafe_general (shape : MulVecShape) (dim w : Nat) (prod : Nat → β)
    (isZ : β → Bool) (sortFn : List (Nat × β) → List (Nat × β)) (hs : IsSortFn sortFn)
    (hp : shape.producerSelectsCtx = true) (hwk : shape.workerRecvSelectsCtx = true)
    (hre : shape.collectorRechecksCtx = false) (hd : 0 < dim) :
    ∃ s, Reach ⟨shape, dim, w, prod, isZ, sortFn⟩ s ∧ s.cancelled = true ∧
      s.result = some (.ok []) ∧ s.out = some [] :=
  unsafe_trace ⟨shape, dim, w, prod, isZ, sortFn⟩ hp hwk hre hd hs.nil

/-- Tie to the source (re-checked against the regenerated `Gen/Facts.lean`): the extracted
    `MulVec` shape is either `safe`, or it is exactly the defective pattern of the witness
    (all `ctx` cases present, but no re-check after the collector loop). -/
theorem source_mulVec_verdict :
    Facts.mulVecShape.safe = true ∨
      (Facts.mulVecShape.producerSelectsCtx = true ∧ Facts.mulVecShape.workerRecvSelectsCtx = true ∧
        Facts.mulVecShape.collectorRechecksCtx = false) := by decide

/-- Hence, for the source as extracted (its own worker count), one of the two holds: every
    reachable state is cancellation safe, or for every `dim ≥ 1` a wrong success is reachable. -/
theorem mulVec_source_safe_or_witness (dim : Nat) (prod : Nat → β) (isZ : β → Bool)
    (sortFn : List (Nat × β) → List (Nat × β)) (hs : IsSortFn sortFn) (hd : 0 < dim) :
    (∀ s, Reach ⟨Facts.mulVecShape, dim, Facts.mulVecShape.numWorkers, prod, isZ, sortFn⟩ s →
      (s.result = none ∧ s.out = none) ∨
      (s.result = some (.error ()) ∧ s.out = none ∧ s.cancelled = true) ∨
      (s.result = some (.ok (((List.range dim).map (fun r => (r, prod r))).filter
          (fun x => !isZ x.2))) ∧
        s.out = some (((List.range dim).map (fun r => (r, prod r))).filter
          (fun x => !isZ x.2)))) ∨
    (∃ s, Reach ⟨Facts.mulVecShape, dim, Facts.mulVecShape.numWorkers, prod, isZ, sortFn⟩ s ∧
      s.cancelled = true ∧ s.result = some (.ok []) ∧ s.out = some []) := by
  have hdet : Facts.mulVecShape.deterministicCollect = true := by decide
  rcases source_mulVec_verdict with h | ⟨h1, h2, h3⟩
  · left
    intro s hr
    exact mulVec_cancel_safe _ dim _ prod isZ sortFn h hdet hs (numWorkers_of_det hdet) s hr
  · right
    exact mulVec_cancel_unsafe_general _ dim _ prod isZ sortFn hs h1 h2 h3 hd

/-! ### no goroutine is left running -/

/-- `AllDone`: producer, all `w` workers and the closer have returned. -/
theorem allDone_iff (c : Cfg β) (s : St β) :
    AllDone c s ↔ (s.prodDone = true ∧ s.exited = c.w ∧ s.entriesClosed = true) := Iff.rfl

/-- (a) every step of producer, a worker or the closer strictly decreases `workNC`, and no step
    of anybody (collector, environment) increases it. -/
theorem mulVec_no_leak_measure (shape : MulVecShape) (dim w : Nat) (prod : Nat → β)
    (isZ : β → Bool) (sortFn : List (Nat × β) → List (Nat × β)) (a : Actor) (s s' : St β)
    (hstep : Step ⟨shape, dim, w, prod, isZ, sortFn⟩ a s s') :
    (a ≠ Actor.env → a ≠ Actor.collector →
      workNC ⟨shape, dim, w, prod, isZ, sortFn⟩ s' < workNC ⟨shape, dim, w, prod, isZ, sortFn⟩ s) ∧
    workNC ⟨shape, dim, w, prod, isZ, sortFn⟩ s' ≤ workNC ⟨shape, dim, w, prod, isZ, sortFn⟩ s :=
  workNC_step hstep

/-- both channels never hold more than `dim` items (their capacity): a send never blocks -/
theorem mulVec_channel_bounds (shape : MulVecShape) (dim w : Nat) (prod : Nat → β)
    (isZ : β → Bool) (sortFn : List (Nat × β) → List (Nat × β)) (s : St β)
    (hr : Reach ⟨shape, dim, w, prod, isZ, sortFn⟩ s) :
    s.jobs.length ≤ dim ∧ s.entriesQ.length ≤ dim ∧
      s.jobs.length + s.held.length + s.entriesQ.length ≤ dim :=
  ⟨(chan_bounds hr).1, (chan_bounds hr).2, flow_le_dim hr⟩

/-- (b) in every reachable state — before or after the collector returned, cancelled or not —
    in which producer, workers and closer have not all returned, one of them can take a step. -/
theorem mulVec_no_leak (shape : MulVecShape) (dim w : Nat) (prod : Nat → β)
    (isZ : β → Bool) (sortFn : List (Nat × β) → List (Nat × β)) (hsafe : shape.safe = true)
    (s : St β) (hr : Reach ⟨shape, dim, w, prod, isZ, sortFn⟩ s)
    (hnd : ¬ AllDone ⟨shape, dim, w, prod, isZ, sortFn⟩ s) :
    ∃ a s', a ≠ Actor.env ∧ a ≠ Actor.collector ∧ Step ⟨shape, dim, w, prod, isZ, sortFn⟩ a s s' := by
  obtain ⟨s', a, h1, h2, h3⟩ := no_leak_progress (liveHyp_of_safe hsafe dim w prod isZ sortFn)
    (closerWaits_of_safe hsafe) hr hnd
  exact ⟨a, s', h1, h2, h3⟩

/-- (a)+(b): from every reachable state the non-collector goroutines can, on their own, run
    until all of them have returned. -/
theorem mulVec_no_leak_eventually (shape : MulVecShape) (dim w : Nat) (prod : Nat → β)
    (isZ : β → Bool) (sortFn : List (Nat × β) → List (Nat × β)) (hsafe : shape.safe = true)
    (s : St β) (hr : Reach ⟨shape, dim, w, prod, isZ, sortFn⟩ s) :
    ∃ s', Relation.ReflTransGen (NCStep ⟨shape, dim, w, prod, isZ, sortFn⟩) s s' ∧
      AllDone ⟨shape, dim, w, prod, isZ, sortFn⟩ s' := by
  exact no_leak_eventually (liveHyp_of_safe hsafe dim w prod isZ sortFn)
    (closerWaits_of_safe hsafe) hr

/-- A state in which no goroutine can move is fully terminated: the collector has returned and
    producer, workers and closer have all returned. -/
theorem mulVec_stuck_is_terminated (shape : MulVecShape) (dim w : Nat) (prod : Nat → β)
    (isZ : β → Bool) (sortFn : List (Nat × β) → List (Nat × β)) (hsafe : shape.safe = true)
    (s : St β) (hr : Reach ⟨shape, dim, w, prod, isZ, sortFn⟩ s)
    (hstuck : ∀ a s', Step ⟨shape, dim, w, prod, isZ, sortFn⟩ a s s' → a = Actor.env) :
    s.result ≠ none ∧ AllDone ⟨shape, dim, w, prod, isZ, sortFn⟩ s := by
  have L := liveHyp_of_safe hsafe dim w prod isZ sortFn
  have hcw := closerWaits_of_safe hsafe
  constructor
  · intro hres
    obtain ⟨a, s', ha, hs⟩ := no_deadlock L hr hres
    exact ha (hstuck a s' hs)
  · by_contra hnd
    obtain ⟨s', a, h1, _, h3⟩ := no_leak_progress L hcw hr hnd
    exact h1 (hstuck a s' h3)

/-- no worker ever sends on (or waits at) a closed `entries`: the Go panic is unreachable -/
theorem mulVec_no_send_on_closed (shape : MulVecShape) (dim w : Nat) (prod : Nat → β)
    (isZ : β → Bool) (sortFn : List (Nat × β) → List (Nat × β))
    (hcw : shape.closerWaitsAllWorkers = true) (s : St β)
    (hr : Reach ⟨shape, dim, w, prod, isZ, sortFn⟩ s) (hcl : s.entriesClosed = true) :
    s.held = [] ∧ s.idle = 0 :=
  no_send_on_closed hcw (sinv_of_reach hr) hcl

/-! ### caller-level atomicity of `Compute` and `Transpose` -/

/-- `Compute` under any cancellation oracle (`cancelled i` = what the poll at the head of iteration
    `i` sees, `mvFails i` = `MulVec` of iteration `i` returned `ctx.Err()`): the outcome is either
    an error with `nil` result, the caller's result slot and `t0` untouched, or exactly the
    outcome of the undisturbed run — which succeeds and leaves `t0` untouched. -/
theorem compute_cancel_atomic {σ : Type} (sh : ComputeShape) (hsafe : sh.safe = true)
    (body skip : σ → σ) (stop : Nat → σ → Bool) (cancelled mvFails : Nat → Bool) (t0 : σ)
    (maxIters iter : Nat) (t1 : σ) (slot : Option σ) :
    computeLoop sh body skip stop cancelled mvFails t0 maxIters iter t1 slot =
        ⟨true, none, slot, t0⟩ ∨
      (computeLoop sh body skip stop cancelled mvFails t0 maxIters iter t1 slot =
          computeUndisturbed sh body skip stop t0 maxIters iter t1 slot ∧
        ∃ t, computeUndisturbed sh body skip stop t0 maxIters iter t1 slot =
          ⟨false, some t, some t, t0⟩) := by
  rcases computeLoop_atomic sh hsafe body skip stop cancelled mvFails t0 maxIters iter t1 slot
    with h | h
  · exact Or.inl h
  · exact Or.inr ⟨h, computeUndisturbed_ok sh hsafe body skip stop t0 maxIters iter t1 slot⟩

/-- If `ctx` is never cancelled (`MulVec` fails only when it is, by `mulVec_cancel_safe`), the
    run IS the undisturbed run. -/
theorem compute_uncancelled {σ : Type} (sh : ComputeShape) (body skip : σ → σ)
    (stop : Nat → σ → Bool) (cancelled mvFails : Nat → Bool)
    (hmv : ∀ i, mvFails i = true → cancelled (i + 1) = true)
    (hnever : ∀ i, cancelled i = false) (t0 : σ) (maxIters iter : Nat) (t1 : σ)
    (slot : Option σ) :
    computeLoop sh body skip stop cancelled mvFails t0 maxIters iter t1 slot =
      computeUndisturbed sh body skip stop t0 maxIters iter t1 slot := by
  have h1 : cancelled = fun _ => false := funext hnever
  have h2 : mvFails = fun _ => false := by
    funext i
    cases h : mvFails i
    · rfl
    · have := hmv i h; rw [hnever] at this; exact absurd this (by simp)
  subst h1 h2
  rfl

/-- With a monotone oracle: once cancelled at the head of an iteration that is still inside the
    loop (`maxIters` not exhausted), that poll returns the error — cancellation is noticed at the
    very next loop head. -/
theorem compute_cancel_noticed {σ : Type} (sh : ComputeShape) (hsafe : sh.safe = true)
    (body skip : σ → σ) (stop : Nat → σ → Bool) (cancelled mvFails : Nat → Bool)
    (hmono : ∀ i j, i ≤ j → cancelled i = true → cancelled j = true) (t0 : σ)
    (fuel iter k : Nat) (hk : k ≤ iter) (hc : cancelled k = true) (t1 : σ) (slot : Option σ) :
    computeLoop sh body skip stop cancelled mvFails t0 (fuel + 1) iter t1 slot =
      ⟨true, none, slot, t0⟩ := by
  have hci := hmono k iter hk hc
  obtain ⟨hpoll, hnil, _, hclone, _⟩ := computeSafe_iff.mp hsafe
  simp [computeLoop, hpoll, hci, cErr, hnil, hclone]

/-- `Transpose` under any cancellation oracle (`cancelled i` = the poll before row `i`): error with
    `nil` result and the receiver untouched, or the full transpose (the model's `CSM.transpose`)
    with the receiver untouched. -/
theorem transpose_cancel_atomic {α : Type} (sh : TransposeShape) (hsafe : sh.safe = true)
    (cancelled : Nat → Bool) (m : CSM α) :
    transposeC sh cancelled m = ⟨true, none, m⟩ ∨
      transposeC sh cancelled m = ⟨false, some m.transpose, m⟩ := by
  rcases transposeLoop_atomic sh hsafe cancelled m m.rows.zipIdx (List.replicate m.minor [])
    with h | h
  · exact Or.inl h
  · exact Or.inr h

/-- THE TIE for MulVec: the shape extracted from /repo's current source is cancellation safe
    (this `decide` fails — and the check reports it — as soon as the extracted shape is not). -/
theorem source_mulVec_safe : Facts.mulVecShape.safe = true := by decide

/-- `mulVec_cancel_safe` instantiated at the source shape and its own worker count. -/
theorem mulVec_cancel_safe_source (dim : Nat) (prod : Nat → β) (isZ : β → Bool)
    (sortFn : List (Nat × β) → List (Nat × β)) (hs : IsSortFn sortFn)
    (s : St β) (hr : Reach ⟨Facts.mulVecShape, dim, Facts.mulVecShape.numWorkers, prod, isZ, sortFn⟩ s) :
    (s.result = none ∧ s.out = none) ∨
    (s.result = some (.error ()) ∧ s.out = none ∧ s.cancelled = true) ∨
    (s.result = some (.ok (((List.range dim).map (fun r => (r, prod r))).filter
        (fun x => !isZ x.2))) ∧
      s.out = some (((List.range dim).map (fun r => (r, prod r))).filter (fun x => !isZ x.2))) :=
  mulVec_cancel_safe Facts.mulVecShape dim Facts.mulVecShape.numWorkers prod isZ sortFn
    source_mulVec_safe (by decide) hs (by decide) s hr

/-- Tie to the source: the extracted `Compute` and `Transpose` shapes are safe. -/
theorem source_compute_transpose_safe :
    Facts.computeShape.safe = true ∧ Facts.transposeShape.safe = true := by decide

/-! ### non-vacuity -/

example : safeShape.safe = true ∧ safeShape.deterministicCollect = true ∧
    IsSortFn (isortFst (β := Nat)) := ⟨by decide, by decide, isortFst_isSortFn⟩

/-- the shape of the witness fails `safe` only through the missing re-check -/
example : noRecheckShape.safe = false ∧
    ({ noRecheckShape with collectorRechecksCtx := true } : MulVecShape).safe = true := by decide

/-- a reachable state of the safe shape in which `ctx.Err()` was returned with the receiver
    untouched (cancel, then the collector takes its `ctx.Done()` case) -/
example : ∃ s, Reach exCfg s ∧ s.result = some (.error ()) ∧ s.out = none :=
  ⟨_, ((Reach.start exCfg).step (Step.cancel _)).step (Step.collCancel _ rfl rfl rfl), rfl, rfl⟩

/-- a reachable completed run of the safe shape (third alternative of `mulVec_cancel_safe`) -/
example : ∃ s, Reach exCfg s ∧ s.result = some (.ok [(0, 1), (1, 2)]) ∧ AllDone exCfg s := by
  obtain ⟨s, h1, _, _, h4, _, h6⟩ := exCfg_run
  exact ⟨s, h1, h4, h6⟩

/-- a leaked-looking state that is NOT stuck: the collector returned `ctx.Err()` at once, nobody
    else has moved; `mulVec_no_leak` applies to it (its hypothesis `¬ AllDone` holds) -/
example : ∃ s, Reach exCfg s ∧ s.result = some (.error ()) ∧ ¬ AllDone exCfg s :=
  ⟨_, ((Reach.start exCfg).step (Step.cancel _)).step (Step.collCancel _ rfl rfl rfl), rfl,
    fun h => by simp [AllDone, init] at h⟩

example : (⟨true, true, true, true, true⟩ : ComputeShape).safe = true ∧
    (⟨true, true, true⟩ : TransposeShape).safe = true := by decide

/-- `Compute` model on ℕ (`body = +1`, stop at iteration 3): undisturbed → 3 in the slot;
    cancelled from iteration 2 on → error, slot and input untouched. -/
example :
    computeUndisturbed ⟨true, true, true, true, true⟩ (· + 1) id (fun i _ => i == 3) (0 : Nat) 10 0 0 none
      = ⟨false, some 3, some 3, 0⟩ ∧
    computeLoop ⟨true, true, true, true, true⟩ (· + 1) id (fun i _ => i == 3) (fun i => decide (2 ≤ i))
      (fun _ => false) (0 : Nat) 10 0 0 none = ⟨true, none, none, 0⟩ := ⟨rfl, rfl⟩

end EtVerif.C07
