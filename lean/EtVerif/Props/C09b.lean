/-
  C09 (rounding clause): "sums / dot products are within the Kahan–Babuška–Neumaier bound
  u·|S| + O(n² u²)·Σ|x_i| of the exact value".

  Lean's `Float` is opaque; the theorems are about the model's generic `kbnSum`, `Vec.sum`,
  `vecDot` instantiated at the *rounded real* arithmetic `flScalar fl` (every `add`, `sub`,
  `mul`, `div` rounds its exact real result with `fl`).  All that is assumed of `fl` is the
  explicit hypothesis `FPModel fl u` (Proofs/KBNFloat.lean; a theorem argument, not an axiom):
  relative error `≤ u`, `fl 0 = 0`, idempotence, and Dekker's FastTwoSum exactness for
  representable operands (`fl a = a`, `fl b = b`, `|b| ≤ |a|`), in the shape `KBN.push` uses it.
  "Representable" (= is a float64) is `fl x = x`.

  Proved:
  * `kbn_decomposition`   — the loop invariant: `sum + E = Σx` exactly, bounds on `|E|` and on
                            `|comp - E|`;
  * `kbn_error_bound_pow` — `|kbnSum xs - Σx| ≤ u|Σx| + n² u² (1+u)^(2n) Σ|x|` (no smallness);
  * `kbn_error_bound`     — `… ≤ u|Σx| + 4 n² u² Σ|x|` when `n u ≤ 1/2`;
  * `sum_error_bound`, `dot_error_bound` (relative to the exact sum of the rounded products),
    `dot_error_bound_exact` (relative to the exact dot product; has the unavoidable extra
    first-order term `u Σ|a_i b_i|` from rounding the products);
  * non-vacuity: `fpModel_exact` (`fl = id`, `u = 0`), `kbn_exact_of_id`, and a model that is
    *not* exact (`fpModel_inexact`, `u = 1/24`) on which the `u·|S|` term is attained
    (`kbn_bound_tight`).
-/
import EtVerif.Proofs.KBNFloat

namespace EtVerif.C09b
open EtVerif EtVerif.KBNFloat

/-- Exact arithmetic satisfies the floating-point hypotheses with `u = 0`. -/
theorem fpModel_exact : FPModel id 0 := fpModel_id

/-- A rounding function that is not the identity (3 is not representable and rounds to 25/8)
    satisfies the hypotheses with `u = 1/24`: the hypotheses do not force exactness. -/
theorem fpModel_inexact : FPModel flBump (1 / 24) := fpModel_bump

/-- Loop invariant of the summer after all of `xs` (representable numbers):
    with `st` the final state there is an `E` (the exact sum of the per-step rounding errors) with
    `st.sum + E = Σ xs` *exactly*, `|E|` first order, and the stored compensation within second
    order of `E`; the returned value is the rounded `st.sum + st.comp`. -/
theorem kbn_decomposition (fl : ℝ → ℝ) (u : ℝ) (h : FPModel fl u) (xs : List ℝ)
    (hx : ∀ x ∈ xs, fl x = x) :
    let st := @List.foldl (KBN ℝ) ℝ (@KBN.push ℝ (flScalar fl)) (@KBN.init ℝ (flScalar fl)) xs
    ∃ E : ℝ, st.sum + E = xs.sum ∧
      |E| * (1 + u) ≤ (xs.length : ℝ) * u * (1 + u) ^ xs.length * (xs.map fun x => |x|).sum ∧
      |st.comp - E| * (1 + u) ≤
        (xs.length : ℝ) ^ 2 * u ^ 2 * ((1 + u) ^ xs.length) ^ 2 * (xs.map fun x => |x|).sum ∧
      @kbnSum ℝ (flScalar fl) xs = fl (st.sum + st.comp) := by
  intro st
  have I := run_inv h xs hx
  have hc := I.compB
  rw [mul_pow, mul_pow] at hc
  exact ⟨xs.sum - st.sum, by ring, I.errB, hc, rfl⟩

/-- KBN bound with the explicit growth factor, no smallness condition on `n u`. -/
theorem kbn_error_bound_pow (fl : ℝ → ℝ) (u : ℝ) (h : FPModel fl u) (xs : List ℝ)
    (hx : ∀ x ∈ xs, fl x = x) :
    |@kbnSum ℝ (flScalar fl) xs - xs.sum| ≤
      u * |xs.sum| +
        (xs.length : ℝ) ^ 2 * u ^ 2 * ((1 + u) ^ xs.length) ^ 2 * (xs.map fun x => |x|).sum :=
  result_bound_pow h xs hx

/-- **The KBN bound**: for representable inputs and `n u ≤ 1/2`,
    `|kbnSum xs - Σ xs| ≤ u |Σ xs| + 4 n² u² Σ|x_i|`. -/
theorem kbn_error_bound (fl : ℝ → ℝ) (u : ℝ) (h : FPModel fl u) (xs : List ℝ)
    (hx : ∀ x ∈ xs, fl x = x) (hn : (xs.length : ℝ) * u ≤ 1 / 2) :
    |@kbnSum ℝ (flScalar fl) xs - xs.sum| ≤
      u * |xs.sum| + 4 * (xs.length : ℝ) ^ 2 * u ^ 2 * (xs.map fun x => |x|).sum :=
  result_bound h xs hx hn

/-- the hypotheses of `kbn_error_bound` hold for a non-exact arithmetic and a non-trivial input -/
example : FPModel flBump (1 / 24) ∧ (∀ x ∈ ([1, 2] : List ℝ), flBump x = x) ∧
    ((([1, 2] : List ℝ).length : ℝ) * (1 / 24) ≤ 1 / 2) := by
  refine ⟨fpModel_bump, ?_, by norm_num⟩
  intro x hx
  simp only [List.mem_cons, List.mem_nil_iff, or_false] at hx
  rcases hx with rfl | rfl <;> exact flBump_ne (by norm_num)

/-- At `fl = id` (`u = 0`) the bound specialises to exactness. -/
theorem kbn_exact_of_id (xs : List ℝ) : @kbnSum ℝ (flScalar id) xs = xs.sum := by
  have hb := kbn_error_bound_pow id 0 fpModel_id xs fun _ _ => rfl
  rw [zero_mul, zero_pow two_ne_zero, mul_zero, zero_mul, zero_mul, add_zero] at hb
  exact sub_eq_zero.mp (abs_nonpos_iff.mp hb)

/-- The first-order term `u |S|` is attained: in the arithmetic `flBump` (`u = 1/24`) the
    compensated sum of `[1, 2]` is `25/8`, off by exactly `u * |3|`. -/
theorem kbn_bound_tight :
    |@kbnSum ℝ (flScalar flBump) [1, 2] - ([1, 2] : List ℝ).sum| =
      (1 / 24) * |([1, 2] : List ℝ).sum| := by
  have e3 : ((1 : ℝ) + 2) = 3 := by norm_num
  have f0 : flBump 0 = 0 := flBump_ne (by norm_num)
  have f1 : flBump 1 = 1 := flBump_ne (by norm_num)
  have f98 : flBump (25 / 8 - 2) = 25 / 8 - 2 := flBump_ne (by norm_num)
  have fm : flBump (1 - (25 / 8 - 2)) = 1 - (25 / 8 - 2) := flBump_ne (by norm_num)
  have fe : (25 / 8 : ℝ) + (1 - (25 / 8 - 2)) = 3 := by norm_num
  have hv : @kbnSum ℝ (flScalar flBump) [1, 2] = 25 / 8 := by
    have a01 : |(0 : ℝ)| < |(1 : ℝ)| := by norm_num
    have a12 : |(1 : ℝ)| < |(2 : ℝ)| := by norm_num [abs_of_pos]
    simp only [kbnSum, KBN.result, KBN.init, List.foldl, KBN.push, fs_add, fs_sub, fs_abs,
      fs_lt, fs_zero, zero_add, f1, a01, a12, decide_true, if_true, sub_self, f0, add_zero,
      e3, flBump_three, f98, fm, fe]
  rw [hv]; norm_num [abs_of_pos]

/-- `Vector.Sum` at the rounded arithmetic. -/
theorem sum_error_bound (fl : ℝ → ℝ) (u : ℝ) (h : FPModel fl u) (v : Vec ℝ)
    (hx : ∀ e ∈ v.entries, fl e.val = e.val) (hn : (v.entries.length : ℝ) * u ≤ 1 / 2) :
    |@Vec.sum ℝ (flScalar fl) v - (v.entries.map (·.val)).sum| ≤
      u * |(v.entries.map (·.val)).sum| +
        4 * (v.entries.length : ℝ) ^ 2 * u ^ 2 * (v.entries.map fun e => |e.val|).sum := by
  have hx' : ∀ x ∈ v.entries.map (·.val), fl x = x := by
    intro x hxm
    obtain ⟨e, he, rfl⟩ := List.mem_map.mp hxm
    exact hx e he
  have hb := kbn_error_bound fl u h (v.entries.map (·.val)) hx'
    ((List.length_map _).symm ▸ hn)
  rwa [List.length_map, List.map_map] at hb

/-- `VecDot` at the rounded arithmetic, relative to the exact sum of the ROUNDED products:
    with `ps` the exact products `a_i * b_i` of the matching entries (`dotTerms` at exact real
    arithmetic), `|vecDot e1 e2 - Σ fl p| ≤ u |Σ fl p| + 4 n² u² Σ |fl p|`.  No representability
    hypothesis on the entries is needed (rounded products are representable). -/
theorem dot_error_bound (fl : ℝ → ℝ) (u : ℝ) (h : FPModel fl u) (e1 e2 : List (Entry ℝ))
    (hn : ((@dotTerms ℝ fieldScalar e1 e2).length : ℝ) * u ≤ 1 / 2) :
    |@vecDot ℝ (flScalar fl) e1 e2 - ((@dotTerms ℝ fieldScalar e1 e2).map fl).sum| ≤
      u * |((@dotTerms ℝ fieldScalar e1 e2).map fl).sum| +
        4 * ((@dotTerms ℝ fieldScalar e1 e2).length : ℝ) ^ 2 * u ^ 2 *
          ((@dotTerms ℝ fieldScalar e1 e2).map fun p => |fl p|).sum := by
  have hx' : ∀ x ∈ (@dotTerms ℝ fieldScalar e1 e2).map fl, fl x = x := by
    intro x hxm
    obtain ⟨p, _, rfl⟩ := List.mem_map.mp hxm
    exact h.fl_idem p
  have hb := kbn_error_bound fl u h ((@dotTerms ℝ fieldScalar e1 e2).map fl) hx'
    ((List.length_map _).symm ▸ hn)
  unfold vecDot
  rw [dotTerms_fl]
  rwa [List.length_map, List.map_map] at hb

/-- `VecDot` relative to the EXACT dot product `Σ p` (`p = a_i * b_i`): rounding the products
    adds the first-order term `u Σ|p|`, which no summation algorithm can remove. -/
theorem dot_error_bound_exact (fl : ℝ → ℝ) (u : ℝ) (h : FPModel fl u) (e1 e2 : List (Entry ℝ))
    (hn : ((@dotTerms ℝ fieldScalar e1 e2).length : ℝ) * u ≤ 1 / 2) :
    |@vecDot ℝ (flScalar fl) e1 e2 - (@dotTerms ℝ fieldScalar e1 e2).sum| ≤
      u * |(@dotTerms ℝ fieldScalar e1 e2).sum| +
        (u + u ^ 2 + 4 * ((@dotTerms ℝ fieldScalar e1 e2).length : ℝ) ^ 2 * u ^ 2 * (1 + u)) *
          ((@dotTerms ℝ fieldScalar e1 e2).map fun p => |p|).sum := by
  exact bound_of_rounded h.u_nonneg (by positivity) (dot_error_bound fl u h e1 e2 hn)
    (sum_map_fl_sub h _) (absSum_map_fl_le h _)

end EtVerif.C09b
