/-
  C14 (heap part) — "A compute that references stored local trust leaves every stored matrix
  exactly as it was … whatever alignment, canonicalisation or discount extraction the compute
  performed."

  Props/C14.lean carries what a pure model can say (a compute returns no new store).  What it
  cannot say is that the IN-PLACE mutations of the working matrix (`Canonicalize`:
  `entries[i].Value /= s`; `ExtractDistrust`: `trustRow[i-k] = entry`; `SetRowVector`: aliasing of
  the pre-trust slice; `SetDim`: reslicing) do not reach the stored matrix through shared memory.
  This file proves it over the explicit heap model of Proofs/Heap.lean:

  1. `heap_refines_pure*`     — every heap operation denotes the pure model's function, so every
                                pure theorem carries over to the heap level;
  2. `pipeline_frame`         — after `deepCopy`, the pipeline leaves every pre-existing cell (hence
                                every stored matrix) unchanged, for every request;
  3. `shallow_copy_witness`   — with a shallow copy it does not: the frame theorem is not vacuous
                                and the deep copy in loadStoredTrustMatrix is what it rests on;
  4. `pretrust_alias_harmless`— rows substituted by the pre-trust vector alias its cell, but that
                                cell is never written.
  All theorems are generic in `{α} [Scalar α]` (they hold for float64 arithmetic as well as for
  exact fields); the witness is at `Rat`.
-/
import EtVerif.Proofs.Heap

namespace EtVerif.C14b
open EtVerif Scalar

variable {α : Type} [Scalar α]

/-! ## 1. The heap operations refine the pure model -/

omit [Scalar α] in
/-- `deepcopy.Copy`: the copy denotes the same matrix, lives in fresh cells (all addresses beyond
    the old heap), its rows share no cell, and nothing that existed is written. -/
theorem heap_refines_pure_deepCopy (h : Heap α) (m : MatRef) :
    (m.InRange h → value (deepCopy h m).1 (deepCopy h m).2 = value h m) ∧
    (deepCopy h m).2.Sep ∧ (deepCopy h m).2.InRange (deepCopy h m).1 ∧
    (∀ a ∈ (deepCopy h m).2.addrs, h.cells.length ≤ a) ∧
    (∀ a < h.cells.length, (deepCopy h m).1.cells[a]? = h.cells[a]?) := by
  have s := deepCopy_spec h m
  exact ⟨s.val, s.nodup, fun a ha => (s.fresh a ha).2, fun a ha => (s.fresh a ha).1,
    fun a ha => s.frame.2 a ha List.not_mem_nil⟩

omit [Scalar α] in
/-- `SetDim` (alignment) only reslices: the heap is returned as it was and the new reference
    denotes `CSM.setDim` of the old value.  No hypothesis. -/
theorem heap_refines_pure_setDim (h : Heap α) (m : MatRef) (rows cols : Nat) :
    (setDimH h m rows cols).1 = h ∧
    value (setDimH h m rows cols).1 (setDimH h m rows cols).2 = (value h m).setDim rows cols :=
  ⟨rfl, value_setDimRef h m rows cols⟩

/-- `ExtractDistrust` (in-place compaction + fresh distrust rows) denotes `extractDistrust`
    (same error, same pair of matrices), provided the references are in range and distinct rows
    of the row table do not share a cell. -/
theorem heap_refines_pure_extractDistrust (h : Heap α) (m : MatRef)
    (hin : m.InRange h) (hsep : m.Sep) :
    (extractDistrustH h m).map (fun x => (value x.1 x.2.1, value x.1 x.2.2)) =
      extractDistrust (value h m) :=
  extractDistrustH_refines h m hin hsep

/-- `CanonicalizeLocalTrust` (in-place division; zero-sum rows replaced by a reference to the
    pre-trust vector's own cell) denotes `canonicalizeLocalTrust`, provided the row table has
    `major` rows, distinct rows share no cell, and no row's cell is the pre-trust vector's. -/
theorem heap_refines_pure_canonicalizeLocalTrust (h : Heap α) (m : MatRef) (p : Option VecRef)
    (hlen : m.rows.length = m.major) (hsep : m.Sep)
    (hp : ∀ pv ∈ p, ∀ a ∈ pv.row.addr?, a ∉ addrsOf m.rows) :
    (canonicalizeLocalTrustH h m p).map (fun x => value x.1 x.2) =
      canonicalizeLocalTrust (value h m) (p.map (vecValue h)) :=
  canonicalizeLocalTrustH_refines h m p hlen hsep hp

/-- The whole working pipeline of `compute` on a deep copy of a stored matrix denotes the pure
    pipeline applied to the stored VALUE: alignment, `extractDistrust`, `canonicalizeLocalTrust`
    with the pre-trust vector, `canonicalizeLocalTrust` of the discounts — same error or same pair
    (local trust, discounts).  Hypotheses: the stored matrix is well formed (`major` rows,
    references in range); the pre-trust vector's cell exists and is not a cell of the copy. -/
theorem heap_refines_pure (h : Heap α) (stored : MatRef) (dims : List Nat) (p : Option VecRef)
    (hlen : stored.rows.length = stored.major) (hin : stored.InRange h)
    (hp : ∀ pv ∈ p, pv.row.InRange (deepCopy h stored).1 ∧
      ∀ a ∈ pv.row.addr?, a ∉ (deepCopy h stored).2.addrs) :
    (pipelineH (deepCopy h stored).1 (deepCopy h stored).2 dims p).2.map
        (fun cd =>
          (value (pipelineH (deepCopy h stored).1 (deepCopy h stored).2 dims p).1 cd.1,
           value (pipelineH (deepCopy h stored).1 (deepCopy h stored).2 dims p).1 cd.2)) =
      pipelinePure (value h stored) dims (p.map (vecValue (deepCopy h stored).1)) := by
  have s := deepCopy_spec h stored
  obtain ⟨dmaj, -, dlen⟩ := deepCopy_dims h stored
  rw [← s.val hin]
  exact pipelineH_refines _ _ dims p (by rw [dlen, dmaj, hlen]) (fun a ha => (s.fresh a ha).2)
    s.nodup hp

/-- special case: a pre-trust vector that was allocated before the copy -/
theorem heap_refines_pure_of_old_pretrust (h : Heap α) (stored : MatRef) (dims : List Nat)
    (p : Option VecRef) (hlen : stored.rows.length = stored.major) (hin : stored.InRange h)
    (hp : ∀ pv ∈ p, pv.row.InRange h) :
    (pipelineH (deepCopy h stored).1 (deepCopy h stored).2 dims p).2.map
        (fun cd =>
          (value (pipelineH (deepCopy h stored).1 (deepCopy h stored).2 dims p).1 cd.1,
           value (pipelineH (deepCopy h stored).1 (deepCopy h stored).2 dims p).1 cd.2)) =
      pipelinePure (value h stored) dims (p.map (vecValue h)) := by
  have s := deepCopy_spec h stored
  rw [← map_vecValue_congr fun pv hpv => s.frame.deref_eq fun a ha =>
    ⟨List.not_mem_nil, .inl (hp pv hpv a ha)⟩]
  exact heap_refines_pure h stored dims p hlen hin fun pv hpv =>
    ⟨(hp pv hpv).mono s.frame.1,
      fun a ha hb => Nat.not_le_of_lt (hp pv hpv a ha) (s.fresh a hb).1⟩

/-! ## 2. The frame property -/

/-- If the working matrix was obtained by `deepCopy h stored`, then after the
    pipeline every cell that existed in `h` is unchanged — for EVERY stored matrix reference (no
    well-formedness needed), every alignment `dims`, every pre-trust reference `p` (absent, in a
    cell of its own, or even aliasing stored memory), negative entries, empty rows, zero-sum rows,
    and also when the pipeline fails half-way.  Hence every matrix whose references lie in `h`
    (in particular every stored matrix) denotes the same value afterwards. -/
theorem pipeline_frame (h : Heap α) (stored : MatRef) (dims : List Nat) (p : Option VecRef) :
    (∀ a < h.cells.length,
      (pipelineH (deepCopy h stored).1 (deepCopy h stored).2 dims p).1.cells[a]? = h.cells[a]?) ∧
    (∀ m : MatRef, m.InRange h →
      value (pipelineH (deepCopy h stored).1 (deepCopy h stored).2 dims p).1 m = value h m) := by
  have s := deepCopy_spec h stored
  -- the pipeline writes cells of the copy only, all of them beyond `h`; the copy wrote none
  refine (fun key => ⟨key, fun m hm => value_of_cells_eq fun a ha => key a (hm a ha)⟩)
    fun a ha => ?_
  rw [(pipelineH_frame _ _ dims p).below s.frame.1 (fun b hb => (s.fresh b hb).1) a ha]
  exact s.frame.2 a ha List.not_mem_nil

/-- the same with Go-style indexing (`h'.cells[a] = h.cells[a]`) -/
theorem pipeline_frame_getElem (h : Heap α) (stored : MatRef) (dims : List Nat) (p : Option VecRef)
    (a : Nat) (ha : a < h.cells.length) :
    ∃ ha' : a < (pipelineH (deepCopy h stored).1 (deepCopy h stored).2 dims p).1.cells.length,
      (pipelineH (deepCopy h stored).1 (deepCopy h stored).2 dims p).1.cells[a] = h.cells[a] := by
  have := (pipeline_frame h stored dims p).1 a ha
  rw [List.getElem?_eq_getElem ha] at this
  obtain ⟨ha', e⟩ := List.getElem?_eq_some_iff.mp this
  exact ⟨ha', e⟩

/-- the stored matrix the compute referenced is exactly as it was -/
theorem stored_unchanged (h : Heap α) (stored : MatRef) (dims : List Nat) (p : Option VecRef)
    (hin : stored.InRange h) :
    value (pipelineH (deepCopy h stored).1 (deepCopy h stored).2 dims p).1 stored = value h stored :=
  (pipeline_frame h stored dims p).2 stored hin

/-- … and so is every other stored matrix (a store is a list of named matrix references) -/
theorem store_unchanged (h : Heap α) (store : List (String × MatRef)) (stored : MatRef)
    (dims : List Nat) (p : Option VecRef) (hin : ∀ e ∈ store, e.2.InRange h) :
    store.map (fun e => (e.1, value (pipelineH (deepCopy h stored).1 (deepCopy h stored).2 dims p).1 e.2))
      = store.map (fun e => (e.1, value h e.2)) := by
  apply List.map_congr_left
  intro e he
  rw [(pipeline_frame h stored dims p).2 e.2 (hin e he)]

/-- the frame in terms of `copyMat`: the `deep` mode is safe -/
theorem pipeline_frame_deep_mode (h : Heap α) (stored : MatRef) (dims : List Nat) (p : Option VecRef)
    (hin : stored.InRange h) :
    value (pipelineH (copyMat .deep h stored).1 (copyMat .deep h stored).2 dims p).1 stored =
      value h stored :=
  stored_unchanged h stored dims p hin

/-! ## 3. The shallow copy is not safe: a witness at `Rat` -/

/-- cell 0: the stored row `[(0,2),(1,2)]`; cell 1: a canonical pre-trust vector -/
def wHeap : Heap Rat := ⟨[[⟨0, 2⟩, ⟨1, 2⟩], [⟨0, 1/2⟩, ⟨1, 1/2⟩]]⟩
/-- a stored 2×2 matrix: row 0 = cell 0, row 1 empty; no negative entry -/
def wStored : MatRef := ⟨2, 2, [.slice 0 2, .nil], []⟩
def wP : VecRef := ⟨2, .slice 1 2⟩

/-- observable content of a matrix value (`Entry` has no decidable equality) -/
def showRows (c : CSM Rat) : List (List (Nat × Rat)) := c.rows.map (·.map fun e => (e.idx, e.val))
def showCells (h : Heap Rat) : List (List (Nat × Rat)) := h.cells.map (·.map fun e => (e.idx, e.val))

/-- with a shallow copy the stored row got canonicalised in place -/
theorem shallow_copy_witness_rows :
    showRows (value (pipelineH (copyMat .shallow wHeap wStored).1
      (copyMat .shallow wHeap wStored).2 [] (some wP)).1 wStored) = [[(0, 1/2), (1, 1/2)], []] ∧
    showRows (value wHeap wStored) = [[(0, 2), (1, 2)], []] := by
  decide +kernel

/-- A well-formed heap, stored matrix (in range, rows separated, no
    negative entries) and request for which the pipeline on a SHALLOW copy changes the value of
    the stored matrix. -/
theorem shallow_copy_witness :
    ∃ (h : Heap Rat) (stored : MatRef) (dims : List Nat) (p : Option VecRef),
      stored.InRange h ∧ stored.Sep ∧ stored.rows.length = stored.major ∧
      (∀ pv ∈ p, pv.row.InRange h ∧ ∀ a ∈ pv.row.addr?, a ∉ stored.addrs) ∧
      (∀ r ∈ (value h stored).rows, ∀ e ∈ r, (0 : Rat) ≤ e.val) ∧
      value (pipelineH (copyMat .shallow h stored).1 (copyMat .shallow h stored).2 dims p).1 stored
        ≠ value h stored := by
  refine ⟨wHeap, wStored, [], some wP, by decide, by decide, by decide, by decide, by decide,
    fun H => ?_⟩
  have h1 := shallow_copy_witness_rows
  rw [H] at h1
  exact absurd (h1.1.symm.trans h1.2) (by decide +kernel)

/-- on the SAME input the deep copy protects the stored matrix (instance of `pipeline_frame`,
    checked here by evaluation) -/
example :
    showRows (value (pipelineH (copyMat .deep wHeap wStored).1
      (copyMat .deep wHeap wStored).2 [] (some wP)).1 wStored) = [[(0, 2), (1, 2)], []] := by
  decide +kernel

/-! ## 4. Aliasing of the pre-trust vector is harmless -/

/-- `CanonicalizeLocalTrust(c, p)` makes every zero-sum row of `c` a
    reference to `p`'s own cell.  The loop canonicalises row `i` BEFORE a possible substitution at
    `i` and visits each index once (`canonLoopH_eq_take`), so — as long as `p`'s cell was not a row
    of `c` to begin with — the cell is never written: it is unchanged and `p` denotes the same
    vector afterwards.  (No other hypothesis: arbitrary dimensions, aliasing among the rows of `c`.) -/
theorem pretrust_alias_harmless (h : Heap α) (m : MatRef) (pv : VecRef)
    (hpa : ∀ a ∈ pv.row.addr?, a ∉ addrsOf m.rows)
    (x : Heap α × MatRef) (hx : canonicalizeLocalTrustH h m (some pv) = .ok x) :
    (∀ a ∈ pv.row.addr?, x.1.cells[a]? = h.cells[a]?) ∧ vecValue x.1 pv = vecValue h pv := by
  have s := canonicalizeLocalTrustH_ok h m (some pv) x hx
  have key : ∀ a ∈ pv.row.addr?, x.1.cells[a]? = h.cells[a]? :=
    fun a ha => s.frame.getElem?_eq (hpa a ha) (s.noAlloc ▸ Nat.lt_or_ge a _)
  exact ⟨key, congrArg (Vec.mk pv.dim) (deref_congr key)⟩

/-- the same through the whole pipeline (extraction, both canonicalisations, any alignment):
    a pre-trust vector living in a cell of its own is never written. -/
theorem pretrust_unchanged_by_pipeline (h : Heap α) (m : MatRef) (dims : List Nat) (pv : VecRef)
    (hin : pv.row.InRange h) (hpa : ∀ a ∈ pv.row.addr?, a ∉ m.addrs) :
    (∀ a ∈ pv.row.addr?, (pipelineH h m dims (some pv)).1.cells[a]? = h.cells[a]?) ∧
    vecValue (pipelineH h m dims (some pv)).1 pv = vecValue h pv := by
  have key : ∀ a ∈ pv.row.addr?, (pipelineH h m dims (some pv)).1.cells[a]? = h.cells[a]? :=
    fun a ha => (pipelineH_frame h m dims (some pv)).2 a (hin a ha) (hpa a ha)
  exact ⟨key, congrArg (Vec.mk pv.dim) (deref_congr key)⟩

/-- non-vacuity: in the witness the zero-sum row 1 really is substituted by a reference to the
    pre-trust cell (address 1), and that cell is unchanged although row 0 was divided in place -/
example :
    (pipelineH wHeap wStored [] (some wP)).2.toOption.map (fun cd => cd.1.rows) =
      some [.slice 0 2, .slice 1 2] ∧
    showCells (pipelineH wHeap wStored [] (some wP)).1 =
      [[(0, 1/2), (1, 1/2)], [(0, 1/2), (1, 1/2)]] := by
  decide +kernel

/-! ## Non-vacuity of the hypotheses, and why they are needed -/

/-- the hypotheses of `heap_refines_pure` hold for the witness input -/
example : wStored.rows.length = wStored.major ∧ wStored.InRange wHeap ∧
    (∀ pv ∈ some wP, pv.row.InRange (deepCopy wHeap wStored).1 ∧
      ∀ a ∈ pv.row.addr?, a ∉ (deepCopy wHeap wStored).2.addrs) := by
  decide

/-- … and of the per-operation refinements -/
example : wStored.InRange wHeap ∧ wStored.Sep ∧ wStored.rows.length = wStored.major ∧
    (∀ a ∈ wP.row.addr?, a ∉ addrsOf wStored.rows) := by decide

/-- a request that aligns (grow to 3, negative entry, zero-sum rows): the deep-copy pipeline
    succeeds, extracts the negative entry into a fresh cell, and the old cells are as before -/
example :
    let h : Heap Rat := ⟨[[⟨0, 3⟩, ⟨1, -1⟩], [⟨0, 1/2⟩, ⟨2, 1/2⟩]]⟩
    let r := pipelineH (deepCopy h wStored).1 (deepCopy h wStored).2 [3] (some ⟨3, .slice 1 2⟩)
    r.2.toOption.map (fun cd => (showRows (value r.1 cd.1), showRows (value r.1 cd.2))) =
      some ([[(0, 1)], [(0, 1/2), (2, 1/2)], [(0, 1/2), (2, 1/2)]], [[(1, 1)], [], []]) ∧
    (showCells r.1).take 2 = showCells h := by
  decide +kernel

/-- why `Sep` is needed in `heap_refines_pure_canonicalizeLocalTrust`: two rows sharing a cell
    (`[(0,2),(1,2)]` and its prefix `[(0,2)]`) — the second in-place division also changes the
    first row, and the heap result differs from the pure one. -/
theorem sep_needed :
    let h : Heap Rat := ⟨[[⟨0, 2⟩, ⟨1, 2⟩]]⟩
    let m : MatRef := ⟨2, 2, [.slice 0 2, .slice 0 1], []⟩
    (canonicalizeLocalTrustH h m none).toOption.map (fun x => showRows (value x.1 x.2)) =
      some [[(0, 1), (1, 1/2)], [(0, 1)]] ∧
    (canonicalizeLocalTrust (value h m) none).toOption.map showRows =
      some [[(0, 1/2), (1, 1/2)], [(0, 1)]] := by
  decide +kernel

end EtVerif.C14b
