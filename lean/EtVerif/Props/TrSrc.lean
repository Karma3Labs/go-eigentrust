/-
  TrSrc — `basic.Compute` translated from the CURRENT SOURCE **together with the convergence checker translated from
  the source** (`Gen.Compute_src`: the second universe of tools/go2lean, where `math.Sqrt`, `math.IsNaN`, `math.IsInf`
  are the uninterpreted parameters `sqrtO`, `nanO`, `infO`) refines the model's `compute`.  No hand-written checker is
  left between the Go text and the model here; what remains assumed is `OracleOK sqrtO nanO infO e`
  (Proofs/TrChecker.lean): on COMPENSATED SUMS OF SQUARES `x` — the only values the checker ever takes a root of —
      (nanO (sqrtO x) || infO (sqrtO x)) = nonFinite x      and      le (sqrtO x) e = sqrtLe x e,
  two facts about IEEE `sqrt` (quantified over every scalar the first would be false of real floats: the root of a
  negative number is NaN although the number is finite), exercised bit for bit by the correspondence run of every
  compute case.  The remaining externs of the translation are `MulVec` (the sequential product; its concurrent
  implementation is the subject of C06/C07) and `sort.Sort`.  Property theorems only.
-/
import EtVerif.Proofs.TrComputeSrc
import EtVerif.Props.C02

namespace EtVerif.TrSrc
open EtVerif EtVerif.GoSem EtVerif.Gen EtVerif.Tr Scalar

section generic
variable {α : Type} [Scalar α]

set_option linter.unusedSectionVars false

/-- **Success.** A model run that ends properly is computed exactly by the translated Go code with the translated checker:
    same vector, no error, the model's flat-tail statistics (the delta under the root).  `_partial`: `fuel < 2^63-1`
    (Go's "unlimited" is `math.MaxInt`), and the fuel also bounds the `SubVec` loop inside `Update`. -/
theorem compute_src_refines_ok_partial (capO : Nat → Int) (fuel : Nat) (sqrtO : α → α) (nanO infO : α → Bool)
    (c : CSM α) (p : Vec α) (a e : α) (hO : OracleOK sqrtO nanO infO e)
    (o : ComputeOpts α) (tRes : Option (Vec α)) (gs : Option (GFlatTailStats α))
    (hres : o.resultDim = tRes.map (·.dim)) (hcols : c.colsInRange = true)
    (hap : (Vec.scale a p).entries ≠ [])
    (r : ComputeResult α) (hr : compute fuel c p a e o = .ok r) (hend : r.endedBy ≠ .outOfFuel)
    (hfuel : c.major + p.entries.length + max (c.major + p.entries.length) (o.t0.getD p).entries.length ≤ fuel)
    (hfuel63 : fuel < 9223372036854775807) :
    (Gen.Compute_src capO fuel sqrtO nanO infO (toGM c) (toGV p) a e (toGOpts o tRes gs)).map
        (fun x => (x.2, x.1.flatTailStats)) = .ok ((toGV r.t, none), toGStatsSrc sqrtO r.stats) :=
  Compute_src_refines_ok_sq_partial capO fuel sqrtO nanO infO c p a e hO o tRes gs hres hcols hap r hr hend hfuel hfuel63

/-- **Refusal.** Whenever the model refuses (validation, non-finite delta) the translated code returns a nil vector and an
    error; it never panics. -/
theorem compute_src_refines_err_partial (capO : Nat → Int) (fuel : Nat) (sqrtO : α → α) (nanO infO : α → Bool)
    (c : CSM α) (p : Vec α) (a e : α) (hO : OracleOK sqrtO nanO infO e)
    (o : ComputeOpts α) (tRes : Option (Vec α)) (gs : Option (GFlatTailStats α))
    (hres : o.resultDim = tRes.map (·.dim)) (hcols : c.colsInRange = true)
    (hap : (Vec.scale a p).entries ≠ [])
    (er : SErr) (hr : compute fuel c p a e o = .error er)
    (hfuel : c.major + p.entries.length + max (c.major + p.entries.length) (o.t0.getD p).entries.length ≤ fuel)
    (hfuel63 : fuel < 9223372036854775807) :
    ∃ st msg, Gen.Compute_src capO fuel sqrtO nanO infO (toGM c) (toGV p) a e (toGOpts o tRes gs) =
      .ok (st, (GVector.zero, some msg)) :=
  Compute_src_refines_err_sq_partial capO fuel sqrtO nanO infO c p a e hO o tRes gs hres hcols hap er hr hfuel hfuel63

/-- Refusal by validation alone: no oracle, no fuel hypothesis. -/
theorem compute_src_refuses_validation (capO : Nat → Int) (fuel : Nat) (sqrtO : α → α) (nanO infO : α → Bool)
    (c : CSM α) (p : Vec α) (a e : α)
    (o : ComputeOpts α) (tRes : Option (Vec α)) (gs : Option (GFlatTailStats α))
    (hres : o.resultDim = tRes.map (·.dim)) (hcols : c.colsInRange = true)
    (h : (∃ er, c.dim = .error er) ∨ ∃ n, c.dim = .ok n ∧ Refusal p a e o n) :
    ∃ st msg, Gen.Compute_src capO fuel sqrtO nanO infO (toGM c) (toGV p) a e (toGOpts o tRes gs) =
      .ok (st, (GVector.zero, some msg)) :=
  Compute_src_refuses_validation capO fuel sqrtO nanO infO c p a e o tRes gs hres hcols h

/-- `OracleOK` follows from the two oracle facts quantified over every scalar: it is the weaker assumption. -/
theorem oracleOK_of_forall {sqrtO : α → α} {nanO infO : α → Bool}
    (hnf : ∀ x : α, (nanO (sqrtO x) || infO (sqrtO x)) = nonFinite x)
    (hsq : ∀ x e : α, Scalar.le (sqrtO x) e = Scalar.sqrtLe x e) (e : α) : OracleOK sqrtO nanO infO e :=
  OracleOK.of_forall hnf hsq e

end generic

section field
variable {K : Type} [Field K] [LinearOrder K] [IsStrictOrderedRing K]

/-- C02 about the translated code with the translated checker: canonical inputs, any parameters, options and
    schedule — whenever the model run ends properly, `Compute_src` returns (no panic, no error) the model's vector,
    which has dimension `n`, strictly increasing indices `< n`, values `≥ 0` and sum exactly 1. -/
theorem go_compute_src_distribution (capO : Nat → Int) (n fuel : Nat) (sqrtO : K → K) (nanO infO : K → Bool)
    (c : CSM K) (p : Vec K) (a e : K) (hO : OracleOK sqrtO nanO infO e)
    (o : ComputeOpts K) (tRes : Option (Vec K)) (gs : Option (GFlatTailStats K))
    (hres : o.resultDim = tRes.map (·.dim)) (hcols : c.colsInRange = true)
    (hap : (Vec.scale a p).entries ≠ [])
    (hc : Canon n c p) (ht0 : ∀ t0, o.t0 = some t0 → Dist n t0.entries)
    (r : ComputeResult K) (hr : compute fuel c p a e o = .ok r) (hend : r.endedBy ≠ .outOfFuel)
    (hfuel : c.major + p.entries.length + max (c.major + p.entries.length) (o.t0.getD p).entries.length ≤ fuel)
    (hfuel63 : fuel < 9223372036854775807) :
    ∃ st, Gen.Compute_src capO fuel sqrtO nanO infO (toGM c) (toGV p) a e (toGOpts o tRes gs) =
        .ok (st, (toGV r.t, none)) ∧ r.t.dim = n ∧ Dist n r.t.entries := by
  obtain ⟨⟨st, out⟩, hx, hout⟩ := map_eq_ok
    (compute_src_refines_ok_partial capO fuel sqrtO nanO infO c p a e hO o tRes gs hres hcols hap r hr hend hfuel hfuel63)
  obtain ⟨rfl, _⟩ := Prod.mk.inj hout
  exact ⟨st, hx, C02.compute_distribution n fuel c p a e o hc ht0 r hr⟩

end field

/-! ### the hypotheses are satisfiable (the theorems above are not vacuous) -/

theorem nonFinite_rat (x : Rat) : nonFinite x = false := by
  unfold nonFinite
  simp only [Scalar.le, Scalar.eq, Scalar.add, Scalar.isZero, Scalar.zero]
  by_cases h : x = 0
  · subst h; simp
  · have : ¬ (x + x = x) := by
      intro hh
      apply h
      have := congrArg (fun y => y - x) hh
      simpa using this
    simp [this]

/-- on the exact instance an (artificial) oracle meets `OracleOK` at every epsilon. -/
example (e : Rat) :
    OracleOK (α := Rat) (fun x => if x ≤ e * e then e else e + 1) (fun _ => false) (fun _ => false) e where
  nf := fun es => by simp [nonFinite_rat]
  sq := fun es => by
    simp only [Scalar.le, Scalar.sqrtLe]
    by_cases h : sqSum es ≤ e * e
    · simp [h]
    · simp [h]

/-- on floats the comparison half holds by definition for the real square root; the finiteness half says that a
    compensated sum of squares is never a negative number, which Lean's opaque `Float` cannot prove and the bit tier
    of the correspondence run checks on every compute case. -/
example (e x : Float) : Scalar.le (Float.sqrt x) e = Scalar.sqrtLe x e := rfl

end EtVerif.TrSrc
