/-
  C20 — Playground result page.

  "the playground's result page lists every peer exactly once, ordered by descending score, with
   scores equal to the reference EigenTrust scores for alpha = confidence/100 (names file
   authoritative for the dimension, otherwise the larger of the two inputs; discounts applied)
   and with exactly the pre-trusted peers flagged. Unusable uploads produce the error page with
   status 400."

  `calculate fuel hundred eps u = some rows` is the result page (`rows` = its table),
  `none` is the error page (HTTP 400).  `hundred` / `eps` are the literals `100.0` / `1e-15`.
  Structural statements hold for every `Scalar α`; only the ordering needs an ordered field.

  Vocabulary (Proofs/FrontendLemmas.lean): `loadNames u` (the optional names file),
  `ArcOf` / `EntOf` / `cooDim` / `entDim` (the library readers, see C19), `alignDims` (the dimension
  rule as executed), `nameOf`, `rowsOf` (the unsorted table).
-/
import EtVerif.Proofs.FrontendLemmas
import Mathlib.Algebra.Order.Field.Rat

namespace EtVerif.C20
open EtVerif EtVerif.Fe EtVerif.FeL Scalar

variable {α : Type} [Scalar α]

set_option linter.unusedSectionVars false

/-- The dimension rule: with a names file the number of names (and both inputs must fit),
    otherwise the larger of the local-trust and pre-trust dimensions (highest index + 1 each). -/
def DimRule (u : Upload α) (names : Option (List String)) (dim : Nat) : Prop :=
  loadNames u = some names ∧
  ∃ coos es, List.Forall₂ (ArcOf names) u.localTrust coos ∧ List.Forall₂ (EntOf names) u.preTrust es ∧
    match names with
    | some ns => dim = ns.length ∧ cooDim coos ≤ ns.length ∧ entDim es ≤ ns.length
    | none => dim = max (cooDim coos) (entDim es)

/-- the stages of a successful `calculate`, with the dimension rule made explicit -/
theorem stages {fuel : Nat} {hundred eps : α} {u : Upload α} {rows : List (Fe.Row α)}
    (h : calculate fuel hundred eps u = some rows) :
    ∃ hp names lt0 pt0 lt1 pt1 c d c' d' res,
      u.hunchPercent = some hp ∧ 0 ≤ hp ∧ hp ≤ 100 ∧ loadNames u = some names ∧
      readLocalTrust names u.localTrust = some lt0 ∧ readTrustVector names u.preTrust = some pt0 ∧
      alignDims names lt0 pt0 = some (lt1, pt1) ∧ extractDistrust lt1 = .ok (c, d) ∧
      canonicalizeLocalTrust c (some (canonicalizeTrustVector pt1)) = .ok c' ∧
      canonicalizeLocalTrust d none = .ok d' ∧
      compute fuel c' (canonicalizeTrustVector pt1) (div (ofNat hp.toNat) hundred) eps (pgOpts (div (ofNat hp.toNat) hundred) eps) = .ok res ∧
      rows = sortByScoreDesc (rowsOf names pt1 (discountTrustVector res.t d')) ∧
      DimRule u names pt1.dim := by
  obtain ⟨hp, names, lt0, pt0, lt1, pt1, c, d, c', d', res, h1, h2, h3, h4, h5, h6, h7, h8, h9,
    h10, h11, h12⟩ := calculate_some h
  refine ⟨hp, names, lt0, pt0, lt1, pt1, c, d, c', d', res, h1, h2, h3, h4, h5, h6, h7, h8, h9,
    h10, h11, h12, h4, ?_⟩
  obtain ⟨coos, hcoos, rfl⟩ := readLocalTrust_some h5
  obtain ⟨es, hes, rfl⟩ := readTrustVector_some h6
  refine ⟨coos, es, hcoos, hes, ?_⟩
  obtain ⟨hm, hl, hp, _⟩ := alignDims_some h7
  cases names with
  | some ns => exact ⟨hm, hm ▸ hl, hm ▸ hp⟩
  | none => exact hm

/-! ### every peer exactly once; the dimension rule -/

/-- The table lists the peers `0 … dim-1`, each exactly once, where `dim` obeys the dimension
    rule (and is positive). -/
theorem rows_each_peer_once {fuel : Nat} {hundred eps : α} {u : Upload α} {rows : List (Fe.Row α)}
    (h : calculate fuel hundred eps u = some rows) :
    ∃ names dim, DimRule u names dim ∧ 0 < dim ∧ (rows.map (·.index)).Perm (List.range dim) := by
  obtain ⟨hp, names, lt0, pt0, lt1, pt1, c, d, c', d', res, _, _, _, _, _, _, _, _, h9, _, h11,
    rfl, hdim⟩ := stages h
  refine ⟨names, pt1.dim, hdim, ?_, ?_⟩
  · obtain ⟨hv, _⟩ := compute_ok_inv _ _ _ _ _ _ _ h11
    have h2 : c'.major ≠ 0 := hv.2.1
    have h3 : (canonicalizeTrustVector pt1).dim = c'.major := hv.2.2.1
    rw [canonTV_dim] at h3
    omega
  · rw [← rowsOf_index names pt1 (discountTrustVector res.t d')]
    exact (sortByScoreDesc_perm _).map _

/-! ### ordered by descending score -/

/-- Over an ordered field the scores are non-increasing along the table. -/
theorem rows_sorted_desc {K : Type} [_root_.Field K] [LinearOrder K] {fuel : Nat}
    {hundred eps : K} {u : Upload K} {rows : List (Fe.Row K)}
    (h : calculate fuel hundred eps u = some rows) :
    rows.Pairwise (fun a b => b.score ≤ a.score) := by
  obtain ⟨_, _, _, _, _, _, _, _, _, _, _, _, _, _, _, _, _, _, _, _, _, _, rfl, _⟩ := stages h
  exact sorted_sortByScoreDesc _

/-! ### the scores are the reference scores -/

/-- Every row carries the score `Compute` + `DiscountTrustVector` give its peer, computed on
    exactly the canonicalised inputs (pre-trust canonicalised — uniform when empty —, distrust
    extracted, local trust canonicalised with the pre-trust substituted for empty rows, discounts
    canonicalised), with `alpha = hunchPercent / 100` and default options; and the peer's name. -/
theorem rows_scores {fuel : Nat} {hundred eps : α} {u : Upload α} {rows : List (Fe.Row α)}
    (h : calculate fuel hundred eps u = some rows) :
    ∃ hp names lt0 pt0 lt1 pt1 c d c' d' res,
      u.hunchPercent = some hp ∧ 0 ≤ hp ∧ hp ≤ 100 ∧ loadNames u = some names ∧
      readLocalTrust names u.localTrust = some lt0 ∧ readTrustVector names u.preTrust = some pt0 ∧
      alignDims names lt0 pt0 = some (lt1, pt1) ∧ extractDistrust lt1 = .ok (c, d) ∧
      canonicalizeLocalTrust c (some (canonicalizeTrustVector pt1)) = .ok c' ∧
      canonicalizeLocalTrust d none = .ok d' ∧
      compute fuel c' (canonicalizeTrustVector pt1) (div (ofNat hp.toNat) hundred) eps (pgOpts (div (ofNat hp.toNat) hundred) eps) = .ok res ∧
      ∀ row ∈ rows, row.index < pt1.dim ∧
        row.score = denE (discountTrustVector res.t d').entries row.index ∧
        row.name = nameOf names row.index := by
  obtain ⟨hp, names, lt0, pt0, lt1, pt1, c, d, c', d', res, h1, h2, h3, h4, h5, h6, h7, h8, h9,
    h10, h11, rfl, _⟩ := stages h
  refine ⟨hp, names, lt0, pt0, lt1, pt1, c, d, c', d', res, h1, h2, h3, h4, h5, h6, h7, h8, h9,
    h10, h11, ?_⟩
  intro row hrow
  obtain ⟨a, b, c, _⟩ := mem_rowsOf ((sortByScoreDesc_perm _).mem_iff.mp hrow)
  exact ⟨a, c, b⟩

/-- The alignment only pads: the aligned inputs have the rule's dimension, the local trust is
    the parsed matrix resized to it and the pre-trust entries are the parsed ones. -/
theorem aligned_inputs {names : Option (List String)} {lt0 lt1 : CSM α} {pt0 pt1 : Vec α}
    (h : alignDims names lt0 pt0 = some (lt1, pt1)) :
    pt1.entries = pt0.entries ∧ lt0.major ≤ pt1.dim ∧ pt0.dim ≤ pt1.dim ∧
      (lt1 = lt0 ∨ lt1 = lt0.setDim pt1.dim pt1.dim) := by
  obtain ⟨_, hl, hp, he, h1, _⟩ := alignDims_some h
  exact ⟨he, hl, hp, h1⟩

/-! ### exactly the pre-trusted peers are flagged -/

/-- A row is flagged iff some pre-trust record names its peer; and every peer named by a
    pre-trust record is below the dimension, so the flag table (`make([]bool, dim)`) is never
    indexed out of range. -/
theorem flags_exact {fuel : Nat} {hundred eps : α} {u : Upload α} {rows : List (Fe.Row α)}
    (h : calculate fuel hundred eps u = some rows) :
    ∃ names dim, DimRule u names dim ∧
      (∀ row ∈ rows, row.index < dim ∧
        (row.flagged = true ↔
          ∃ r ∈ u.preTrust, ∃ f rest, r = f :: rest ∧ parsePeerId names f = some row.index)) ∧
      (∀ r ∈ u.preTrust, ∀ f rest i, r = f :: rest → parsePeerId names f = some i → i < dim) := by
  obtain ⟨hp, names, lt0, pt0, lt1, pt1, c, d, c', d', res, _, _, _, _, _, h6, h7, _, _, _, _,
    rfl, hdim⟩ := stages h
  obtain ⟨es, hes, rfl⟩ := readTrustVector_some h6
  obtain ⟨hent, _, hle, _⟩ := aligned_inputs h7
  have hmem : ∀ i, (∃ e ∈ pt1.entries, e.idx = i) ↔
      ∃ r ∈ u.preTrust, ∃ f rest, r = f :: rest ∧ parsePeerId names f = some i := by
    intro i
    rw [hent]
    constructor
    · rintro ⟨e, he, rfl⟩
      have he' : e ∈ es := (sortByIdx_perm es).mem_iff.mp he
      obtain ⟨r, hr, f0, rest, hreq, hp0, _⟩ := forall₂_mem_right hes he'
      exact ⟨r, hr, f0, rest, hreq, hp0⟩
    · rintro ⟨r, hr, f, rest, rfl, hp0⟩
      obtain ⟨e, he, f0, rest', hreq, hp0', _⟩ := forall₂_mem_left hes hr
      simp only [List.cons.injEq] at hreq
      obtain ⟨rfl, rfl⟩ := hreq
      rw [hp0] at hp0'
      exact ⟨e, (sortByIdx_perm es).mem_iff.mpr he, (Option.some.inj hp0').symm⟩
  refine ⟨names, pt1.dim, hdim, ?_, ?_⟩
  · intro row hrow
    obtain ⟨a, _, _, hf⟩ := mem_rowsOf ((sortByScoreDesc_perm _).mem_iff.mp hrow)
    refine ⟨a, ?_⟩
    rw [hf, ← hmem]
    simp only [List.any_eq_true, beq_iff_eq]
  · intro r hr f rest i hreq hp0
    obtain ⟨e, he, rfl⟩ := (hmem i).mpr ⟨r, hr, f, rest, hreq, hp0⟩
    rw [hent] at he
    have := lt_entDim ((sortByIdx_perm es).mem_iff.mp he)
    simp only [Vec.new] at hle
    omega

/-! ### unusable uploads give the error page (400) -/

/-- `hunchPercent` missing or not an integer, or outside `0..100`; a names file with an empty
    record or a duplicate name; a malformed local-trust or pre-trust record; local trust or
    pre-trust larger than the names list: each produces the error page. -/
theorem unusable_is_400 (fuel : Nat) (hundred eps : α) (u : Upload α)
    (h : u.hunchPercent = none ∨
      (∃ hp, u.hunchPercent = some hp ∧ (hp < 0 ∨ 100 < hp)) ∨
      (∃ recs, u.names = some recs ∧ readPeerNames recs [] = none) ∨
      (∃ names, loadNames u = some names ∧
        (readLocalTrust names u.localTrust = none ∨ readTrustVector names u.preTrust = none ∨
          ∃ ns lt0 pt0, names = some ns ∧ readLocalTrust names u.localTrust = some lt0 ∧
            readTrustVector names u.preTrust = some pt0 ∧
            (ns.length < lt0.major ∨ ns.length < pt0.dim)))) :
    calculate fuel hundred eps u = none := by
  cases hc : calculate fuel hundred eps u with
  | none => rfl
  | some rows =>
    exfalso
    obtain ⟨hp, names, lt0, pt0, lt1, pt1, c, d, c', d', res, h1, h2, h3, h4, h5, h6, h7, _⟩ :=
      calculate_some hc
    rcases h with h | ⟨hp', h, hr⟩ | ⟨recs, hn, hr⟩ | ⟨names', hn, hr⟩
    · rw [h] at h1; cases h1
    · rw [h] at h1; cases h1; omega
    · unfold loadNames at h4
      rw [hn] at h4
      simp only at h4
      rw [hr] at h4
      cases h4
    · rw [hn] at h4
      cases h4
      rcases hr with hr | hr | ⟨ns, lt0', pt0', rfl, hl, hp0, hbig⟩
      · rw [hr] at h5; cases h5
      · rw [hr] at h6; cases h6
      · rw [hl] at h5
        rw [hp0] at h6
        cases h5
        cases h6
        obtain ⟨hm, hl, hp, _⟩ := alignDims_some h7
        simp only at hm
        omega

/-- the reasons of `unusable_is_400`, phrased on the uploaded records (C19 characterises the
    reader errors): a bad names / local-trust / pre-trust record -/
theorem unusable_records (fuel : Nat) (hundred eps : α) (u : Upload α)
    (h : (∃ recs, u.names = some recs ∧ ((∃ r ∈ recs, r = []) ∨ ¬ (recs.map firstName).Nodup)) ∨
      (∃ names, loadNames u = some names ∧
        ((∃ r ∈ u.localTrust, ltParse names r = none) ∨ ∃ r ∈ u.preTrust, tvParse names r = none))) :
    calculate fuel hundred eps u = none := by
  apply unusable_is_400
  rcases h with ⟨recs, hn, hbad⟩ | ⟨names, hn, hbad⟩
  · refine Or.inr (Or.inr (Or.inl ⟨recs, hn, ?_⟩))
    cases hr : readPeerNames recs [] with
    | none => rfl
    | some ns =>
      exfalso
      obtain ⟨h1, h2, h3, _⟩ := (readPeerNames_acc recs [] ns).mp hr
      rcases hbad with ⟨r, hr', rfl⟩ | hnd
      · exact h1 _ hr' rfl
      · exact hnd h3
  · refine Or.inr (Or.inr (Or.inr ⟨names, hn, ?_⟩))
    rcases hbad with hb | hb
    · left
      rw [readLocalTrust_eq, Option.map_eq_none_iff]
      exact (mapM_eq_none_iff _ _).mpr hb
    · right; left
      rw [readTrustVector_eq, Option.map_eq_none_iff]
      exact (mapM_eq_none_iff _ _).mpr hb

/-! ### non-vacuity: a concrete upload at `ℚ`

`ℚ` carries two `Scalar` instances: the executable `ratScalar` (evaluated here by the kernel) and
the proof instance `fieldScalar`; they are equal (`rat_eq_field`), so the runs transfer. -/

section examples

theorem rat_eq_field : (ratScalar : Scalar ℚ) = fieldScalar := by
  unfold ratScalar fieldScalar
  congr 1
  · funext x
    unfold ratAbs
    split
    · rename_i h; exact (abs_of_neg h).symm
    · rename_i h; exact (abs_of_nonneg (not_lt.mp h)).symm

attribute [local instance 10000] ratScalar

private def fld (s : String) (a : Option Int := none) (x : Option ℚ := none) : Fe.Field ℚ :=
  ⟨s, a, a, x⟩

/-- names alice,bob,carol,dave; alice→bob 1, bob→carol 1 (default), carol→alice 2, carol→bob -1
    (distrust); pre-trust alice; confidence 50 % -/
private def up : Upload ℚ :=
  { names := some [[fld "alice"], [fld "bob"], [fld "carol"], [fld "dave"]]
    localTrust := [[fld "alice", fld "bob", fld "1" (some 1) (some 1)],
                   [fld "bob", fld "carol"],
                   [fld "carol", fld "alice", fld "2" (some 2) (some 2)],
                   [fld "carol", fld "bob", fld "-1" (some (-1)) (some (-1))]]
    preTrust := [[fld "alice"]]
    hunchPercent := some 50 }

private def view (r : Option (List (Fe.Row ℚ))) : Option (List (Nat × String × Bool)) :=
  r.map fun rows => rows.map fun x => (x.index, x.name, x.flagged)
private def viewS (r : Option (List (Fe.Row ℚ))) : Option (List (Nat × ℚ)) :=
  r.map fun rows => rows.map fun x => (x.index, x.score)

/-- the result page of `up` with all four columns, evaluated once -/
private theorem up_page : (calculate 200 100 (1/1000) up).map
      (fun rows => rows.map fun x => (x.index, x.name, x.score, x.flagged)) =
    some [(0, "alice", 585/1024, true), (2, "carol", 293/2048, false), (1, "bob", 73/512, false),
      (3, "dave", 0, false)] := by
  decide +kernel

/-- a result page: four rows (dave is only in the names file), alice flagged, descending scores -/
example : view (calculate 200 100 (1/1000) up) =
    some [(0, "alice", true), (2, "carol", false), (1, "bob", false), (3, "dave", false)] := by
  obtain ⟨rows, h, hr⟩ := Option.map_eq_some_iff.mp up_page
  have hv := congrArg (List.map fun t => (t.1, t.2.1, t.2.2.2)) hr
  rw [List.map_map] at hv
  rw [h]
  exact congrArg some hv
example : viewS (calculate 200 100 (1/1000) up) =
    some [(0, 585/1024), (2, 293/2048), (1, 73/512), (3, 0)] := by
  obtain ⟨rows, h, hr⟩ := Option.map_eq_some_iff.mp up_page
  have hv := congrArg (List.map fun t => (t.1, t.2.2.1)) hr
  rw [List.map_map] at hv
  rw [h]
  exact congrArg some hv

/-- hence the hypotheses of the theorems above are satisfiable, also at the proof instance -/
example : ∃ rows, @calculate ℚ fieldScalar 200 100 (1/1000) up = some rows := by
  rw [← rat_eq_field]
  obtain ⟨rows, h, _⟩ := Option.map_eq_some_iff.mp up_page
  exact ⟨rows, h⟩

/-- without a names file the dimension is the larger input: pre-trust names peer 4 -/
example : (view (calculate 200 100 (1/1000)
      { up with names := none
                localTrust := [[fld "0" (some 0), fld "1" (some 1)], [fld "1" (some 1), fld "0" (some 0)]]
                preTrust := [[fld "4" (some 4)]] })).map (fun l => l.map (·.1)) =
    some [4, 3, 2, 1, 0] := by
  decide +kernel

/-- error pages -/
example : calculate 200 100 (1/1000) { up with hunchPercent := none } = none := by decide +kernel
example : calculate 200 100 (1/1000) { up with hunchPercent := some 101 } = none := by decide +kernel
example : calculate 200 100 (1/1000) { up with names := some [[fld "alice"], [fld "alice"]] } = none := by
  decide +kernel
example : calculate 200 100 (1/1000) { up with names := some [[fld "alice"], [fld "bob"]] } = none := by
  decide +kernel
example : calculate 200 100 (1/1000) { up with preTrust := [[fld "eve"]] } = none := by
  decide +kernel

end examples

end EtVerif.C20
